/- C11: the parser on well-formed wire input — field extraction inverts the wire encoding of a field; the loop state and the
   pieces of `doParsing` that do not depend on the dictionaries -/
import Qfx.Lemmas.Codec
namespace Qfx

theorem indexByte_eq_findIdx? (l : Bytes) (c : Nat) : indexByte l c = l.findIdx? (· == c) := by
  induction l with
  | nil => rfl
  | cons x r ih => rw [indexByte, List.findIdx?_cons, ih]; by_cases h : x = c <;> simp [h]

theorem indexByte_append_first (a b : Bytes) (c : Nat) (h : ∀ x ∈ a, x ≠ c) : indexByte (a ++ c :: b) c = some a.length := by
  rw [indexByte_eq_findIdx?, List.findIdx?_append, List.findIdx?_eq_none_iff.2 (by simpa using h)]
  simp [List.findIdx?_cons]

theorem indexByte_spec (l : Bytes) (c s : Nat) (h : indexByte l c = some s) :
    l[s]? = some c ∧ ∀ j, j < s → l[j]? ≠ some c := by
  rw [indexByte_eq_findIdx?, List.findIdx?_eq_some_iff_getElem] at h
  obtain ⟨hs, h1, h2⟩ := h
  refine ⟨by rw [List.getElem?_eq_getElem hs, eq_of_beq h1], fun j hj e => h2 j hj ?_⟩
  rw [List.getElem?_eq_getElem (Nat.lt_trans hj hs)] at e
  rw [Option.some.inj e]; exact BEq.rfl

theorem findSep_first (raw : Bytes) (s : Nat) (h : indexByte raw cEq = some s) (hs : 1 ≤ s) : findSep raw = .ok s := by
  obtain ⟨hat, hbefore⟩ := indexByte_spec raw cEq s h
  unfold findSep
  by_cases h5 : raw.length ≥ 5
  · simp only [h5, if_true]
    by_cases s1 : s = 1
    · subst s1; simp [hat]
    · have n1 : raw[1]? ≠ some cEq := hbefore 1 (by omega)
      by_cases s2 : s = 2
      · subst s2; simp [hat, n1]
      · have n2 : raw[2]? ≠ some cEq := hbefore 2 (by omega)
        by_cases s3 : s = 3
        · subst s3; simp [hat, n1, n2]
        · have n3 : raw[3]? ≠ some cEq := hbefore 3 (by omega)
          by_cases s4 : s = 4
          · subst s4; simp [hat, n1, n2, n3]
          · have n4 : raw[4]? ≠ some cEq := hbefore 4 (by omega)
            simp only [n1, n2, n3, n4, if_false, h]
            cases s with
            | zero => omega
            | succ k => rfl
  · simp only [h5, if_false, h]
    cases s with
    | zero => omega
    | succ k => rfl

/-- `tv` as it appears on the wire: `<tagText>=<value>␁`, the tag text free of `=` and SOH and read by `atoi` as the tag,
    the value free of SOH -/
def IsWire (tv : TagValue) : Prop :=
  ∃ tt : Bytes, tt ≠ [] ∧ (∀ c ∈ tt, c ≠ cEq ∧ c ≠ SOH) ∧ atoi tt = .ok tv.tag ∧
    tv.bytes = tt ++ cEq :: (tv.value ++ [SOH]) ∧ ∀ c ∈ tv.value, c ≠ SOH

/-- the layout of a field `tt=v␁`, whatever bytes `v` holds: where its `=` is, and that the slices `parse` takes are `tt` and `v` -/
theorem field_layout (tt v : Bytes) (hne : tt ≠ []) (htt : ∀ c ∈ tt, c ≠ cEq ∧ c ≠ SOH) :
    indexByte (tt ++ cEq :: (v ++ [SOH])) cEq = some tt.length ∧
    (tt ++ cEq :: (v ++ [SOH])).length = tt.length + v.length + 2 ∧
    (tt ++ cEq :: (v ++ [SOH])).take tt.length = tt ∧
    ((tt ++ cEq :: (v ++ [SOH])).take (tt.length + v.length + 1)).drop (tt.length + 1) = v ∧
    1 ≤ tt.length := by
  refine ⟨indexByte_append_first tt _ cEq (fun x hx => (htt x hx).1), by simp; omega, by simp, ?_, ?_⟩
  · have e1 : tt ++ cEq :: (v ++ [SOH]) = (tt ++ [cEq]) ++ (v ++ [SOH]) := by simp
    have e2 : tt.length + v.length + 1 = (tt ++ [cEq]).length + v.length := by simp; omega
    have e3 : tt.length + 1 = (tt ++ [cEq]).length := by simp
    rw [e1, e2, e3, List.take_append, List.drop_append]
    simp
  · cases tt with
    | nil => exact absurd rfl hne
    | cons a r => simp

/-- a wire field (no SOH inside the value), followed by anything: its SOH is the first one -/
theorem wire_layout (tt v : Bytes) (hne : tt ≠ []) (htt : ∀ c ∈ tt, c ≠ cEq ∧ c ≠ SOH) (hv : ∀ c ∈ v, c ≠ SOH) (rest : Bytes) :
    indexByte ((tt ++ cEq :: (v ++ [SOH])) ++ rest) SOH = some (tt.length + v.length + 1) ∧
    indexByte (tt ++ cEq :: (v ++ [SOH])) cEq = some tt.length ∧
    (tt ++ cEq :: (v ++ [SOH])).length = tt.length + v.length + 2 ∧
    (tt ++ cEq :: (v ++ [SOH])).take tt.length = tt ∧
    ((tt ++ cEq :: (v ++ [SOH])).take (tt.length + v.length + 1)).drop (tt.length + 1) = v ∧
    1 ≤ tt.length := by
  refine ⟨?_, field_layout tt v hne htt⟩
  have e : (tt ++ cEq :: (v ++ [SOH])) ++ rest = (tt ++ cEq :: v) ++ SOH :: rest := by simp
  rw [e, indexByte_append_first]
  · simp; omega
  · intro x hx
    simp only [List.mem_append, List.mem_cons] at hx
    rcases hx with hx | hx | hx
    · exact (htt x hx).2
    · subst hx; decide
    · exact hv x hx

/-- `parse` inverts the wire form of a field; it never looks for SOH, so the value may hold any bytes -/
theorem parse_field (tv : TagValue) (tt : Bytes) (hne : tt ≠ []) (hchars : ∀ c ∈ tt, c ≠ cEq ∧ c ≠ SOH) (hatoi : atoi tt = .ok tv.tag)
    (hbytes : tv.bytes = tt ++ cEq :: (tv.value ++ [SOH])) : TagValue.parse tv.bytes = .ok tv := by
  obtain ⟨hidx, hlen, htake, hval', hpos⟩ := field_layout tt tv.value hne hchars
  rw [← hbytes] at hidx hlen htake hval'
  have e1 : tv.bytes.length - 1 = tt.length + tv.value.length + 1 := by omega
  unfold TagValue.parse
  rw [findSep_first tv.bytes tt.length hidx hpos]
  have c1 : 0 ≤ tt.length ∧ tt.length ≤ tv.bytes.length := ⟨by omega, by omega⟩
  have c2 : tt.length + 1 ≤ tt.length + tv.value.length + 1 ∧ tt.length + tv.value.length + 1 ≤ tv.bytes.length := ⟨by omega, by omega⟩
  simp only [sliceR, e1, c1, c2, and_self, if_true, List.drop_zero, htake, hatoi, hval']

theorem parse_wire (tv : TagValue) (h : IsWire tv) : TagValue.parse tv.bytes = .ok tv := by
  obtain ⟨tt, hne, hchars, hatoi, hbytes, _⟩ := h
  exact parse_field tv tt hne hchars hatoi hbytes

theorem extractField_wire (tv : TagValue) (rest : Bytes) (h : IsWire tv) : extractField (tv.bytes ++ rest) = (rest, .ok tv) := by
  have hp := parse_wire tv h
  obtain ⟨tt, hne, hchars, _, hbytes, hval⟩ := h
  obtain ⟨hsoh, _, hlen, _, _, _⟩ := wire_layout tt tv.value hne hchars hval rest
  rw [← hbytes] at hsoh hlen
  unfold extractField
  rw [hsoh]
  have e1 : tt.length + tv.value.length + 1 + 1 = tv.bytes.length := by omega
  have c : 0 ≤ tv.bytes.length ∧ tv.bytes.length ≤ (tv.bytes ++ rest).length := ⟨by omega, by simp⟩
  simp [sliceR, e1, c, hp]

/-- `plain…` names describe the main loop on plain fields, those that start no repeating group (without dictionaries: all).
    `plainTail`: the statements behind the `switch` for a field that is neither CheckSum nor XMLDataLen -/
def plainTail (c : PCore) : PCore := if c.foundBody then c else { c with bodyBytes := c.rawBytes }

theorem tailStep_nd (flds : List TagValue) (tv : TagValue) (c : PCore) (h10 : tv.tag ≠ 10) (h212 : tv.tag ≠ 212) :
    tailStep flds tv c = .ok (plainTail c, false) := by
  unfold tailStep plainTail
  simp only [h10, h212, if_false]

theorem tailStep_10 (flds : List TagValue) (tv : TagValue) (c : PCore) (h10 : tv.tag = 10) :
    tailStep flds tv c = .ok (c, true) := by
  unfold tailStep; simp [h10]

def wireOf (tvs : List TagValue) : Bytes := tvs.flatMap (·.bytes)

theorem wireOf_cons (tv : TagValue) (r : List TagValue) : wireOf (tv :: r) = tv.bytes ++ wireOf r := by simp [wireOf]

theorem wireOf_append (a b : List TagValue) : wireOf (a ++ b) = wireOf a ++ wireOf b := by simp [wireOf]

theorem extractField_wireOf (tv : TagValue) (r : List TagValue) (tail : Bytes) (h : IsWire tv) :
    extractField (wireOf (tv :: r) ++ tail) = (wireOf r ++ tail, .ok tv) := by
  rw [wireOf_cons, List.append_assoc]; exact extractField_wire tv _ h

/-- the field array after the loop has stored `l` from index `idx` on -/
def setRange (fields : List TagValue) : Nat → List TagValue → List TagValue
  | _, [] => fields
  | idx, tv :: r => setRange (fields.set idx tv) (idx + 1) r

theorem plainTail_raw (c : PCore) :
    (plainTail c).rawBytes = c.rawBytes ∧ (plainTail c).xmlDataLen = c.xmlDataLen ∧ (plainTail c).xmlDataMsg = c.xmlDataMsg ∧
    (plainTail c).header = c.header ∧ (plainTail c).body = c.body ∧ (plainTail c).trailer = c.trailer := by
  unfold plainTail; split <;> exact ⟨rfl, rfl, rfl, rfl, rfl, rfl⟩

theorem setRange_length (fields : List TagValue) (idx : Nat) (l : List TagValue) : (setRange fields idx l).length = fields.length := by
  induction l generalizing fields idx with
  | nil => rfl
  | cons tv r ih => simp [setRange, ih]

theorem countByte_append (a b : Bytes) (c : Nat) : countByte (a ++ b) c = countByte a c + countByte b c := by
  simp [countByte, List.filter_append]

theorem countByte_none (a : Bytes) (c : Nat) (h : ∀ x ∈ a, x ≠ c) : countByte a c = 0 := by
  simp only [countByte, List.length_eq_zero_iff, List.filter_eq_nil_iff]
  intro x hx; simpa using h x hx

/-- the SOH bytes of a field `tt=v␁` are those of its value and the closing one -/
theorem countByte_field (tt v : Bytes) (htt : ∀ c ∈ tt, c ≠ cEq ∧ c ≠ SOH) :
    countByte (tt ++ cEq :: (v ++ [SOH])) SOH = countByte v SOH + 1 := by
  rw [show tt ++ cEq :: (v ++ [SOH]) = tt ++ ([cEq] ++ (v ++ [SOH])) from rfl, countByte_append, countByte_append, countByte_append,
    countByte_none tt SOH (fun x hx => (htt x hx).2)]
  have : countByte [cEq] SOH = 0 ∧ countByte [SOH] SOH = 1 := by decide
  omega

theorem countByte_wire (tv : TagValue) (h : IsWire tv) : countByte tv.bytes SOH = 1 := by
  obtain ⟨tt, _, hchars, _, hbytes, hval⟩ := h
  rw [hbytes, countByte_field tt _ hchars, countByte_none tv.value SOH hval]

theorem countByte_wireOf (tvs : List TagValue) (h : ∀ tv ∈ tvs, IsWire tv) : countByte (wireOf tvs) SOH = tvs.length := by
  induction tvs with
  | nil => rfl
  | cons tv r ih =>
    rw [wireOf_cons, countByte_append, countByte_wire tv (h tv (by simp)), ih (fun x hx => h x (by simp [hx]))]
    simp; omega

/-- writing `l` behind `a` into an array of `a`, `l.length` and `k` further entries -/
theorem setRange_replicate_add (z : TagValue) (k : Nat) : ∀ (l a : List TagValue),
    setRange (a ++ List.replicate (l.length + k) z) a.length l = a ++ l ++ List.replicate k z := by
  intro l
  induction l with
  | nil => intro a; simp [setRange]
  | cons tv r ih =>
    intro a
    have e : (a ++ List.replicate ((tv :: r).length + k) z).set a.length tv = (a ++ [tv]) ++ List.replicate (r.length + k) z := by
      have : (tv :: r).length + k = (r.length + k) + 1 := by simp; omega
      rw [this]; simp [List.replicate_succ, List.set_append_right]
    simp only [setRange, e]
    have := ih (a ++ [tv])
    simp only [List.length_append, List.length_singleton] at this
    rw [this]; simp

theorem setRange_replicate (z : TagValue) (l a : List TagValue) : setRange (a ++ List.replicate l.length z) a.length l = a ++ l := by
  simpa using setRange_replicate_add z 0 l a

theorem finishAdjust_keeps (c : PCore) : (finishAdjust c).header = c.header ∧ (finishAdjust c).xmlDataMsg = c.xmlDataMsg ∧
    (finishAdjust c).body = c.body ∧ (finishAdjust c).trailer = c.trailer := by
  unfold finishAdjust; simp only []; split <;> split <;> exact ⟨rfl, rfl, rfl, rfl⟩

/-- behind a body, `finishAdjust` cuts the trailer bytes off the end of `bodyBytes` -/
theorem finishAdjust_bodyBytes (c : PCore) (X : Bytes) (hfb : c.foundBody = true) (hX : X ≠ []) (hb : c.bodyBytes = X ++ c.trailerBytes) :
    (finishAdjust c).bodyBytes = X := by
  have hl := List.length_pos_iff.2 hX
  simp [finishAdjust, hfb, hb, hl]

theorem extractSpecific_ok (fx : Fixes) (t : Tag) (fields : List TagValue) (idx : Nat) (raw rem : Bytes) (hd : FieldMap) (tv : TagValue)
    (hidx : idx < fields.length) (hex : extractField raw = (rem, .ok tv)) (ht : tv.tag = t) :
    extractSpecific fx t fields idx raw hd = .ok (fields.set idx tv, rem, hd.add tv.tag (.view idx 1)) := by
  unfold extractSpecific
  simp [hidx, hex, ht]

/-- a well-formed wire message: 8, 9, 35 first, then fields that are neither 9, 10 nor 212, then 10 -/
structure WireMsg (t8 t9 t35 : TagValue) (pre : List TagValue) (t10 : TagValue) : Prop where
  w8 : IsWire t8
  w9 : IsWire t9
  w35 : IsWire t35
  wpre : ∀ tv ∈ pre, IsWire tv ∧ tv.tag ≠ 10 ∧ tv.tag ≠ 212
  w10 : IsWire t10
  tag8 : t8.tag = 8
  tag9 : t9.tag = 9
  tag35 : t35.tag = 35
  tag10 : t10.tag = 10
  single9 : ∀ tv ∈ pre, tv.tag ≠ 9

def PCore.sec (c : PCore) : Sec → FieldMap
  | .h => c.header | .b => c.body | .t => c.trailer

theorem isTrailerField_ten (d : Dicts) : isTrailerField d 10 = true := by
  simp [isTrailerField, Tag.isTrailer, staticTrailerTags]

/-- the section of a tag without dictionaries (`IsHeader` / `IsTrailer` of tag.go) -/
def secND (t : Tag) : Sec := if t.isHeader then .h else if t.isTrailer then .t else .b

theorem plainTail_sec (c : PCore) (s : Sec) : (plainTail c).sec s = c.sec s := by
  cases s
  · exact (plainTail_raw c).2.2.2.1
  · exact (plainTail_raw c).2.2.2.2.1
  · exact (plainTail_raw c).2.2.2.2.2

/-- an addition under one tag leaves the lookups under the others alone -/
theorem FieldMap.find_add_other (fm : FieldMap) (t : Tag) (f : Field) {k : Tag} (h : t ≠ k) :
    alFind (fm.add t f).lookup k = alFind fm.lookup k :=
  alFind_insert_other _ _ _ _ h.symm

/-- the loop state before the main loop: the three leading fields are in the header -/
def plainInit (t8 t9 t35 : TagValue) (raw : Bytes) : PCore :=
  { header := (((FieldMap.empty OrdKind.header).add t8.tag (Field.view 0 1)).add t9.tag (Field.view 1 1)).add t35.tag (Field.view 2 1),
    body := FieldMap.empty OrdKind.normal, trailer := FieldMap.empty OrdKind.trailer, bodyBytes := [],
    rawBytes := raw, trailerBytes := [], foundBody := false, foundTrailer := false, xmlDataLen := 0, xmlDataMsg := false }

theorem getBytes_view (fm : FieldMap) (arr : List TagValue) (k : Tag) (j : Nat) (tv : TagValue)
    (hfind : alFind fm.lookup k = some (.view j 1)) (hj : arr[j]? = some tv) : fm.getBytes arr k = .ok tv.value := by
  have : ((arr.drop j).take 1)[0]? = some tv := by
    rw [List.getElem?_take]; simp [hj]
  simp [FieldMap.getBytes, hfind, Field.head, Field.items, idxR, this]

theorem withRaw_sec (c : PCore) (r : Bytes) (s : Sec) : ({ c with rawBytes := r } : PCore).sec s = c.sec s := by
  cases s <;> rfl

end Qfx
