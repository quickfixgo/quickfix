/-
  C08, the handlers: what a handler result `(session, next state)` guarantees (`H8`); the handlers of the logged-on states and
  of the logout state through their summary in SessEffects; the Logon handler up to the logon notification; the logon state and
  the outcome `T8` of every state's message, timeout and stop handler.  Throughout, the hypothesis
  `(s.st.loggedOn || s.st.isLogout) = true` says: the logon notification has been given on this connection, the logout
  notification not yet.
-/
import Qfx.Lemmas.SessC08Inv
import Qfx.Lemmas.SessEffects
namespace Qfx.Sess
open Qfx

/-- from the logout state every connected outcome is the logout state again -/
def eff (cur nx : SState) : SState := if cur.isLogout then .logout else nx

/-- what a handler `(session, next state)` guarantees: if the next state is connected both invariants hold with
    the next state in place; if not, the weak invariant holds with the old state still in place (the disconnect is
    `setState`'s business) -/
structure H8 (g0 : G8) (s : Sess) (r : Sess × SState) : Prop where
  fr : Fr s r.1
  nst : r.2.sessionTime = true
  w : WK g0 s → if r.2.connected then WK g0 (r.1.setSt (eff s.st r.2)) else WK g0 r.1
  st : SK g0 s → if r.2.connected then SK g0 (r.1.setSt (eff s.st r.2)) else WK g0 r.1

theorem g8Of_setSt (g0 : G8) (s : Sess) (st : SState) : g8Of g0 (s.setSt st) = g8Of g0 s := rfl

/-- same class: the invariants cannot tell the two states apart -/
def SameCls (a b : SState) : Prop := a.loggedOn = b.loggedOn ∧ a.isLogon = b.isLogon ∧ a.isLogout = b.isLogout

theorem SameCls.refl (a : SState) : SameCls a a := ⟨rfl, rfl, rfl⟩
theorem SameCls.of_loggedOn {a b : SState} (ha : a.loggedOn = true) (hb : b.loggedOn = true) : SameCls a b :=
  ⟨ha.trans hb.symm, (SState.loggedOn_not_logon _ ha).trans (SState.loggedOn_not_logon _ hb).symm,
   (SState.loggedOn_not_logout _ ha).trans (SState.loggedOn_not_logout _ hb).symm⟩

theorem W.setSt {g : G8} {s : Sess} {st : SState} (h : W g s) (hc : SameCls st s.st) : W g (s.setSt st) :=
  h.congr hc.1 hc.2.1 hc.2.2 rfl rfl rfl
theorem S.setSt {g : G8} {s : Sess} {st : SState} (h : S g s) (hc : SameCls st s.st) : S g (s.setSt st) :=
  h.congr hc.1 hc.2.1 hc.2.2 rfl rfl rfl
theorem eff_sameCls (cur nx : SState) (hn : (cur.loggedOn || cur.isLogout) = true) (hnx : nx.loggedOn = true) :
    SameCls (eff cur nx) cur := by
  unfold eff
  cases hlo : cur.isLogout
  · have hl : cur.loggedOn = true := by rw [hlo] at hn; simpa using hn
    simp only [Bool.false_eq_true, if_false]
    exact SameCls.of_loggedOn hnx hl
  · simp only [if_true]
    exact ⟨(SState.logout_not_loggedOn _ hlo).symm, (SState.logout_not_logon _ hlo).symm, hlo.symm⟩

theorem H8.same {g0 : G8} {s x : Sess} {nx : SState} (hn : (s.st.loggedOn || s.st.isLogout) = true) (hnx : nx.loggedOn = true)
    (h : P true g0 s x) : H8 g0 s (x, nx) := by
  have hc : nx.connected = true := by rw [SState.connected_eq, hnx]; rfl
  have hcls : SameCls (eff s.st nx) x.st := by rw [h.fr.st]; exact eff_sameCls s.st nx hn hnx
  refine ⟨h.fr, (by cases nx <;> first | rfl | cases hnx), fun hW => ?_, fun hS => ?_⟩
  · simp only [hc, if_true]
    exact (h.w hW).setSt hcls
  · simp only [hc, if_true]
    exact (h.st rfl hS).setSt hcls

theorem notif_not_logon {st : SState} (hn : (st.loggedOn || st.isLogout) = true) : st.isLogon = false := by
  cases hl : st.isLogon
  · rfl
  · rw [SState.logon_not_loggedOn _ hl, SState.logon_not_logout _ hl] at hn; cases hn

theorem eff_logout (cur : SState) : eff cur .logout = .logout := ite_self _

/-- once the logon notification has been given, the weak invariant survives the move to the logout state: `cb` and
    `notif` read the same, and the clauses about the Logon and logged-on states no longer apply -/
theorem W.toLogout {g : G8} {x : Sess} (hW : W g x) (hn : (x.st.loggedOn || x.st.isLogout) = true) : W g (x.setSt .logout) :=
  { ok := hW.ok, conn := hW.conn, cb := hW.cb.trans hn, hs := hW.hs,
    notif := fun _ => hW.notif (by rw [Bool.or_right_comm, hn]; rfl),
    fresh := fun ho hf => absurd ((notif_not_logon hn).symm.trans (hW.fresh ho hf).1) Bool.false_ne_true,
    queue := fun _ hc => (by rcases hc with h | ⟨h, _⟩ <;> cases h),
    noconn := fun hc => by cases hc }

theorem H8.logout {b : Bool} {g0 : G8} {s x : Sess} (hn : (s.st.loggedOn || s.st.isLogout) = true)
    (h : P b g0 s x) : H8 g0 s (x, .logout) := by
  have hx : (x.st.loggedOn || x.st.isLogout) = true := by rw [h.fr.st]; exact hn
  refine ⟨h.fr, rfl, fun hW => ?_, fun hS => ?_⟩
  · show WK g0 (x.setSt (eff s.st .logout))
    rw [eff_logout]; exact (h.w hW).toLogout hx
  · show SK g0 (x.setSt (eff s.st .logout))
    rw [eff_logout]; exact ⟨(h.w hS.1).toLogout hx, fun _ hst => by cases hst⟩

theorem H8.down {b : Bool} {g0 : G8} {s x : Sess} (h : P b g0 s x) : H8 g0 s (x, .latent) :=
  ⟨h.fr, rfl, fun hW => by simp only [SState.connected, Bool.false_eq_true, if_false]; exact h.w hW,
   fun hS => by simp only [SState.connected, Bool.false_eq_true, if_false]; exact h.w hS.1⟩

/-! ### the handlers of the logged-on states and of the logout state

What these handlers do is summed up once in SessEffects (`Does`, `Ret`; `DoesAll`, `RetAll` for the resend state, which may go on
to the stashed messages).  Every step they take is a neutral step here, the two that write a Logout lower the grade, and `Ret`
reads the grade off the next state: a Logout written means a next state that is not logged on — the three outcomes of `H8`. -/

theorem p_ofAct {g0 : G8} {m : InMsg} {x y : Sess} (hn : (x.st.loggedOn || x.st.isLogout) = true) (a : Act m x y) : P true g0 x y := by
  have silEq : ∀ {y : Sess}, Fr x y → y.toSend = x.toSend → y.log = x.log → P true g0 x y := fun f q l => (Sil.of_eq f q l).p true g0
  have cbOn : ∀ {g : G8}, W g x → g.cb = true := fun hW => by rw [hW.cb]; exact hn
  cases a with
  | quiet hb sr rl => exact silEq ⟨rfl, rfl, rfl, rfl, rfl⟩ rfl rfl
  | refresh => exact (Sil.emit x _ rfl).p true g0
  | arm n => exact (Sil.emit x _ rfl).p true g0
  | callback _ _ =>
    unfold cbOf
    split
    · exact (Sil.emit x _ rfl).p true g0
    · -- a delivery to the application: the notification flag is up
      refine p_emit_fix g0 x _ fun hW => ?_
      rw [c8o_fromApp]
      have h1 := hW.ok
      have h2 := cbOn hW
      generalize g8Of g0 x = g at h1 h2
      cases g; simp_all
  | onLogon _ _ _ _ =>
    -- a second logon notification changes nothing
    refine p_emit_fix g0 x _ fun hW => ?_
    rw [c8o_onLogon]
    have h2 := cbOn hW
    have h3 := hW.hs h2
    generalize g8Of g0 x = g at h2 h3
    cases g; simp_all
  | incrTarget => exact (sil_incrTarget x).p true g0
  | setT n _ => exact (silEq (y := x.setTarget n) ⟨rfl, rfl, rfl, rfl, rfl⟩ rfl rfl).trans ((Sil.emit _ _ rfl).p true g0)
  | reply o ho =>
    cases ho with
    | reject r t b => exact p_sendInReplyTo g0 x _ (rejectMsg_ok x.cfg m r t b).1 (rejectMsg_ok x.cfg m r t b).2
    | heartbeat id _ => exact p_sendInReplyTo g0 x _ rfl (appFirst_admin _ rfl)
  | replay o ho => exact p_enqueueAndSend g0 x o hn (replay_ok ho).1 (replay_ok ho).2
  | reset _ => exact p_dropAndReset true g0 x
  | logonRe _ => exact p_sendLogon g0 x _ rfl

theorem P.ofDoes {g0 : G8} {m : InMsg} {k : Nat} {b : Bool} {s x : Sess} (hn : (s.st.loggedOn || s.st.isLogout) = true)
    (d : Does m k b s x) : P b g0 s x :=
  Does.fold (R := fun _ b s x => (s.st.loggedOn || s.st.isLogout) = true → P b g0 s x) (fun s _ => P.refl _ g0 s)
    (fun r h1 _ a hn => (r hn).seq (p_ofAct (by rw [h1]; exact hn) a))
    (fun b e r hn => qpeel_sendResendRequest b e (r hn))
    (fun {_ _ _ x o} r h1 _ ho hn => (r hn).seq (p_sendLogoutMsg g0 x o (by cases ho <;> rfl) (by rw [h1]; exact notif_not_logon hn)))
    (fun r hn => (r hn).seq (p_dropLogout g0 _ _ rfl))
    (fun r _ hb hn => ⟨(r hn).fr, (r hn).w, fun h => (r hn).st (hb h)⟩) d hn

theorem P.ofDoesAll {g0 : G8} {M : InMsg → Prop} {k : Nat} {b : Bool} {s x : Sess} (hn : (s.st.loggedOn || s.st.isLogout) = true)
    (d : DoesAll M k b s x) : P b g0 s x :=
  DoesAll.fold (R := fun _ b s x => (s.st.loggedOn || s.st.isLogout) = true → P b g0 s x) (fun s _ => P.refl _ g0 s)
    (fun r h1 _ _ d hn => (r hn).seq (P.ofDoes (by rw [h1]; exact hn) d))
    (fun r _ hb hn => ⟨(r hn).fr, (r hn).w, fun h => (r hn).st (hb h)⟩) d hn

theorem H8.ofNx {g0 : G8} {M : InMsg → Prop} {s x : Sess} {nx : SState} (hn : (s.st.loggedOn || s.st.isLogout) = true)
    (hp : P nx.loggedOn g0 s x) (h : Nx M nx) : H8 g0 s (x, nx) := by
  cases h with
  | inSession => exact H8.same hn rfl hp
  | resend st c f _ => exact H8.same hn rfl hp
  | logout => exact H8.logout hn hp
  | latent => exact H8.down hp

theorem h8_inSessionFixMsgIn (g0 : G8) (s : Sess) (m : InMsg) (hn : (s.st.loggedOn || s.st.isLogout) = true) :
    H8 g0 s (inSessionFixMsgIn s m) :=
  have h := Ret.inSessionFixMsgIn (Does.refl s) (m := m)
  H8.ofNx hn (P.ofDoes hn h.does) h.nx

theorem h8_resendFixMsgIn (g0 : G8) (s : Sess) (stash : List (Int × InMsg)) (cur fin : Int) (m : InMsg)
    (hl : s.st.loggedOn = true) : H8 g0 s (resendFixMsgIn s stash cur fin m) :=
  have hn : (s.st.loggedOn || s.st.isLogout) = true := by rw [hl]; rfl
  let ⟨_, h, _⟩ := RetSome.resendFixMsgIn (M := fun _ => True) (m := m) stash cur fin (fun _ _ => trivial) trivial (fun _ _ => trivial)
  H8.ofNx hn (P.ofDoesAll hn h.does) h.nx

def LogonErr.isTooHigh : LogonErr → Bool
  | .rej r => r.isHigh
  | .other => false

theorem verifySelect_none_seq (s : Sess) (m : InMsg) (th ai : Bool) (h : (verifySelect s m th true ai).2 = none) :
    ∃ n, getInt m 34 = .val n := by
  rw [verifySelect_eq] at h
  cases hf : firstReject s m th true with
  | some r => rw [hf] at h; cases h
  -- with the too-low check on, MsgSeqNum is readable
  | none => exact (((firstReject_none_iff s m th true).1 hf).2.1 rfl).imp fun _ h => h.1

theorem p_logonReply (b : Bool) (g0 : G8) (s : Sess) (m : InMsg) (flag : Bool) : P b g0 s (logonReply s m flag) := by
  have reply : ∀ x, P b g0 s x → P b g0 s (if (flag && x.sentReset && x.st.loggedOn) = true then x else sendLogonRe x flag m) :=
    fun x hx => ite_both hx (qpeel_sendLogonRe _ _ hx)
  unfold logonReply
  refine ite_both (reply _ (ite_both ?_ (P.refl _ _ _))) (P.refl _ _ _)
  split
  · exact qpeel_setHb _ (P.refl _ _ _)
  · exact P.refl _ _ _

/-- after the Logon reply went out (acceptor) or was sent at connect (initiator): the connection has been written on,
    and an acceptor's queue is empty -/
def Ready (g0 : G8) (x : Sess) : Prop :=
  x.out = true → ((g8Of g0 x).fresh = false ∧ (x.cfg.initiator = false → x.toSend = []))

theorem dropAndSend_logon_out (g0 : G8) (s : Sess) (m : OutMsg) (hk : m.kind = "A") (ho : s.out = true) :
    ∃ m', m'.kind = "A" ∧ Fr s (dropAndSend s m) ∧ (dropAndSend s m).toSend = [] ∧
      g8Of g0 (dropAndSend s m) = c8o (g8Of g0 s) (.wire m') := by
  have h := dropAndSend_spec g0 s m
  obtain ⟨m', hk', hs⟩ := h.sent_of_admin (by rw [hk]; decide)
  rw [ho] at hs
  exact ⟨m', hk'.trans hk, h.fr, hs.1, hs.2⟩

theorem ready_logonReply (g0 : G8) (s : Sess) (m : InMsg) (flag : Bool) (hW : WK g0 s) (hnl : s.st.loggedOn = false) :
    Ready g0 (logonReply s m flag) := by
  rw [logonReply_base]
  split
  · have hxl : (flag && (replyBase s m).sentReset && (replyBase s m).st.loggedOn) = false := by
      rw [(replyBase_frame s m).2.1, hnl, Bool.and_false]
    rw [if_neg (by rw [hxl]; exact Bool.false_ne_true)]
    generalize replyBase s m = x
    intro ho
    have hox : x.out = true := (fr_dropAndSend x _).out.symm.trans ho
    obtain ⟨m', _, _, hq, hg⟩ := dropAndSend_logon_out g0 x ((logonMsgRe x flag m).inReplyTo m) rfl hox
    exact ⟨by show (g8Of g0 (dropAndSend x _)).fresh = false; rw [hg, c8o_wire], fun _ => hq⟩
  · rename_i hini
    have hini' : s.cfg.initiator = true := by simpa using hini
    intro ho
    refine ⟨?_, fun h => by rw [hini'] at h; cases h⟩
    cases hf : (g8Of g0 s).fresh
    · rfl
    · have := (hW.fresh ho hf).2.1
      rw [hini'] at this; cases this

/-- `handleLogon` up to `logonFinish`: neutral steps only, in every state -/
theorem handleLogon_shape (g0 : G8) (s : Sess) (m : InMsg) (hk : isAdminKind (kindOf m) = true) :
    (∃ e, (handleLogon s m).2 = some e ∧ e.isTooHigh = false ∧ P true g0 s (handleLogon s m).1) ∨
    (∃ x ns, P true g0 s x ∧ (WK g0 s → s.st.loggedOn = false → Ready g0 x) ∧ handleLogon s m = logonFinish x m ns ∧ ∃ n, getInt m 34 = .val n) := by
  have p1 : P true g0 s (logonS1 s) := ite_both (qpeel_emit _ rfl (P.refl _ _ _)) (P.refl _ _ _)
  have p2 : P true g0 s (logonS2 s m) := qpeel_emit _ (by unfold cbOf; rw [if_pos hk]; rfl) p1
  have p3 : P true g0 s (logonS3 s m) := ite_both (qpeel_dropAndReset p2) p2
  rw [handleLogon_eq]
  split
  · exact Or.inl ⟨_, rfl, rfl, P.refl _ _ _⟩
  · split
    · rename_i hv; exact Or.inl ⟨_, rfl, validate_notHigh hv, p1⟩
    · split
      · rename_i hcv; exact Or.inl ⟨_, rfl, callbackVerdict_notHigh hcv, p2⟩
      · split
        · rename_i hvs; exact Or.inl ⟨_, rfl, verifySelect_notHigh hvs, p3⟩
        · rename_i hvs
          have hseq := verifySelect_none_seq _ m false false hvs
          generalize logonS3 s m = s4 at p3
          by_cases hr : logonRefuses s4 m (logonResetFlag m) = true
          · have e : ∀ ns, logonTail s4 m ns = (logonRefused s4 m, some (.rej .rejectLogon)) := by
              intro ns; unfold logonTail; rw [if_pos hr]
            rw [e]
            refine Or.inl ⟨_, rfl, rfl, p3.trans ?_⟩
            unfold logonRefused
            refine ite_both ?_ (P.refl _ _ _)
            split
            · exact qpeel_setHb _ (P.refl _ _ _)
            · exact P.refl _ _ _
          · have e : ∀ ns, logonTail s4 m ns = logonFinish (logonReply s4 m (logonResetFlag m)) m ns := by
              intro ns; unfold logonTail; rw [if_neg hr]
            rw [e]
            exact Or.inr ⟨_, _, p3.trans (p_logonReply true g0 s4 m _),
              fun hW hnl => ready_logonReply g0 s4 m _ (p3.w hW) (by rw [p3.fr.st]; exact hnl), rfl, hseq⟩

theorem nxEval_err (s : Sess) (m : InMsg) (ns : Int) (e : Rej) (h : (nxEval s m ns).2 = some e) : ∃ a b, e = .tooHigh a b := by
  revert h
  -- case2: the one leaf with an error
  fun_cases nxEval s m ns with
  | case2 => rintro ⟨⟩; exact ⟨_, _, rfl⟩
  | _ => nofun

theorem logonFinish_spec (x : Sess) (m : InMsg) (ns n : Int) (hn : getInt m 34 = .val n) :
    let y := (nxEval (((x.setSentReset false).emit (.armPeer (1200 * x.hb))).emit .onLogon) m ns).1
    logonFinish x m ns = (incrTarget y, none) ∨ ∃ a b, logonFinish x m ns = (y, some (.rej (.tooHigh a b))) := by
  intro y
  cases he : (nxEval (notified x) m ns).2 with
  | some e =>
    obtain ⟨a, b, rfl⟩ := nxEval_err _ m ns e he
    refine Or.inr ⟨a, b, ?_⟩
    unfold logonFinish
    rw [show nxEval _ m ns = (y, some (.tooHigh a b)) from Prod.ext rfl he]
  | none =>
    rw [logonFinish_of_nx (x := y) (Prod.ext rfl he) hn]
    split
    · exact Or.inr ⟨_, _, rfl⟩
    · exact Or.inl rfl

theorem p_sRR_eq {b : Bool} {g0 : G8} {s x : Sess} {bq e : Int} {r : Sess × Int × Int} (hr : sendResendRequest x bq e = r)
    (h : P b g0 s x) : P b g0 s r.1 := by
  rw [← hr]; exact qpeel_sendResendRequest bq e h

/-! ## the logon state

Up to the logon notification the handler takes neutral steps in the Logon state (`handleLogon_shape`); the notification moves the
automaton to "logged on" while the state tag still says Logon, so what follows (the peer's tag 789, a ResendRequest) is judged in
the logged-on state that `setState` is about to install (`Pv nx`). -/

theorem h8_shutdownWithReason {b : Bool} (g0 : G8) (s x : Sess) (m : InMsg) (incr : Bool) (h : P b g0 s x) :
    H8 g0 s (shutdownWithReason x m incr) := by
  unfold shutdownWithReason
  dsimp only
  exact H8.down (b := false) (ite_both (qpeel_incrTarget (qpeel_dropAndSend_logoutRe m h.weaken)) (qpeel_dropAndSend_logoutRe m h.weaken))

theorem pv_nxEval {c : SState} (g0 : G8) (y : Sess) (m : InMsg) (ns : Int) (hyl : y.st.loggedOn = false) (hc : c.loggedOn = true) :
    Pv c g0 y (nxEval y m ns).1 := by
  have hkq : y.keptQueue = [] := by unfold Sess.keptQueue; rw [hyl]; rfl
  -- case1: the gap fill; every other leaf returns the session as it is
  fun_cases nxEval y m ns with
  | case1 =>
    exact (enqueueAndSend_spec g0 y _).pv hc (replay_ok (replay_gapFillRe _ _ _ _)).1 (replay_ok (replay_gapFillRe _ _ _ _)).2 id
      (fun _ => hkq) (fun hw ho => by rw [ho] at hw; cases hw)
  | _ => exact Pv.refl c g0 y

theorem pv_sendResendRequest {c : SState} (g0 : G8) (y : Sess) (b e : Int) (hyl : y.st.loggedOn = false) (hc : c.loggedOn = true) :
    Pv c g0 y (sendResendRequest y b e).1 := by
  obtain ⟨ff, hff⟩ := sendResendRequest_fst y b e
  rw [hff]
  have h := sendInReplyTo_spec g0 y (mkOut "2" ff)
  rw [hyl] at h
  exact h.pv hc rfl (appFirst_admin _ rfl) (fun hw => by cases hw) (fun hw => by cases hw) (fun _ _ => rfl)

theorem Ready.sil {g0 : G8} {x x' : Sess} (h : Ready g0 x) (hs : Sil x x') : Ready g0 x' := by
  unfold Ready at h ⊢
  rw [hs.fr.out, hs.g8 g0, hs.fr.cfg, hs.q]; exact h

theorem logon_up (g0 : G8) (s x z : Sess) (nx : SState) (hl : s.st.isLogon = true) (hx : P true g0 s x)
    (hready : WK g0 s → Ready g0 x) (hnx : nx.loggedOn = true) (ht : Pv nx g0 (x.emit .onLogon) z) : H8 g0 s (z, nx) := by
  have hc : nx.connected = true := by rw [SState.connected_eq, hnx]; rfl
  have heff : eff s.st nx = nx := by unfold eff; rw [SState.logon_not_logout _ hl]; rfl
  have hxl : x.st.isLogon = true := by rw [hx.fr.st]; exact hl
  have key : WK g0 s → WK g0 ((x.emit .onLogon).setSt nx) := by
    intro hW
    have hWx := hx.w hW
    have hr := hready hW
    unfold Ready at hr
    unfold WK at hWx ⊢
    rw [g8Of_setSt, g8Of_emit, c8o_onLogon]
    generalize g8Of g0 x = g at hWx hr
    exact { ok := hWx.ok, conn := hWx.conn, cb := (by show true = (nx.loggedOn || nx.isLogout); rw [hnx]; rfl), hs := fun _ => rfl
            notif := fun _ => hWx.notif (by rw [hxl]; simp)
            fresh := fun ho hf => by rw [(hr ho).1] at hf; cases hf
            queue := fun ho _ => by
              cases hini : x.cfg.initiator
              · show Q _ x.toSend; rw [(hr ho).2 hini]; exact Q_nil _
              · exact hWx.queue ho (Or.inr ⟨hxl, hini⟩)
            noconn := fun h => by have h' : (nx.loggedOn || nx.isLogon || nx.isLogout) = false := h; rw [hnx] at h'; cases h' }
  refine ⟨hx.fr.trans ((show Fr x (x.emit .onLogon) from ⟨rfl, rfl, rfl, rfl, rfl⟩).trans ht.fr), (by cases nx <;> first | rfl | cases hnx), fun hW => ?_, fun hS => ?_⟩
  · simp only [hc, if_true, heff]; exact ht.w (key hW)
  · simp only [hc, if_true, heff]
    refine ⟨ht.w (key hS.1), fun ho _ => ?_⟩
    show (g8Of g0 z).sentLogout = false
    rw [ht.sl (key hS.1), g8Of_emit, c8o_onLogon]
    exact (hx.st rfl hS).2 (ht.fr.out.symm.trans ho) (by rw [hxl]; simp)

theorem h8_logonFixMsgIn (g0 : G8) (s : Sess) (m : InMsg) (hl : s.st.isLogon = true) : H8 g0 s (logonFixMsgIn s m) := by
  unfold logonFixMsgIn
  split
  · exact H8.down (P.refl false g0 s)
  · rename_i hk
    have hadm : isAdminKind (kindOf m) = true := by rw [show kindOf m = "A" by simpa using hk]; decide
    rcases handleLogon_shape g0 s m hadm with ⟨e, he, hnt, hp⟩ | ⟨x, ns, hx, hready, heq, n, hn⟩
    · generalize handleLogon s m = r at he hp
      obtain ⟨s', o⟩ := r
      dsimp only at he hp
      subst he
      -- on the verdict: none, rejectLogon, tooLow, tooHigh (excluded by `hnt`), any other
      split
      · rename_i heq; cases heq
      · rename_i heq; cases heq; exact h8_shutdownWithReason g0 s _ m true hp
      · rename_i heq; cases heq; exact h8_shutdownWithReason g0 s _ m false hp
      · rename_i heq; cases heq; cases hnt
      · rename_i heq; cases heq; exact H8.down hp
    · rw [heq]
      have hsl := SState.logon_not_loggedOn _ hl
      have hx' : P true g0 s ((x.setSentReset false).emit (.armPeer (1200 * x.hb))) := qpeel_emit _ rfl (qpeel_setSentReset false hx)
      have hr' : WK g0 s → Ready g0 ((x.setSentReset false).emit (.armPeer (1200 * x.hb))) := fun hW =>
        (hready hW hsl).sil ((sil_setSentReset x false).trans (Sil.emit _ _ rfl))
      have hspec := logonFinish_spec x m ns n hn
      dsimp only at hspec
      generalize (x.setSentReset false).emit (.armPeer (1200 * x.hb)) = x' at hx' hr' hspec
      have hyl : (x'.emit .onLogon).st.loggedOn = false := by show x'.st.loggedOn = false; rw [hx'.fr.st]; exact hsl
      have hy : ∀ {c : SState}, c.loggedOn = true → Pv c g0 (x'.emit .onLogon) (nxEval (x'.emit .onLogon) m ns).1 :=
        fun hc => pv_nxEval g0 _ m ns hyl hc
      rcases hspec with h | ⟨a, b, h⟩
      · rw [h]
        exact logon_up g0 s x' _ _ hl hx' hr' rfl ((hy rfl).trans ((sil_incrTarget _).pv _ g0))
      · rw [h]
        dsimp only
        exact logon_up g0 s x' _ _ hl hx' hr' rfl
          ((hy rfl).trans (pv_sendResendRequest g0 _ b (a - 1) (by rw [(hy (c := .inSession) rfl).fr.st]; exact hyl) rfl))

/-- outcome of the state's message / timeout / stop handler: connected next state ⇒ both invariants with it in place;
    otherwise the weak invariant with the old state in place -/
structure T8 (g0 : G8) (s : Sess) (r : Sess × SState) : Prop where
  fr : Fr s r.1
  w : WK g0 s → if r.2.connected then WK g0 (r.1.setSt r.2) else WK g0 r.1
  st : SK g0 s → if r.2.connected then SK g0 (r.1.setSt r.2) else WK g0 r.1

theorem T8.same {g0 : G8} {s x : Sess} {nx : SState} (h : P true g0 s x) (hc : SameCls nx s.st) : T8 g0 s (x, nx) := by
  have hc' : SameCls nx x.st := by rw [h.fr.st]; exact hc
  refine ⟨h.fr, fun hW => ?_, fun hS => ?_⟩
  · split
    · exact W.setSt (h.w hW) hc'
    · exact h.w hW
  · split
    · exact S.setSt (h.st rfl hS) hc'
    · exact (h.st rfl hS).1

theorem T8.down {b : Bool} {g0 : G8} {s x : Sess} {nx : SState} (h : P b g0 s x) (hc : nx.connected = false) : T8 g0 s (x, nx) :=
  ⟨h.fr, fun hW => by simp only [hc, Bool.false_eq_true, if_false]; exact h.w hW,
   fun hS => by simp only [hc, Bool.false_eq_true, if_false]; exact h.w hS.1⟩

/-- `H8` judges at `eff s.st r.2`; where that is `r.2` itself it is `T8` -/
theorem T8.ofEff {g0 : G8} {s : Sess} {r : Sess × SState} (h : H8 g0 s r) (he : eff s.st r.2 = r.2) : T8 g0 s r := by
  refine ⟨h.fr, fun hW => ?_, fun hS => ?_⟩
  · have := h.w hW; rw [he] at this; exact this
  · have := h.st hS; rw [he] at this; exact this

theorem T8.ofH8 {g0 : G8} {s : Sess} {r : Sess × SState} (h : H8 g0 s r) (hlo : s.st.isLogout = false) : T8 g0 s r :=
  T8.ofEff h (by unfold eff; rw [hlo]; rfl)

/-- `T8` is what `setState` asks of a handler's outcome: a connected next state is installed as it is; `hd` is the disconnect -/
theorem T8.setState {g0 : G8} {s : Sess} {r : Sess × SState} (fuel : Nat) (hT : T8 g0 s r)
    (hd : r.2.connected = false → WK g0 r.1 → SK g0 (setState fuel r.1 r.2)) : Keeps g0 s (setState fuel r.1 r.2) := by
  have hw := hT.w
  have hs := hT.st
  cases hc : r.2.connected
  · rw [hc] at hw
    exact .of_restore fun h => hd hc (hw h)
  · rw [hc] at hw hs
    rw [setState_connected fuel r.1 r.2 hc]
    exact ⟨hw, hs⟩

theorem T8.logout {b : Bool} {g0 : G8} {s x : Sess} (hn : (s.st.loggedOn || s.st.isLogout) = true) (h : P b g0 s x) :
    T8 g0 s (x, .logout) :=
  T8.ofEff (H8.logout hn h) (eff_logout _)

theorem t8_fixMsgInCore (g0 : G8) (s : Sess) (m : InMsg) : T8 g0 s (fixMsgInCore s m) := by
  refine fixMsgInCore_cases s m (motive := T8 g0 s) (fun h => T8.down (P.refl false g0 s) (by rcases h with h | h <;> rw [h] <;> rfl))
    (fun h => T8.ofH8 (h8_logonFixMsgIn g0 s m (by rw [h]; rfl)) (by rw [h]; rfl)) (fun h => ?_)
    (fun h => T8.ofH8 (h8_inSessionFixMsgIn g0 s m (by rcases h with h | h <;> rw [h] <;> rfl)) (by rcases h with h | h <;> rw [h] <;> rfl))
    (fun st c f h => T8.ofH8 (h8_resendFixMsgIn g0 s st c f m (by rcases h with h | h <;> rw [h] <;> rfl))
      (by rcases h with h | h <;> rw [h] <;> rfl))
  have hn : (s.st.loggedOn || s.st.isLogout) = true := by rw [h]; rfl
  have hp : P false g0 s (inSessionFixMsgIn s m).1 := P.ofDoes hn (Ret.inSessionFixMsgIn (Does.refl s)).does.weaken
  split
  · exact T8.down hp rfl
  · exact T8.logout hn hp

theorem p_ist_eq {g0 : G8} {s : Sess} {e : TimerEv} {r : Sess × Bool} (hr : inSessionTimeout s e = r) : P true g0 s r.1 := by
  subst hr
  unfold inSessionTimeout
  split
  · exact qpeel_heartbeat [] (P.refl _ _ _)
  · exact qpeel_emit _ rfl (qpeel_testRequest _ (P.refl _ _ _))
  · exact P.refl _ _ _

theorem T8.ofTimerRet {g0 : G8} {s : Sess} {r : Sess × SState} (h : TimerRet s r) : T8 g0 s r := by
  have cls : ∀ {nx : SState}, s.st.loggedOn = true → nx = s.st ∨ nx = s.st.pending → SameCls nx s.st := fun hl h => by
    rcases h with h | h <;> rw [h]
    · exact SameCls.refl _
    · exact SameCls.of_loggedOn (by revert hl; cases s.st <;> intro hl <;> first | rfl | cases hl) hl
  cases h with
  | idle nx h =>
    rcases h with h | h <;> rw [h]
    · exact T8.same (P.refl true g0 s) (SameCls.refl _)
    · exact T8.down (P.refl false g0 s) rfl
  | heartbeat nx hl h => exact T8.same (p_ist_eq (e := .needHeartbeat) rfl) (cls hl (Or.inl h))
  | testRequest nx hl h => exact T8.same (p_ist_eq (e := .peerTimeout) rfl) (cls hl (Or.inr h))
  | logout hl =>
    have hn : (s.st.loggedOn || s.st.isLogout) = true := by rw [hl]; rfl
    exact T8.logout hn (qpeel_initiateLogout (notif_not_logon hn) (P.refl false g0 s))

theorem t8_timeoutCore (g0 : G8) (s : Sess) (e : TimerEv) : T8 g0 s (timeoutCore s e) := T8.ofTimerRet (timeoutCore_ret s e)
theorem t8_stopNext (g0 : G8) (s : Sess) : T8 g0 s (stopNext s) := T8.ofTimerRet (stopNext_ret s)

end Qfx.Sess
