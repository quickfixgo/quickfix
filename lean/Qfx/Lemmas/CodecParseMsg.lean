/- C11: the whole parse of a well-formed wire message under any dictionaries `d` for which no field of the message starts a repeating
   group (`NoGroupTag`) — header / trailer membership then comes from the static tag sets and the transport dictionary.  The section maps
   are a fold of additions (`applyAdds`; the last addition under a tag in a section wins: `applyAdds_find_last`, `applyAdds_find_at`); the
   plain parse adds every field, in wire order, as a one-field view to the section of its tag (`plainAdds`, `plainFinal_adds`).  The parse
   without dictionaries is the instance `Dicts.none` (end of the file). -/
import Qfx.Lemmas.CodecLoop
import Qfx.Spec.Codec
namespace Qfx
open Qfx.Spec

/-- no message type of the application dictionary has a repeating group with count tag `t` at the top level of its field list -/
def NoGroupTag (d : Dicts) (t : Tag) : Prop := ∀ msgs, d.app = some msgs → ∀ p ∈ msgs, pathWalk p.2 [t] = none

theorem alFindB_mem {β} (l : List (Bytes × β)) (k : Bytes) (v : β) (h : alFindB l k = some v) : (k, v) ∈ l := by
  induction l with
  | nil => simp [alFindB] at h
  | cons p r ih =>
    obtain ⟨k', x⟩ := p
    simp only [alFindB] at h
    split at h
    · rename_i hk; injection h with h; subst h; subst hk; simp
    · exact List.mem_cons_of_mem _ (ih h)

theorem isNum_false (d : Dicts) (flds : List TagValue) (hd : FieldMap) (t : Tag) (h : NoGroupTag d t) :
    isNumInGroupField d flds hd [t] = false := by
  unfold isNumInGroupField msgFields
  cases hap : d.app with
  | none => rfl
  | some msgs =>
    simp only []
    cases hg : hd.getBytes flds 35 with
    | ok mt =>
      simp only []
      cases hf : alFindB msgs mt with
      | none => rfl
      | some fs => simp [h msgs hap (mt, fs) (alFindB_mem _ _ _ hf)]
    | err e => rfl
    | fault w => rfl

variable {d : Dicts}

/-- the `switch` of the main loop on a plain field: filed in the section of its tag -/
def plainSwitch (d : Dicts) (idx : Nat) (tv : TagValue) (c : PCore) : PCore :=
  if isHeaderField d tv.tag then { c with header := c.header.add tv.tag (.view idx 1) }
  else if isTrailerField d tv.tag then { c with trailer := c.trailer.add tv.tag (.view idx 1), foundTrailer := true }
  else { c with foundBody := true, trailerBytes := c.rawBytes, body := c.body.add tv.tag (.view idx 1) }

/-- the switch of the main loop files the field in the section of its tag unless it is the count field of a group -/
theorem mainSwitch_files (fx : Fixes) (flds : List TagValue) (idx : Nat) (tv : TagValue) (c : PCore)
    (h : isHeaderField d tv.tag = true ∨ isTrailerField d tv.tag = true ∨ NoGroupTag d tv.tag) :
    mainSwitch fx d flds idx tv c = (plainSwitch d idx tv c, none) := by
  unfold mainSwitch plainSwitch
  by_cases h1 : isHeaderField d tv.tag = true
  · rw [if_pos h1, if_pos h1]
  · rw [if_neg h1, if_neg h1]
    by_cases h2 : isTrailerField d tv.tag = true
    · rw [if_pos h2, if_pos h2]
    · rw [if_neg h2, if_neg h2, isNum_false d flds c.header tv.tag ((h.resolve_left h1).resolve_left h2)]; rfl

theorem mainSwitch_plain (fx : Fixes) (flds : List TagValue) (idx : Nat) (tv : TagValue) (c : PCore) (hng : NoGroupTag d tv.tag) :
    mainSwitch fx d flds idx tv c = (plainSwitch d idx tv c, none) :=
  mainSwitch_files fx flds idx tv c (.inr (.inr hng))

theorem plainSwitch_elim {P : PCore → Prop} (d : Dicts) (idx : Nat) (tv : TagValue) (c : PCore)
    (hdr : secOf d tv.tag = .h → P { c with header := c.header.add tv.tag (.view idx 1) })
    (trl : secOf d tv.tag = .t → P { c with trailer := c.trailer.add tv.tag (.view idx 1), foundTrailer := true })
    (body : secOf d tv.tag = .b → P { c with foundBody := true, trailerBytes := c.rawBytes, body := c.body.add tv.tag (.view idx 1) }) :
    P (plainSwitch d idx tv c) := by
  unfold plainSwitch
  unfold secOf at hdr trl body
  exact iteInduction (fun h => hdr (if_pos h)) (fun h => iteInduction (fun h2 => trl (by rw [if_neg h, if_pos h2]))
    (fun h2 => body (by rw [if_neg h, if_neg h2])))

/-- the loop state after the plain fields `pre` have been consumed, `tail` being the bytes that follow them -/
def plainRun (d : Dicts) : Nat → List TagValue → Bytes → PCore → PCore
  | _, [], _, c => c
  | idx, tv :: r, tail, c => plainRun d (idx + 1) r tail (plainTail (plainSwitch d idx tv { c with rawBytes := wireOf r ++ tail }))

theorem plainSwitch_raw (idx : Nat) (tv : TagValue) (c : PCore) :
    (plainSwitch d idx tv c).rawBytes = c.rawBytes ∧ (plainSwitch d idx tv c).xmlDataLen = c.xmlDataLen ∧ (plainSwitch d idx tv c).xmlDataMsg = c.xmlDataMsg :=
  plainSwitch_elim (P := fun r => r.rawBytes = c.rawBytes ∧ r.xmlDataLen = c.xmlDataLen ∧ r.xmlDataMsg = c.xmlDataMsg) d idx tv c
    (fun _ => ⟨rfl, rfl, rfl⟩) (fun _ => ⟨rfl, rfl, rfl⟩) (fun _ => ⟨rfl, rfl, rfl⟩)

/-- the main loop over plain fields arrives in the state `plainRun` describes.  A walk of its own beside `loop_chain`: the statements
    about plain messages (any `d` under `NoGroupTag`: retrievability, `bodyBytes` in CodecBody) need the state behind the fields as the FUNCTION `plainRun` of the
    fields, and `loop_chain` gives that state only existentially, described by an invariant -/
theorem parseLoop_plainRun (fx : Fixes) : ∀ (pre : List TagValue) (fields : List TagValue) (idx : Nat) (c : PCore) (tail : Bytes),
    (∀ tv ∈ pre, IsWire tv ∧ tv.tag ≠ 10 ∧ tv.tag ≠ 212) → (∀ tv ∈ pre, NoGroupTag d tv.tag) → c.xmlDataLen = 0 →
    c.rawBytes = wireOf pre ++ tail → idx + pre.length ≤ fields.length →
    parseLoop fx d .main fields idx c =
      parseLoop fx d .main (setRange fields idx pre) (idx + pre.length) (plainRun d idx pre tail c) ∧
    (plainRun d idx pre tail c).rawBytes = tail ∧ (plainRun d idx pre tail c).xmlDataLen = 0 := by
  intro pre
  induction pre with
  | nil => intro fields idx c tail _ _ hx hraw _; exact ⟨rfl, by simpa [plainRun, wireOf] using hraw, hx⟩
  | cons tv r ih =>
    intro fields idx c tail hpre hng hx hraw hlen
    obtain ⟨hw, h10, h212⟩ := hpre tv (by simp)
    rw [List.length_cons] at hlen
    have step := parseLoop_back (d := d) fx .main fields idx c (plainSwitch d idx tv { c with rawBytes := wireOf r ++ tail }) tv
      (wireOf r ++ tail) (by omega) hx (by rw [hraw]; exact extractField_wireOf tv r tail hw)
      (by simp only [switchOf]; rw [mainSwitch_plain _ _ _ _ _ (hng tv (by simp))]) h10 h212
    obtain ⟨e, hr, hx'⟩ := ih (fields.set idx tv) (idx + 1) (plainTail (plainSwitch d idx tv { c with rawBytes := wireOf r ++ tail })) tail
      (fun x hx => hpre x (by simp [hx])) (fun x hx => hng x (by simp [hx]))
      (by rw [(plainTail_raw _).2.1, (plainSwitch_raw _ _ _).2.1]; exact hx) (by rw [(plainTail_raw _).1, (plainSwitch_raw _ _ _).1])
      (by rw [List.length_set]; omega)
    have e' : idx + 1 + r.length = idx + (r.length + 1) := by omega
    rw [e'] at e
    exact ⟨step.trans e, hr, hx'⟩

/-- one `FieldMap.add`: section, tag, field -/
abbrev SAdd := Sec × Tag × Field

def secAdd (s : Sec) (fm : FieldMap) (a : SAdd) : FieldMap := if a.1 = s then fm.add a.2.1 a.2.2 else fm

def applyAdds (s : Sec) (l : List SAdd) (fm : FieldMap) : FieldMap := l.foldl (secAdd s) fm

theorem applyAdds_append (s : Sec) (a b : List SAdd) (fm : FieldMap) : applyAdds s (a ++ b) fm = applyAdds s b (applyAdds s a fm) := by
  simp [applyAdds, List.foldl_append]

theorem applyAdds_snoc (s : Sec) (l : List SAdd) (a : SAdd) (fm : FieldMap) : applyAdds s (l ++ [a]) fm = secAdd s (applyAdds s l fm) a := by
  simp [applyAdds]

theorem applyAdds_find_absent (s : Sec) (k : Tag) : ∀ (l : List SAdd) (fm : FieldMap), (∀ a ∈ l, ¬ (a.1 = s ∧ a.2.1 = k)) →
    alFind (applyAdds s l fm).lookup k = alFind fm.lookup k := by
  intro l
  induction l with
  | nil => intro fm _; rfl
  | cons a r ih =>
    intro fm h
    simp only [applyAdds, List.foldl_cons]
    have := ih (secAdd s fm a) (fun x hx => h x (by simp [hx]))
    simp only [applyAdds] at this
    rw [this]
    unfold secAdd
    by_cases e : a.1 = s
    · simp only [e, if_true, FieldMap.add]
      exact alFind_insert_other _ _ _ _ (fun ek => h a (by simp) ⟨e, ek.symm⟩)
    · simp [e]

theorem applyAdds_find_last (s : Sec) (k : Tag) (f : Field) (A B : List SAdd) (fm : FieldMap)
    (hB : ∀ a ∈ B, ¬ (a.1 = s ∧ a.2.1 = k)) :
    alFind (applyAdds s (A ++ (s, k, f) :: B) fm).lookup k = some f := by
  rw [applyAdds_append]
  have : applyAdds s ((s, k, f) :: B) (applyAdds s A fm) = applyAdds s B ((applyAdds s A fm).add k f) := by
    simp [applyAdds, secAdd]
  rw [this, applyAdds_find_absent s k B _ hB]
  simp only [FieldMap.add]
  exact alFind_insert_self _ _ _

theorem applyAdds_find_at (s : Sec) (k : Tag) (f : Field) (l : List SAdd) (j : Nat) (fm : FieldMap) (hj : l[j]? = some (s, k, f))
    (huniq : ∀ j' a, l[j']? = some a → j' ≠ j → ¬ (a.1 = s ∧ a.2.1 = k)) : alFind (applyAdds s l fm).lookup k = some f := by
  have hlt : j < l.length := (List.getElem?_eq_some_iff.1 hj).1
  have e : l = l.take j ++ (s, k, f) :: l.drop (j + 1) := by
    rw [← (List.getElem?_eq_some_iff.1 hj).2, ← List.drop_eq_getElem_cons hlt, List.take_append_drop]
  rw [e]
  refine applyAdds_find_last s k f _ _ fm (fun a ha => ?_)
  obtain ⟨i, hi⟩ := List.getElem?_of_mem ha
  rw [List.getElem?_drop] at hi
  exact huniq _ a hi (by omega)

theorem plainSwitch_sec (idx : Nat) (tv : TagValue) (c : PCore) (s : Sec) :
    (plainSwitch d idx tv c).sec s = secAdd s (c.sec s) (secOf d tv.tag, tv.tag, .view idx 1) := by
  refine plainSwitch_elim (P := fun r => r.sec s = secAdd s (c.sec s) (secOf d tv.tag, tv.tag, .view idx 1)) d idx tv c ?_ ?_ ?_ <;>
    intro h <;> rw [h] <;> cases s <;> rfl

/-- what plain fields from index `idx` on add: each a one-field view in the section of its tag -/
def plainAdds (d : Dicts) : Nat → List TagValue → List SAdd
  | _, [] => []
  | idx, tv :: r => (secOf d tv.tag, tv.tag, .view idx 1) :: plainAdds d (idx + 1) r

theorem plainRun_sec (s : Sec) : ∀ (pre : List TagValue) (idx : Nat) (tail : Bytes) (c : PCore),
    (plainRun d idx pre tail c).sec s = applyAdds s (plainAdds d idx pre) (c.sec s)
  | [], _, _, _ => rfl
  | tv :: r, idx, tail, c => by
    simp only [plainRun, plainAdds, applyAdds, List.foldl_cons]
    rw [plainRun_sec s r, plainTail_sec, plainSwitch_sec, withRaw_sec]; rfl

theorem plainAdds_append : ∀ (a b : List TagValue) (idx : Nat), plainAdds d idx (a ++ b) = plainAdds d idx a ++ plainAdds d (idx + a.length) b
  | [], b, idx => rfl
  | x :: a, b, idx => by
    simp only [List.cons_append, plainAdds, plainAdds_append a b, List.length_cons]
    rw [show idx + 1 + a.length = idx + (a.length + 1) by omega]

theorem plainAdds_getElem : ∀ (l : List TagValue) (idx j : Nat),
    (plainAdds d idx l)[j]? = l[j]?.map (fun tv => ((secOf d tv.tag, tv.tag, .view (idx + j) 1) : SAdd))
  | [], _, _ => rfl
  | tv :: r, idx, 0 => rfl
  | tv :: r, idx, j + 1 => by
    simp only [plainAdds, List.getElem?_cons_succ, plainAdds_getElem r]
    rw [show idx + 1 + j = idx + (j + 1) by omega]

theorem plainRun_find_absent (k : Tag) (s : Sec) (pre : List TagValue) (idx : Nat) (tail : Bytes) (c : PCore) (h : ∀ tv ∈ pre, tv.tag ≠ k) :
    alFind ((plainRun d idx pre tail c).sec s).lookup k = alFind (c.sec s).lookup k := by
  rw [plainRun_sec]
  refine applyAdds_find_absent s k _ _ (fun a ha hh => ?_)
  obtain ⟨j, hj⟩ := List.getElem?_of_mem ha
  rw [plainAdds_getElem] at hj
  obtain ⟨tv, h', rfl⟩ := Option.map_eq_some_iff.1 hj
  exact h tv (List.mem_of_getElem? h') hh.2

theorem plainSwitch_header_find (idx : Nat) (tv : TagValue) (c : PCore) (k : Tag) (hk : tv.tag ≠ k) :
    alFind (plainSwitch d idx tv c).header.lookup k = alFind c.header.lookup k := by
  show alFind ((plainSwitch d idx tv c).sec .h).lookup k = _
  rw [plainSwitch_sec]; unfold secAdd; split
  · exact FieldMap.find_add_other _ _ _ hk
  · rfl

theorem plainRun_header_find (k : Tag) (pre : List TagValue) (idx : Nat) (tail : Bytes) (c : PCore)
    (h : ∀ tv ∈ pre, tv.tag ≠ k) : alFind (plainRun d idx pre tail c).header.lookup k = alFind c.header.lookup k :=
  plainRun_find_absent k .h pre idx tail c h

theorem plainInit_find (t8 t9 t35 : TagValue) (raw : Bytes) (h8 : t8.tag = 8) (h9 : t9.tag = 9) (h35 : t35.tag = 35) :
    alFind (plainInit t8 t9 t35 raw).header.lookup 8 = some (.view 0 1) ∧
    alFind (plainInit t8 t9 t35 raw).header.lookup 9 = some (.view 1 1) ∧
    alFind (plainInit t8 t9 t35 raw).header.lookup 35 = some (.view 2 1) := by
  simp only [plainInit, FieldMap.add, h8, h9, h35]
  exact ⟨by rw [alFind_insert_other _ _ _ _ (by decide), alFind_insert_other _ _ _ _ (by decide)]; exact alFind_insert_self _ _ _,
         by rw [alFind_insert_other _ _ _ _ (by decide)]; exact alFind_insert_self _ _ _, alFind_insert_self _ _ _⟩

theorem secOf_header (t : Tag) (h : t.isHeader = true) : secOf d t = .h := by
  simp [secOf, isHeaderField, h]

def plainFinal (d : Dicts) (t8 t9 t35 : TagValue) (pre : List TagValue) (t10 : TagValue) : PCore :=
  finishAdjust (plainSwitch d (3 + pre.length) t10
    { (plainRun d 3 pre (t10.bytes ++ []) (plainInit t8 t9 t35 (wireOf (pre ++ [t10])))) with rawBytes := [] })

theorem parseLoop_plain_ok (fx : Fixes) (t8 t9 t35 : TagValue) (pre : List TagValue) (t10 : TagValue)
    (hw : WireMsg t8 t9 t35 pre t10)
    (hbl : atoi t9.value = .ok ((fieldsLength (t8 :: t9 :: t35 :: (pre ++ [t10])) : Nat) : Int))
    (hng : ∀ tv ∈ pre, NoGroupTag d tv.tag) (hng10 : NoGroupTag d 10) (hh10 : isHeaderField d 10 = false) :
    parseLoop fx d .main ([t8, t9, t35] ++ List.replicate (pre ++ [t10]).length TagValue.zero) 3
        (plainInit t8 t9 t35 (wireOf (pre ++ [t10]))) =
      .ok (t8 :: t9 :: t35 :: (pre ++ [t10]), plainFinal d t8 t9 t35 pre t10) := by
  have h1 : isHeaderField d t10.tag = false := by rw [hw.tag10]; exact hh10
  have h2 : isTrailerField d t10.tag = true := by rw [hw.tag10]; exact isTrailerField_ten d
  obtain ⟨e, hr, hx⟩ := parseLoop_plainRun (d := d) fx pre ([t8, t9, t35] ++ List.replicate (pre ++ [t10]).length TagValue.zero) 3
    (plainInit t8 t9 t35 (wireOf (pre ++ [t10]))) (t10.bytes ++ []) hw.wpre hng rfl (by simp [plainInit, wireOf]) (by simp; omega)
  rw [e, parseLoop_ends (d := d) fx .main _ _ _ _ t10 [] (by rw [setRange_length]; simp; omega) hx (by rw [hr]; exact extractField_wire t10 [] hw.w10)
      (by simp only [switchOf]; rw [mainSwitch_plain _ _ _ _ _ (by rw [hw.tag10]; exact hng10)]) hw.tag10,
    setRange_snoc]
  have hsr := setRange_replicate TagValue.zero (pre ++ [t10]) [t8, t9, t35]
  simp only [List.length_cons, List.length_nil] at hsr
  rw [hsr]
  refine finish_ok _ _ t9 ?_ rfl hbl
  simp only [plainSwitch, h1, h2, Bool.false_eq_true, if_false, if_true]
  rw [plainRun_header_find 9 pre 3 _ _ hw.single9]
  exact (plainInit_find t8 t9 t35 _ hw.tag8 hw.tag9 hw.tag35).2.1

def plainMessage (d : Dicts) (t8 t9 t35 : TagValue) (pre : List TagValue) (t10 : TagValue) : Message :=
  { header := (plainFinal d t8 t9 t35 pre t10).header, body := (plainFinal d t8 t9 t35 pre t10).body,
    trailer := (plainFinal d t8 t9 t35 pre t10).trailer, fields := t8 :: t9 :: t35 :: (pre ++ [t10]),
    bodyBytes := (plainFinal d t8 t9 t35 pre t10).bodyBytes, raw := some (wireOf (t8 :: t9 :: t35 :: (pre ++ [t10]))) }

/-- `hh10`: the transport dictionary must not list CheckSum among its header fields (else `10=` is filed in the header and the loop does
    not end) -/
theorem parse_wire_plain (fx : Fixes) (t8 t9 t35 : TagValue) (pre : List TagValue) (t10 : TagValue)
    (hw : WireMsg t8 t9 t35 pre t10)
    (hbl : atoi t9.value = .ok ((fieldsLength (t8 :: t9 :: t35 :: (pre ++ [t10])) : Nat) : Int))
    (hng : ∀ tv ∈ pre, NoGroupTag d tv.tag) (hng10 : NoGroupTag d 10) (hh10 : isHeaderField d 10 = false) :
    parseMessage fx d (wireOf (t8 :: t9 :: t35 :: (pre ++ [t10]))) = .ok (plainMessage d t8 t9 t35 pre t10) := by
  rw [parseMessage_lead_wire fx t8 t9 t35 _ hw.w8 hw.w9 hw.w35
      (fun tv htv => (List.mem_append.1 htv).elim (fun h => (hw.wpre tv h).1) (fun h => by simp at h; exact h ▸ hw.w10))
      hw.tag8 hw.tag9 hw.tag35,
    parseLoop_plain_ok fx t8 t9 t35 pre t10 hw hbl hng hng10 hh10]
  rfl

theorem plainFinal_sec (t8 t9 t35 : TagValue) (pre : List TagValue) (t10 : TagValue) (s : Sec) :
    (plainFinal d t8 t9 t35 pre t10).sec s =
      (plainSwitch d (3 + pre.length) t10 { (plainRun d 3 pre (t10.bytes ++ []) (plainInit t8 t9 t35 (wireOf (pre ++ [t10])))) with rawBytes := [] }).sec s := by
  unfold plainFinal
  cases s
  · exact (finishAdjust_keeps _).1
  · exact (finishAdjust_keeps _).2.2.1
  · exact (finishAdjust_keeps _).2.2.2

theorem plainFinal_adds (t8 t9 t35 : TagValue) (pre : List TagValue) (t10 : TagValue) (hw : WireMsg t8 t9 t35 pre t10) (s : Sec) :
    (plainFinal d t8 t9 t35 pre t10).sec s =
      applyAdds s (plainAdds d 0 (t8 :: t9 :: t35 :: (pre ++ [t10]))) (match s with
        | .h => FieldMap.empty .header | .b => FieldMap.empty .normal | .t => FieldMap.empty .trailer) := by
  have hinit : (plainInit t8 t9 t35 (wireOf (pre ++ [t10]))).sec s = applyAdds s [(.h, 8, .view 0 1), (.h, 9, .view 1 1), (.h, 35, .view 2 1)]
      (match s with | .h => FieldMap.empty .header | .b => FieldMap.empty .normal | .t => FieldMap.empty .trailer) := by
    cases s <;> simp [plainInit, PCore.sec, applyAdds, secAdd, hw.tag8, hw.tag9, hw.tag35]
  have hl : plainAdds d 0 (t8 :: t9 :: t35 :: (pre ++ [t10])) =
      [(.h, 8, .view 0 1), (.h, 9, .view 1 1), (.h, 35, .view 2 1)] ++ (plainAdds d 3 pre ++ [(secOf d t10.tag, t10.tag, .view (3 + pre.length) 1)]) := by
    simp [plainAdds, plainAdds_append, hw.tag8, hw.tag9, hw.tag35, secOf_header 8 rfl, secOf_header 9 rfl, secOf_header 35 rfl]
  rw [plainFinal_sec, plainSwitch_sec, withRaw_sec, plainRun_sec, hinit, hl, applyAdds_append, applyAdds_append]
  rfl

theorem plainFinal_find (t8 t9 t35 : TagValue) (pre : List TagValue) (t10 : TagValue) (hw : WireMsg t8 t9 t35 pre t10)
    (j : Nat) (tv : TagValue) (hj : (t8 :: t9 :: t35 :: (pre ++ [t10]))[j]? = some tv)
    (huniq : ∀ j' tv', (t8 :: t9 :: t35 :: (pre ++ [t10]))[j']? = some tv' → j' ≠ j → tv'.tag ≠ tv.tag) :
    alFind ((plainFinal d t8 t9 t35 pre t10).sec (secOf d tv.tag)).lookup tv.tag = some (.view j 1) := by
  rw [plainFinal_adds t8 t9 t35 pre t10 hw]
  refine applyAdds_find_at _ _ _ _ j _ (by rw [plainAdds_getElem, hj, Nat.zero_add]; rfl) (fun j' a h hne hh => ?_)
  rw [plainAdds_getElem] at h
  obtain ⟨tv', h', rfl⟩ := Option.map_eq_some_iff.1 h
  exact huniq j' tv' h' hne hh.2

theorem noGroupTag_none (t : Tag) : NoGroupTag Dicts.none t := fun _ h => nomatch h

theorem secOf_none (t : Tag) : secOf Dicts.none t = secND t := by
  simp [secOf, secND, isHeaderField, isTrailerField, Dicts.none]

def ndFinal (t8 t9 t35 : TagValue) (pre : List TagValue) (t10 : TagValue) : PCore := plainFinal Dicts.none t8 t9 t35 pre t10

def ndMessage (t8 t9 t35 : TagValue) (pre : List TagValue) (t10 : TagValue) : Message := plainMessage Dicts.none t8 t9 t35 pre t10

theorem parse_wire_nodict (fx : Fixes) (t8 t9 t35 : TagValue) (pre : List TagValue) (t10 : TagValue)
    (hw : WireMsg t8 t9 t35 pre t10)
    (hbl : atoi t9.value = .ok ((fieldsLength (t8 :: t9 :: t35 :: (pre ++ [t10])) : Nat) : Int)) :
    parseMessage fx Dicts.none (wireOf (t8 :: t9 :: t35 :: (pre ++ [t10]))) = .ok (ndMessage t8 t9 t35 pre t10) :=
  parse_wire_plain fx t8 t9 t35 pre t10 hw hbl (fun _ _ => noGroupTag_none _) (noGroupTag_none _) rfl

theorem ndFinal_find (t8 t9 t35 : TagValue) (pre : List TagValue) (t10 : TagValue) (hw : WireMsg t8 t9 t35 pre t10)
    (j : Nat) (tv : TagValue) (hj : (t8 :: t9 :: t35 :: (pre ++ [t10]))[j]? = some tv)
    (huniq : ∀ j' tv', (t8 :: t9 :: t35 :: (pre ++ [t10]))[j']? = some tv' → j' ≠ j → tv'.tag ≠ tv.tag) :
    alFind ((ndFinal t8 t9 t35 pre t10).sec (secND tv.tag)).lookup tv.tag = some (.view j 1) :=
  secOf_none tv.tag ▸ plainFinal_find t8 t9 t35 pre t10 hw j tv hj huniq

end Qfx
