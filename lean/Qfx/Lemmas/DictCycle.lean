/-
  Qfx.Lemmas.DictCycle — the builder that refuses circular component references (`buildPartsS … buildS`) against the unchecked
  builder and against the executable spec.  A successful checked build is the same successful unchecked build (`buildWithS_ok`);
  an error of the build is an error of the member loop on a declared member list (`buildWithS_errIn`).  Two inductions over the
  exits of `buildPartsS` say which errors there are: never `overflow` within the size of the list at hand + the sizes of the
  components not yet on the stack (`sumOut`, which `Ast.size` bounds); and, without undefined references, besides `overflow`
  only `cycle`, at a component that has no finite expansion (`StackInv`).  "A well-formed file loads" is the two together.
  The same measure and invariant make `Ast.size + 1` an adequate budget for the naive expansion of a declared component (`expandSpec_comp_adequate`).
-/
import Qfx.Lemmas.Dict
namespace Qfx.Dict

section
variable {ν : Type} [DecidableEq ν]

theorem buildPartsS_ok (a : Ast ν) (fuel : Nat) (top : Bool) (memo : Memo ν) (stack : List ν) (ms : List (Member ν))
    (r : List Part × Memo ν) (h : buildPartsS a fuel top memo stack ms = .ok r) :
    buildParts a fuel top memo ms = .ok r := by
  -- the checked loop differs by the `cycle` exit only: on its successful exits both loops took the same branches
  fun_induction buildPartsS a fuel top memo stack ms generalizing r <;> try cases h
  -- the cases are the exits of `buildPartsS` in the order of its definition: 1 budget 0, 2 no member left, 3–5 field (unknown
  -- name, rest fails, ok), 6–9 group (unknown name, members fail, rest fails, ok), 10–11 memoised component (rest fails, ok),
  -- 12–17 component not in the table (at top level, undeclared, on the stack, its members fail, rest fails, ok)
  case case2 => simp only [buildParts]
  case case5 hfd _ _ h1 ih => simp only [buildParts, hfd, ih _ h1]
  case case9 hfd _ _ h1 _ _ h2 ihg ih => simp only [buildParts, hfd, ihg _ h1, ih _ h2]
  case case11 hct _ _ h1 ih => simp only [buildParts, hct, ih _ h1]
  case case17 top _ _ _ _ _ hct htop _ hcms _ _ _ h1 ct _ _ h2 ihc ih =>
    have : top = false := by simpa using htop
    subst this
    simp only [buildParts, hct, hcms, ihc _ h1, Bool.false_eq_true, if_false]
    rw [show newComponentType _ = ct from rfl, ih _ h2]

theorem buildComponentsS_ok (a : Ast ν) (fuel : Nat) : ∀ l memo memo',
    buildComponentsS a fuel l memo = .ok memo' → buildComponents a fuel l memo = .ok memo' := by
  intro l memo memo' h
  fun_induction buildComponentsS a fuel l memo with
  | case1 memo => exact h
  | case2 n ms rest memo ct hct ih => simp only [buildComponents, hct]; exact ih h
  | case3 => cases h
  | case4 n ms rest memo hct ps memo1 h1 ih => simp only [buildComponents, hct, buildPartsS_ok a _ _ _ _ _ _ h1]; exact ih h

theorem buildMsgsS_ok (a : Ast ν) (fuel : Nat) (mk : List Part → MDef) (memo : Memo ν) : ∀ l acc msgs,
    buildMsgsS a fuel mk memo l acc = .ok msgs → buildMsgs a fuel mk memo l acc = .ok msgs := by
  intro l acc msgs h
  fun_induction buildMsgsS a fuel mk memo l acc with
  | case1 acc => exact h
  | case2 => cases h
  | case3 mt ms rest acc ps memo1 h1 ih => simp only [buildMsgs, buildPartsS_ok a _ _ _ _ _ _ h1]; exact ih h

theorem buildOptS_ok (a : Ast ν) (fuel : Nat) (mk : List Part → MDef) (memo : Memo ν)
    (o : Option (List (Member ν))) (r : Option MDef)
    (h : buildOptS a fuel mk memo o = .ok r) : buildOpt a fuel mk memo o = .ok r := by
  revert h
  fun_cases buildOptS a fuel mk memo o with
  | case1 => exact id
  | case2 => nofun
  | case3 ms ps memo1 h1 => intro h; simp only [buildOpt, buildPartsS_ok a _ _ _ _ _ _ h1]; exact h

theorem buildWithS_ok {a : Ast ν} {fuel : Nat} {mk : List Part → MDef} {d : Dict ν}
    (h : buildWithS a fuel mk = .ok d) : buildWith a fuel mk = .ok d := by
  revert h
  -- case5: the one `.ok` exit
  fun_cases buildWithS a fuel mk with
  | case5 memo hc msgs hm hd hh tr ht =>
    intro h
    simp only [buildWith, buildComponentsS_ok a _ _ _ _ hc, buildMsgsS_ok a _ _ _ _ _ _ hm,
      buildOptS_ok a _ _ _ _ _ hh, buildOptS_ok a _ _ _ _ _ ht]
    exact h
  | _ => nofun

theorem expandSpec_zero (a : Ast ν) (ms : List (Member ν)) : expandSpec a 0 ms = none := by
  simp [expandSpec]

theorem expandSpec_isSome_nil (a : Ast ν) (f : Nat) : (expandSpec a (f + 1) []).isSome = true := by
  simp [expandSpec]

theorem expandSpec_isSome_field (a : Ast ν) (f : Nat) (n : ν) (r : Bool) (rest : List (Member ν)) :
    (expandSpec a (f + 1) (.field n r :: rest)).isSome =
      ((specFieldNum a n).isSome && (expandSpec a f rest).isSome) := by
  simp only [expandSpec]
  cases specFieldNum a n with
  | none => rfl
  | some t =>
    cases expandSpec a f rest with
    | none => rfl
    | some x => obtain ⟨fs, rq⟩ := x; rfl

theorem expandSpec_isSome_group (a : Ast ν) (f : Nat) (n : ν) (r : Bool) (gms rest : List (Member ν)) :
    (expandSpec a (f + 1) (.group n r gms :: rest)).isSome =
      ((specFieldNum a n).isSome && (expandSpec a f gms).isSome && (expandSpec a f rest).isSome) := by
  simp only [expandSpec]
  cases specFieldNum a n with
  | none => rfl
  | some t =>
    cases expandSpec a f gms with
    | none => rfl
    | some x =>
      obtain ⟨ks, krq⟩ := x
      cases expandSpec a f rest with
      | none => rfl
      | some y => obtain ⟨fs, rq⟩ := y; rfl

theorem expandSpec_isSome_comp (a : Ast ν) (f : Nat) (n : ν) (r : Bool) (rest : List (Member ν)) :
    (expandSpec a (f + 1) (.comp n r :: rest)).isSome =
      (match specComp a n with
       | none => false
       | some cms => (expandSpec a f cms).isSome && (expandSpec a f rest).isSome) := by
  simp only [expandSpec]
  cases specComp a n with
  | none => rfl
  | some cms =>
    dsimp only
    cases expandSpec a f cms with
    | none => rfl
    | some x =>
      obtain ⟨cs, crq⟩ := x
      cases expandSpec a f rest with
      | none => rfl
      | some y => obtain ⟨fs, rq⟩ := y; rfl

theorem expandSpec_tail {a : Ast ν} {g : Nat} {m : Member ν} {rest : List (Member ν)}
    (h : (expandSpec a (g + 1) (m :: rest)).isSome = true) : (expandSpec a g rest).isSome = true := by
  cases m with
  | field n r =>
    rw [expandSpec_isSome_field, Bool.and_eq_true] at h; exact h.2
  | group n r gms =>
    rw [expandSpec_isSome_group, Bool.and_eq_true] at h; exact h.2
  | comp n r =>
    rw [expandSpec_isSome_comp] at h
    split at h
    · cases h
    · rw [Bool.and_eq_true] at h; exact h.2

theorem expandSpec_group_inv {a : Ast ν} {g : Nat} {n : ν} {r : Bool} {gms rest : List (Member ν)}
    (h : (expandSpec a (g + 1) (.group n r gms :: rest)).isSome = true) :
    (expandSpec a g gms).isSome = true := by
  rw [expandSpec_isSome_group, Bool.and_eq_true, Bool.and_eq_true] at h; exact h.1.2

theorem expandSpec_comp_inv {a : Ast ν} (wf : WFNames a) {g : Nat} {n : ν} {r : Bool}
    {rest cms : List (Member ν)} (hc : CompDef a n cms)
    (h : (expandSpec a (g + 1) (.comp n r :: rest)).isSome = true) :
    (expandSpec a g cms).isSome = true := by
  rw [expandSpec_isSome_comp, specComp_of_def wf hc] at h
  simp only [Bool.and_eq_true] at h; exact h.1

/-- every component on the stack needs at least the budget the current member list needs -/
def StackInv (a : Ast ν) (st : List ν) (ms : List (Member ν)) : Prop :=
  ∀ s ∈ st, ∀ cms, CompDef a s cms → ∀ g, (expandSpec a g cms).isSome = true →
    ∃ g', g' ≤ g ∧ (expandSpec a g' ms).isSome = true

theorem StackInv.nil (a : Ast ν) (ms : List (Member ν)) : StackInv a [] ms := by
  intro s hs; cases hs

theorem StackInv.single {a : Ast ν} (wf : WFNames a) {n : ν} {ms : List (Member ν)} (hc : CompDef a n ms) :
    StackInv a [n] ms := by
  intro s hs cms hcd g hg
  have : s = n := by simpa using hs
  subst this
  rw [CompDef.unique wf hcd hc] at hg
  exact ⟨g, Nat.le_refl _, hg⟩

theorem StackInv.tail {a : Ast ν} {st : List ν} {m : Member ν} {rest : List (Member ν)}
    (h : StackInv a st (m :: rest)) : StackInv a st rest := by
  intro s hs cms hcd g hg
  obtain ⟨g', hle, hs'⟩ := h s hs cms hcd g hg
  cases g' with
  | zero => rw [expandSpec_zero] at hs'; cases hs'
  | succ k => exact ⟨k, by omega, expandSpec_tail hs'⟩

theorem StackInv.group {a : Ast ν} {st : List ν} {n : ν} {r : Bool} {gms rest : List (Member ν)}
    (h : StackInv a st (.group n r gms :: rest)) : StackInv a st gms := by
  intro s hs cms hcd g hg
  obtain ⟨g', hle, hs'⟩ := h s hs cms hcd g hg
  cases g' with
  | zero => rw [expandSpec_zero] at hs'; cases hs'
  | succ k => exact ⟨k, by omega, expandSpec_group_inv hs'⟩

theorem StackInv.comp {a : Ast ν} (wf : WFNames a) {st : List ν} {n : ν} {r : Bool}
    {rest cms : List (Member ν)} (h : StackInv a st (.comp n r :: rest)) (hc : CompDef a n cms) :
    StackInv a (n :: st) cms := by
  intro s hs cms' hcd g hg
  rcases List.mem_cons.1 hs with rfl | hs
  · rw [CompDef.unique wf hcd hc] at hg
    exact ⟨g, Nat.le_refl _, hg⟩
  · obtain ⟨g', hle, hs'⟩ := h s hs cms' hcd g hg
    cases g' with
    | zero => rw [expandSpec_zero] at hs'; cases hs'
    | succ k => exact ⟨k, by omega, expandSpec_comp_inv wf hc hs'⟩

/-- infinite descent: were `cms` to expand within `g`, the invariant gives a smaller budget within which the list at hand,
    and so `cms` again (it is referenced from there), expands -/
theorem StackInv.never {a : Ast ν} (wf : WFNames a) {st : List ν} {n : ν} {r : Bool}
    {rest cms : List (Member ν)} (h : StackInv a st (.comp n r :: rest)) (hc : CompDef a n cms)
    (hn : n ∈ st) : ∀ g, (expandSpec a g cms).isSome = false := by
  intro g
  induction g using Nat.strongRecOn with
  | ind g ih =>
    cases hg : (expandSpec a g cms).isSome with
    | false => rfl
    | true =>
      obtain ⟨g', hle, hs'⟩ := h n hn cms hc g hg
      cases g' with
      | zero => rw [expandSpec_zero] at hs'; cases hs'
      | succ k =>
        have := ih k (by omega)
        rw [expandSpec_comp_inv wf hc hs'] at this
        cases this

theorem StackInv.not_mem {a : Ast ν} (wf : WFNames a) {st : List ν} {n : ν} {r : Bool}
    {rest cms : List (Member ν)} (h : StackInv a st (.comp n r :: rest)) (hc : CompDef a n cms)
    {g : Nat} (hg : (expandSpec a g cms).isSome = true) : n ∉ st := by
  intro hn
  rw [h.never wf hc hn g] at hg
  cases hg

/-- the member lists built against the finished component table: messages, header, trailer -/
def Ast.tops (a : Ast ν) : List (List (Member ν)) := a.msgs.map (·.2) ++ a.header.toList ++ a.trailer.toList

omit [DecidableEq ν] in
theorem mem_bodies_of_comp {a : Ast ν} {c : ν × List (Member ν)} (h : c ∈ a.comps) : c.2 ∈ a.bodies := by
  simp only [Ast.bodies, List.mem_append, List.mem_map]
  exact .inl (.inl (.inl ⟨c, h, rfl⟩))

omit [DecidableEq ν] in
theorem mem_bodies_of_top {a : Ast ν} {ms : List (Member ν)} (h : ms ∈ a.tops) : ms ∈ a.bodies := by
  simp only [Ast.tops, List.mem_append] at h
  simp only [Ast.bodies, List.mem_append]
  rcases h with (h | h) | h
  · exact .inl (.inl (.inr h))
  · exact .inl (.inr h)
  · exact .inr h

theorem le_sum_map_of_mem {α : Type} (f : α → Nat) {l : List α} {x : α} (hx : x ∈ l) :
    f x ≤ (l.map f).sum := by
  induction l with
  | nil => cases hx
  | cons y r ih =>
    simp only [List.map_cons, List.sum_cons]
    rcases List.mem_cons.1 hx with rfl | hx'
    · omega
    · have := ih hx'; omega

omit [DecidableEq ν] in
theorem size_of_top {a : Ast ν} {ms : List (Member ν)} (h : ms ∈ a.tops) :
    membersSize ms + (a.comps.map (fun c => membersSize c.2)).sum ≤ a.size := by
  simp only [Ast.tops, List.mem_append, List.mem_map, Option.mem_toList] at h
  unfold Ast.size
  rcases h with (⟨c, hc, rfl⟩ | h) | h
  · have := le_sum_map_of_mem (fun c : ν × List (Member ν) => membersSize c.2) hc
    omega
  · rw [h]; simp only; omega
  · rw [h]; simp only; omega

variable {a : Ast ν} {fuel : Nat} {E : BErr → Prop}

theorem buildComponentsS_errIn
    (hc : ∀ c ∈ a.comps, ∀ memo e, buildPartsS a fuel false memo [c.1] c.2 = .error e → E e) :
    ∀ l memo, (∀ c ∈ l, c ∈ a.comps) → ∀ e, buildComponentsS a fuel l memo = .error e → E e := by
  intro l memo hsub e h
  fun_induction buildComponentsS a fuel l memo with
  | case1 => cases h
  | case2 n ms rest memo ct hct ih => exact ih (fun c hc => hsub c (List.mem_cons_of_mem _ hc)) h
  | case3 n ms rest memo hct e' he => cases h; exact hc _ (hsub _ (List.mem_cons_self ..)) memo _ he
  | case4 n ms rest memo hct ps memo1 h1 ih => exact ih (fun c hc => hsub c (List.mem_cons_of_mem _ hc)) h

theorem buildMsgsS_errIn {mk : List Part → MDef} {memo : Memo ν}
    (ht : ∀ ms ∈ a.tops, ∀ e, buildPartsS a fuel true memo [] ms = .error e → E e) :
    ∀ l acc, (∀ c ∈ l, c ∈ a.msgs) → ∀ e, buildMsgsS a fuel mk memo l acc = .error e → E e := by
  intro l acc hsub e h
  fun_induction buildMsgsS a fuel mk memo l acc with
  | case1 => cases h
  | case2 mt ms rest acc e' he =>
    cases h
    refine ht ms ?_ _ he
    simp only [Ast.tops, List.mem_append, List.mem_map]
    exact .inl (.inl ⟨(mt, ms), hsub _ (List.mem_cons_self ..), rfl⟩)
  | case3 mt ms rest acc ps memo1 h1 ih => exact ih (fun c hc => hsub c (List.mem_cons_of_mem _ hc)) h

theorem buildOptS_errIn {mk : List Part → MDef} {memo : Memo ν} {o : Option (List (Member ν))}
    (ht : ∀ ms, o = some ms → ∀ e, buildPartsS a fuel true memo [] ms = .error e → E e) :
    ∀ e, buildOptS a fuel mk memo o = .error e → E e := by
  intro e
  fun_cases buildOptS a fuel mk memo o with   -- case2: the member loop failed
  | case2 ms e' he => intro h; cases h; exact ht ms rfl _ he
  | _ => nofun

/-- an error of the build is an error of the member loop on a declared component (its own name on the stack) or, behind the components, on a
    message, the header or the trailer: whatever `E` holds of those errors holds of the build's -/
theorem buildWithS_errIn {mk : List Part → MDef}
    (hc : ∀ c ∈ a.comps, ∀ memo e, buildPartsS a fuel false memo [c.1] c.2 = .error e → E e)
    (ht : ∀ memo, buildComponentsS a fuel a.comps [] = .ok memo → ∀ ms ∈ a.tops, ∀ e,
      buildPartsS a fuel true memo [] ms = .error e → E e) :
    ∀ e, buildWithS a fuel mk = .error e → E e := by
  intro e
  fun_cases buildWithS a fuel mk with
  | case1 e' he => intro h; cases h; exact buildComponentsS_errIn hc a.comps [] (fun _ h => h) _ he
  | case2 memo hmemo e' he => intro h; cases h; exact buildMsgsS_errIn (ht memo hmemo) a.msgs [] (fun _ h => h) _ he
  | case3 memo hmemo msgs hm e' he =>
    intro h; cases h
    exact buildOptS_errIn (fun ms hms => ht memo hmemo ms (by simp [Ast.tops, hms])) _ he
  | case4 memo hmemo msgs hm hd hh e' he =>
    intro h; cases h
    exact buildOptS_errIn (fun ms hms => ht memo hmemo ms (by simp [Ast.tops, hms])) _ he
  | case5 => nofun

/-- every declared component is in the memo table -/
def MemoFull (a : Ast ν) (memo : Memo ν) : Prop :=
  ∀ n cms, CompDef a n cms → (Memo.get? memo n).isSome = true

theorem MemoFull.of_le {a : Ast ν} {m m' : Memo ν} (h : MemoFull a m) (hle : MemoLe m m') : MemoFull a m' :=
  fun n cms hc => hle n (h n cms hc)

theorem buildComponentsS_full {memo : Memo ν} (h : buildComponentsS a fuel a.comps [] = .ok memo) : MemoFull a memo :=
  fun n cms hcd => (buildComponents_complete a fuel a.comps [] memo (buildComponentsS_ok a fuel _ _ _ h)).2 (n, cms) hcd

/-- total size of the declared components that are not being built -/
def sumOut (st : List ν) : List (ν × List (Member ν)) → Nat
  | [] => 0
  | c :: l => (if c.1 ∈ st then 0 else membersSize c.2) + sumOut st l

theorem sumOut_nil (l : List (ν × List (Member ν))) :
    sumOut ([] : List ν) l = (l.map (fun c => membersSize c.2)).sum := by
  induction l with
  | nil => rfl
  | cons c l ih => simp [sumOut, ih]

theorem out_push_le (n : ν) (st : List ν) (c : ν × List (Member ν)) :
    (if c.1 ∈ n :: st then 0 else membersSize c.2) ≤ (if c.1 ∈ st then 0 else membersSize c.2) := by
  by_cases h : c.1 ∈ st
  · simp [h]
  · rw [if_neg h]
    split
    · exact Nat.zero_le _
    · exact Nat.le_refl _

theorem sumOut_push_le (n : ν) (st : List ν) (l : List (ν × List (Member ν))) :
    sumOut (n :: st) l ≤ sumOut st l := by
  induction l with
  | nil => exact Nat.le_refl _
  | cons c l ih => exact Nat.add_le_add (out_push_le n st c) ih

theorem sumOut_push (n : ν) (cms : List (Member ν)) (st : List ν) (l : List (ν × List (Member ν)))
    (hm : (n, cms) ∈ l) (hn : n ∉ st) : sumOut (n :: st) l + membersSize cms ≤ sumOut st l := by
  induction l with
  | nil => cases hm
  | cons c l ih =>
    rcases List.mem_cons.1 hm with heq | hm'
    · subst heq
      have := sumOut_push_le n st l
      simp only [sumOut, List.mem_cons, true_or, if_true, hn, if_false]
      omega
    · have := ih hm'
      have := out_push_le n st c
      simp only [sumOut]
      omega

theorem buildPartsS_no_overflow (a : Ast ν) (fuel : Nat) (top : Bool) (memo : Memo ν) (st : List ν)
    (ms : List (Member ν)) (hsz : membersSize ms + sumOut st a.comps ≤ fuel) :
    buildPartsS a fuel top memo st ms ≠ .error .overflow := by
  -- an `overflow` comes from the exit at budget 0 or is passed up from a recursive call; both contradict the budget
  fun_induction buildPartsS a fuel top memo st ms <;> intro h <;> cases h
  -- exits numbered as in `buildPartsS_ok`
  case case1 ms => have := membersSize_pos ms; omega
  all_goals simp only [membersSize, Member.size] at hsz
  case case4 rest _ _ ih he => have := membersSize_pos rest; exact ih (by omega) he
  case case7 gms rest _ _ ih he => have := membersSize_pos rest; exact ih (by omega) he
  case case8 gms rest _ _ _ _ _ _ ih he => have := membersSize_pos gms; exact ih (by omega) he
  case case10 ih he => exact ih (by omega) he
  case case15 st n _ rest _ _ cms hcms hst ih he =>
    -- starting on component `n` takes its size out of what is left for the others
    have := sumOut_push n cms st a.comps (compByName_sound hcms) (by simpa using hst)
    have := membersSize_pos rest
    exact ih (by omega) he
  case case16 ih he => exact ih (by omega) he

theorem buildWithS_no_overflow (a : Ast ν) (fuel : Nat) (hfuel : a.size ≤ fuel) (mk : List Part → MDef) :
    buildWithS a fuel mk ≠ .error .overflow := by
  have hs := sumOut_nil (ν := ν) a.comps
  intro h
  refine buildWithS_errIn (E := (· ≠ .overflow)) ?_ ?_ _ h rfl
  · intro c hc memo e he heq
    subst heq
    have hpush := sumOut_push c.1 c.2 [] a.comps hc (by simp)
    have hsz : (a.comps.map (fun c => membersSize c.2)).sum ≤ a.size := by unfold Ast.size; omega
    exact buildPartsS_no_overflow a fuel false memo [c.1] c.2 (by omega) he
  · intro memo _ ms hms e he heq
    subst heq
    have := size_of_top hms
    exact buildPartsS_no_overflow a fuel true memo [] ms (by omega) he

/-- induction on the expansion; the expansion of a referenced component (induction hypothesis at the empty stack) shows that it
    is not on the stack (`StackInv.not_mem`) -/
theorem Expands.within {a : Ast ν} (wf : WFNames a) {ms : List (Member ν)} {fs : List FDef} (h : Expands a ms fs) :
    ∀ f st, StackInv a st ms → membersSize ms + sumOut st a.comps ≤ f → (expandSpec a f ms).isSome = true := by
  induction h with
  | nil =>
    intro f st _ hsz
    cases f with
    | zero => simp only [membersSize] at hsz; omega
    | succ f => exact expandSpec_isSome_nil a f
  | field hf _ ih =>
    intro f st hinv hsz
    simp only [membersSize, Member.size] at hsz
    cases f with
    | zero => omega
    | succ f =>
      rw [expandSpec_isSome_field, Bool.and_eq_true]
      exact ⟨specFieldNum_isSome.2 ⟨_, hf⟩, ih f st hinv.tail (by omega)⟩
  | group hf _ _ _ ihg ihr =>
    intro f st hinv hsz
    simp only [membersSize, Member.size] at hsz
    cases f with
    | zero => omega
    | succ f =>
      rw [expandSpec_isSome_group, Bool.and_eq_true, Bool.and_eq_true]
      exact ⟨⟨specFieldNum_isSome.2 ⟨_, hf⟩, ihg f st hinv.group (by omega)⟩, ihr f st hinv.tail (by omega)⟩
  | @comp n _ cms _ _ _ hc _ _ ihc ihr =>
    intro f st hinv hsz
    simp only [membersSize, Member.size] at hsz
    cases f with
    | zero => omega
    | succ f =>
      have hnm : n ∉ st := hinv.not_mem wf hc (ihc _ [] (.nil a cms) (Nat.le_refl _))
      have hpush := sumOut_push n cms st a.comps hc hnm
      simp only [expandSpec_isSome_comp, specComp_of_def wf hc, Bool.and_eq_true]
      exact ⟨ihc f (n :: st) (hinv.comp wf hc) (by omega), ihr f st hinv.tail (by omega)⟩

theorem expandSpec_comp_adequate {a : Ast ν} (wf : WFNames a) {c : ν × List (Member ν)} (hc : c ∈ a.comps)
    {fs : List FDef} (he : Expands a c.2 fs) : (expandSpec a (a.size + 1) c.2).isSome = true := by
  have hpush := sumOut_push c.1 c.2 [] a.comps hc (by simp)
  have hs := sumOut_nil (ν := ν) a.comps
  apply he.within wf (a.size + 1) [c.1] (StackInv.single wf hc)
  unfold Ast.size
  omega

theorem buildWith_acyclic {a : Ast ν} (wf : WFNames a) {fuel : Nat} {mk : List Part → MDef} {d : Dict ν}
    (h : buildWith a fuel mk = .ok d) : acyclicB a = true := by
  unfold acyclicB
  rw [List.all_eq_true]
  intro c hc
  have hs := (buildComponents_complete a fuel a.comps [] d.comps (buildWith_inv h).1).2 c hc
  obtain ⟨ct, hct⟩ := Option.isSome_iff_exists.1 hs
  obtain ⟨cms, hcd, he, _⟩ := buildWith_memoOK wf h c.1 ct hct
  have : cms = c.2 := CompDef.unique wf hcd (show CompDef a c.1 c.2 from hc)
  subst this
  exact expandSpec_comp_adequate wf hc he

theorem buildPartsS_memoLe (a : Ast ν) {fuel : Nat} {top : Bool} {memo : Memo ν} {st : List ν}
    {ms : List (Member ν)} {ps : List Part} {memo' : Memo ν}
    (h : buildPartsS a fuel top memo st ms = .ok (ps, memo')) : MemoLe memo memo' :=
  (buildParts_builds (buildPartsS_ok a _ _ _ _ _ _ h)).memoLe

theorem buildPartsS_error (a : Ast ν) (wf : WFNames a) (hall : ∀ ms ∈ a.bodies, RefsOK a ms)
    (fuel : Nat) (top : Bool) (memo : Memo ν) (st : List ν) (ms : List (Member ν)) (hrefs : RefsOK a ms)
    (hfull : top = true → MemoFull a memo) (hinv : StackInv a st ms) (e : BErr)
    (h : buildPartsS a fuel top memo st ms = .error e) :
    e = .overflow ∨ e = .cycle ∧ ∃ c ∈ a.comps, ∀ g, (expandSpec a g c.2).isSome = false := by
  -- every error exit: `overflow`/`cycle` themselves, an undefined name (excluded by `hrefs`, `hfull`), or passed up
  fun_induction buildPartsS a fuel top memo st ms generalizing e <;> cases h
  -- exits numbered as in `buildPartsS_ok`
  case case1 => exact .inl rfl
  case case14 hcms hst =>
    have hc := compByName_sound hcms
    exact .inr ⟨rfl, _, hc, hinv.never wf hc (by simpa using hst)⟩
  case case3 hnone =>
    cases hrefs with
    | field hf _ => obtain ⟨fd, hfd⟩ := fieldByName_of_fieldNum hf; rw [hfd] at hnone; cases hnone
  case case6 hnone =>
    cases hrefs with
    | group hf _ _ => obtain ⟨fd, hfd⟩ := fieldByName_of_fieldNum hf; rw [hfd] at hnone; cases hnone
  case case4 he ih => cases hrefs with | field _ hrest => exact ih hrest hfull hinv.tail _ he
  case case7 he ih => cases hrefs with | group _ hg _ => exact ih hg (fun ht => by cases ht) hinv.group _ he
  case case8 h1 _ he _ ih =>
    cases hrefs with
    | group _ _ hrest => exact ih hrest (fun ht => (hfull ht).of_le (buildPartsS_memoLe a h1)) hinv.tail _ he
  case case10 he ih => cases hrefs with | comp _ hrest => exact ih hrest hfull hinv.tail _ he
  case case12 hnone =>
    cases hrefs with
    | comp hc _ => have := hfull rfl _ _ hc; rw [hnone] at this; cases this
  case case13 hnone =>
    cases hrefs with
    | comp hc _ => rw [compByName_of_def wf hc] at hnone; cases hnone
  case case15 hcms _ _ he ih =>
    have hc := compByName_sound hcms
    exact ih (hall _ (mem_bodies_of_comp hc)) (fun ht => by cases ht) (hinv.comp wf hc) _ he
  case case16 htop _ _ _ _ _ _ _ _ he _ ih =>
    cases hrefs with
    | comp _ hrest => exact ih hrest (fun ht => absurd ht htop) hinv.tail _ he

theorem buildWithS_error {a : Ast ν} (wf : WFNames a) (hd : ¬ Dangling a) {fuel : Nat} {mk : List Part → MDef}
    {e : BErr} (h : buildWithS a fuel mk = .error e) :
    e = .overflow ∨ e = .cycle ∧ ∃ c ∈ a.comps, ∀ g, (expandSpec a g c.2).isSome = false := by
  have hall : ∀ ms ∈ a.bodies, RefsOK a ms := fun ms hms => Classical.byContradiction (fun hn => hd ⟨ms, hms, hn⟩)
  refine buildWithS_errIn (E := fun e => e = .overflow ∨ e = .cycle ∧ _) ?_ ?_ e h
  · intro c hc memo e he
    exact buildPartsS_error a wf hall fuel false memo [c.1] c.2 (hall _ (mem_bodies_of_comp hc)) (fun ht => by cases ht)
      (.single wf hc) _ he
  · intro memo hmemo ms hms e he
    exact buildPartsS_error a wf hall fuel true memo [] ms (hall _ (mem_bodies_of_top hms))
      (fun _ => buildComponentsS_full hmemo) (.nil a ms) _ he

/-- the budget excludes `overflow`, the expansions of the components exclude `cycle` -/
theorem buildWithS_loads (a : Ast ν) (wf : WFNames a) (hd : ¬ Dangling a) (fuel : Nat) (hfuel : a.size < fuel)
    (hac : ∀ c ∈ a.comps, (expandSpec a fuel c.2).isSome = true) (mk : List Part → MDef) :
    ∃ d, buildWithS a fuel mk = .ok d := by
  cases h : buildWithS a fuel mk with
  | ok d => exact ⟨d, rfl⟩
  | error e =>
    rcases buildWithS_error wf hd h with rfl | ⟨_, c, hc, hn⟩
    · exact absurd h (buildWithS_no_overflow a fuel (Nat.le_of_lt hfuel) mk)
    · exact absurd (hac c hc) (by rw [hn fuel]; exact Bool.false_ne_true)

/-- the unchecked builder loads BECAUSE the checked one does -/
theorem buildWith_ok (a : Ast ν) (wf : WFNames a) (hd : ¬ Dangling a) (fuel : Nat) (hfuel : a.size < fuel)
    (hac : ∀ c ∈ a.comps, (expandSpec a fuel c.2).isSome = true) (mk : List Part → MDef) :
    ∃ d, buildWith a fuel mk = .ok d :=
  let ⟨d, h⟩ := buildWithS_loads a wf hd fuel hfuel hac mk
  ⟨d, buildWithS_ok h⟩

end
end Qfx.Dict
