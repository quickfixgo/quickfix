/-
  Lemmas for C07 (Props/C07.lean): continuity as an instance of the generic frame theorem of SessPool (policy: no `reset`
  observation, store monotone); what the reset clauses speak of as equations — the Logons we send as records with the reset flag
  a variable, `handleLogon` up to its tail, `nxEval` row by row, the disconnect, SequenceReset, CheckResetTime.
-/
import Qfx.Lemmas.SessPool
import Qfx.Spec.SessionTypedC07
namespace Qfx.Sess
open Qfx

theorem StoreMono.refl (a : Store) : StoreMono a a := ⟨rfl, List.suffix_refl _, Int.le_refl _, Int.le_refl _⟩
theorem StoreMono.trans {a b c : Store} (h1 : StoreMono a b) (h2 : StoreMono b c) : StoreMono a c :=
  ⟨h2.epoch.trans h1.epoch, h1.msgs.trans h2.msgs, Int.le_trans h1.sender h2.sender, Int.le_trans h1.target h2.target⟩

instance contPolicy : Policy (fun o => o ≠ Obs.reset) StoreMono where
  sRefl := StoreMono.refl
  sTrans := StoreMono.trans
  nWire := fun _ => by simp
  nSaved := fun _ _ _ => by simp
  nIncS := by simp
  nIncT := by simp
  nSetT := fun _ => by simp
  nArm := fun _ => by simp
  nClosed := by simp
  nOnLogout := by simp
  nRefresh := by simp
  sPersist := fun st seq m => ⟨rfl, List.suffix_cons _ _, by simp; omega, Int.le_refl _⟩
  sIncS := fun st => ⟨rfl, List.suffix_refl _, by simp; omega, Int.le_refl _⟩
  sTarget := fun st n h => ⟨rfl, List.suffix_refl _, Int.le_refl _, h⟩

theorem cont_msgHyp (cfg : Cfg) (m : InMsg) (hm : NoResetIn m) : MsgHyp (fun o => o ≠ Obs.reset) StoreMono NoResetIn cfg m where
  p := hm
  cb := by intro _ s'; unfold cbObs; split <;> simp
  cbA := by intro _ _ s'; unfold cbObs; split <;> simp
  onLogon := by intro _ _ _; simp
  ro := Or.inr hm

theorem cont_evOK (cfg : Cfg) (hc : cfg.resetSeqTime = none) (e : Ev) (h : NoResetEv e) :
    EvOK (fun o => o ≠ Obs.reset) StoreMono NoResetIn cfg e := by
  cases e with
  | incomingMsg o => intro x hx; subst hx; exact h
  | arrive m => exact h
  | send m => exact Or.inr h
  | sessionTime a b => exact Or.inl h
  | resetTime now => exact Or.inr hc
  | _ => trivial

theorem continuity_run (s : Sess) (evs : List Ev) (hcfg : NoResetOptions s.cfg) (hpool : PoolInv NoResetIn s)
    (hev : ∀ e ∈ evs, NoResetEv e) :
    (∀ o ∈ _root_.traceOf s evs, o ≠ Obs.reset) ∧ StoreMono s.store (_root_.runEvents s evs).store
      ∧ PoolInv NoResetIn (_root_.runEvents s evs) ∧ (_root_.runEvents s evs).cfg = s.cfg := by
  have := run_good (N := fun o => o ≠ Obs.reset) (S := StoreMono) (P := NoResetIn) s evs
    (fun m hm => cont_msgHyp s.cfg m hm) (Or.inr hcfg.1) hpool
    (fun e he => cont_evOK s.cfg hcfg.2 e (hev e he))
  exact ⟨this.1, this.2.1, this.2.2.2, this.2.2.1⟩

theorem logonMsgX_141 (s : Sess) (nx : Option Int) : (logonMsgX s true nx).f.get? 141 = some "Y" := by
  unfold logonMsgX mkOut Fields.get?
  simp

theorem logonMsgX_mem141 (s : Sess) (nx : Option Int) : (141, "Y") ∈ (logonMsgX s true nx).f := by
  unfold logonMsgX mkOut
  simp

theorem logonMsgX_no141 (s : Sess) (nx : Option Int) : (logonMsgX s false nx).f.get? 141 = none := by
  unfold logonMsgX mkOut Fields.get? nxTag
  cases nx <;> by_cases h : s.cfg.applVer.isEmpty = true <;> simp [h, List.find?]

theorem logonMsg_mem141 (s : Sess) : (141, "Y") ∈ (logonMsg s true).f := logonMsgX_mem141 s _
theorem logonMsgRe_mem141 (s : Sess) (m : InMsg) : (141, "Y") ∈ (logonMsgRe s true m).f := logonMsgX_mem141 s _

/-- a Logon whose ResetSeqNumFlag reads `Y` has tag 141: its tag 789 is not evaluated -/
theorem has141_of_flag (m : InMsg) (h : logonResetFlag m = true) : m.f.has 141 = true := by
  unfold logonResetFlag getBool at h
  cases hg : m.f.get? 141 with
  | none => rw [hg] at h; simp at h
  | some v => exact Fields.has_of_get? _ _ v hg

theorem nxEval_flag (s : Sess) (m : InMsg) (ns : Int) (h : logonResetFlag m = true) : nxEval s m ns = (s, none) := by
  unfold nxEval; rw [has141_of_flag m h]; simp

/-- **the Logon sent on our own account**, the reset flag a variable: with 141=Y the store is reset first and `sentReset`
    raised; the Logon takes the next outbound number of that store, is persisted and replaces the queue -/
theorem sendLogon_eq (s : Sess) (reset : Bool) :
    sendLogonInReplyTo s reset =
      (if reset then s.storeReset.setSentReset true else s).sent []
        { stamp s (logonMsg s reset) with seq := if reset then 1 else s.store.sender } := by
  unfold sendLogonInReplyTo
  rw [dropAndSend_admin s _ rfl]
  unfold outgoing prepBase
  rw [resetLogon_logonMsg]
  cases reset <;> rfl

/-- **the acceptor's answer to the Logon `m`** -/
theorem sendLogonRe_eq (s : Sess) (reset : Bool) (m : InMsg) :
    sendLogonRe s reset m =
      (if reset then s.storeReset.setSentReset true else s).sent []
        { stamp s ((logonMsgRe s reset m).inReplyTo m) with seq := if reset then 1 else s.store.sender } := by
  unfold sendLogonRe
  rw [dropAndSend_admin s _ rfl]
  unfold outgoing prepBase
  rw [resetLogon_re, show resetLogon (logonMsgRe s reset m) = reset from resetLogon_logonMsgX s reset _]
  cases reset <;> rfl

/-- **the reply step for a Logon without ResetSeqNumFlag**: an initiator does nothing, an acceptor answers from `replyBase` -/
theorem logonReply_eq (x : Sess) (m : InMsg) : logonReply x m false =
    if x.cfg.initiator then x else
      (replyBase x m).sent [] { stamp (replyBase x m) ((logonMsgRe (replyBase x m) false m).inReplyTo m) with seq := x.store.sender } := by
  rw [logonReply_base, sendLogonRe_eq, (replyBase_frame x m).2.2.1]
  cases x.cfg.initiator <;> rfl

/-- **a Logon that passes every gate reaches the tail**: validation, the administrative callback, BeginString / CompIDs /
    SendingTime, and a MsgSeqNum not below the number expected after the reset the Logon may cause (the converse of
    `gate_logon` but for `h5`, the FIXT.1.1 check of tag 1137) -/
theorem handleLogon_tail (s : Sess) (m : InMsg) (h5 : (s.cfg.bs == 5 && !m.f.has 1137) = false) (hg : GateMsg s.cfg m)
    (ht : TimeGate s m) (hv : callbackVerdict m = none) (n : Int) (h34 : getInt m 34 = .val n)
    (hge : (if logonResets s m then 1 else s.store.target) ≤ n) :
    handleLogon s m = logonTail (logonS3 s m) m s.store.sender := by
  obtain ⟨c1, c2, _, _, _, c6⟩ := logonS3_frame s m
  have hle : (logonS3 s m).store.target ≤ n := by
    rw [c6]; cases hR : logonResets s m <;> simp only [hR, Bool.false_eq_true, ↓reduceIte] at hge ⊢ <;> exact hge
  have e2 : (verifySelect (logonS3 s m) m false true false).2 = none := by
    rw [verifySelect_complete _ m false true false (by rw [c1]; exact hg.begin) (by rw [c1]; exact hg.comp)
      (timeGate_congr m c2 c1 ht) ⟨fun _ => ⟨n, h34, hle⟩, fun h => by cases h⟩]
    rfl
  rw [handleLogon_eq, if_neg (by rw [h5]; simp), show validate s.cfg m = none from hg.valid, hv, e2]

theorem logon_reset_received (s : Sess) (m : InMsg) (hi : s.cfg.initiator = false)
    (h5 : (s.cfg.bs == 5 && !m.f.has 1137) = false) (hg : GateMsg s.cfg m) (ht : TimeGate s m)
    (hv : callbackVerdict m = none) (hf : logonResetFlag m = true) (hsr : s.sentReset = false) (h34 : getInt m 34 = .val 1)
    (hnx : nxAbove s.cfg m 1 = false) :
    ∃ base : Sess, base.cfg = s.cfg ∧ base.store.target = 1 ∧
    let reply : OutMsg := { stamp base ((logonMsgRe base true m).inReplyTo m) with seq := 1 }
    let r := handleLogon s m
    r.2 = none ∧ r.1.store.sender = 2 ∧ r.1.store.target = 2 ∧ r.1.sentReset = false
    ∧ r.1.store.msgs = (if s.cfg.persist then [(1, reply)] else [])
    ∧ (141, "Y") ∈ reply.f ∧ reply.kind = "A" ∧ reply.seq = 1
    ∧ (s.out = true → Obs.wire reply ∈ r.1.log) ∧ Obs.onLogon ∈ r.1.log ∧ Obs.reset ∈ r.1.log := by
  have hyes : logonResets s m = true := by unfold logonResets; rw [hf, hsr]; simp
  have htail := handleLogon_tail s m h5 hg ht hv 1 h34 (by rw [hyes]; exact Int.le_refl _)
  obtain ⟨c3, _, c3out, c3sr, _, c3store⟩ := logonS3_frame s m
  rw [hyes, if_pos rfl] at c3store
  generalize logonS3 s m = s3 at htail c3 c3out c3sr c3store
  obtain ⟨b1, _, b3, b4, _, b6, _⟩ := replyBase_frame s3 m
  -- the tail: not refused (after the reset our next number is 1), answered with the reset Logon, tag 789 not evaluated
  have hnr : logonRefuses s3 m true = false := by
    unfold logonRefuses nxRefuses; rw [c3, c3store, show s.store.reset.sender = 1 from rfl, hnx, Bool.and_false]
  have e3 : logonReply s3 m true = sendLogonRe (replyBase s3 m) true m := by
    rw [logonReply_base, if_pos (by rw [c3, hi]; rfl), b6, c3sr, hsr]
    simp only [Bool.and_false, Bool.false_and, Bool.false_eq_true, if_false]
  have hl : handleLogon s m = (incrTarget (notified (sendLogonRe (replyBase s3 m) true m)), none) := by
    rw [htail]
    unfold logonTail
    rw [hf, hnr, if_neg Bool.false_ne_true, e3, logonFinish_of_nx (nxEval_flag _ m _ hf) h34, sendLogonRe_eq]
    exact if_neg (Int.lt_irrefl 1)
  refine ⟨replyBase s3 m, b1.trans c3, by rw [b3, c3store]; rfl, ?_⟩
  rw [hl, sendLogonRe_eq]
  generalize replyBase s3 m = base at b1 b4 ⊢
  intro reply r
  refine ⟨rfl, rfl, rfl, rfl, by rw [← c3, ← b1]; rfl, logonMsgRe_mem141 _ _, rfl, rfl, fun ho => ?_, ?_, ?_⟩ <;>
    (show _ ∈ (incrTarget (notified (_ : Sess))).log; rw [if_pos rfl, answered_log])
  · rw [show (base.storeReset.setSentReset true).out = true by rw [← ho, ← c3out, ← b4]; rfl]
    simp [reply]
  · simp
  · simp [Sess.storeReset, Sess.setSentReset, Sess.emit]

theorem logonMsgX_mem789 (s : Sess) (reset : Bool) (n : Int) : (789, toString n) ∈ (logonMsgX s reset (some n)).f := by
  unfold logonMsgX mkOut; simp [nxTag]

theorem logonMsgX_no789 (s : Sess) (reset : Bool) : (logonMsgX s reset none).f.get? 789 = none := by
  unfold logonMsgX mkOut Fields.get? nxTag
  cases reset <;> by_cases h : s.cfg.applVer.isEmpty = true <;> simp [h, List.find?]

theorem nxEval_quiet (s : Sess) (m : InMsg) (ns : Int)
    (h : s.cfg.nextExpected = false ∨ m.f.has 141 = true ∨ peerNext m = none ∨ peerNext m = some ns) : nxEval s m ns = (s, none) := by
  unfold nxEval
  rcases h with h | h | h | h
  · rw [h]; rfl
  · rw [h]; simp
  · rw [h]; simp
  · rw [h]; simp

theorem nxEval_fill (s : Sess) (m : InMsg) (ns n : Int) (h1 : s.cfg.nextExpected = true) (h2 : m.f.has 141 = false)
    (h3 : peerNext m = some n) (h4 : n ≠ ns) (hp : s.cfg.persist = true) :
    nxEval s m ns = (enqueueAndSend s (gapFillRe s m n (ns + 1)), none) := by
  unfold nxEval
  rw [h1, h2, h3, hp]
  simp [h4]

theorem nxEval_nopersist (s : Sess) (m : InMsg) (ns n : Int) (h1 : s.cfg.nextExpected = true) (h2 : m.f.has 141 = false)
    (h3 : peerNext m = some n) (h4 : n ≠ ns) (hp : s.cfg.persist = false) :
    nxEval s m ns = (s, some (.tooHigh n ns)) := by
  unfold nxEval
  rw [h1, h2, h3, hp]
  simp [h4]

theorem logonFixMsgIn_of_ok (s : Sess) (m : InMsg) (hk : kindOf m = "A") (h : (handleLogon s m).2 = none) :
    logonFixMsgIn s m = ((handleLogon s m).1, .inSession) := by
  unfold logonFixMsgIn
  rw [if_neg (by simp [hk])]
  generalize handleLogon s m = r at h
  obtain ⟨s', o⟩ := r
  simp only [] at h
  subst h
  rfl

theorem relF_logonS2 {N : Obs → Prop} {S : Store → Store → Prop} [Policy N S] (s : Sess) (m : InMsg)
    (hcb : N (cbObs (logonS1 s) m)) : RelF N S s (logonS1 s) ∧ RelF N S s (logonS2 s m) := by
  have h1 : RelF N S s (logonS1 s) := ite_both (RelF.emit s _ (Policy.nRefresh S)) (RelF.refl s)
  exact ⟨h1, h1.trans (RelF.emit _ _ hcb)⟩

/-- a Logon that causes no reset, handled under the continuity policy: every way out of `handleLogon` before the tail is a
    stage; the tail is what `tail` says of it -/
theorem logon_no_reset (s : Sess) (m : InMsg) (hno : logonResets s m = false)
    (tail : ∀ ns, RelF (fun o => o ≠ Obs.reset) StoreMono (logonS2 s m) (logonTail (logonS2 s m) m ns).1) :
    RelF (fun o => o ≠ Obs.reset) StoreMono s (handleLogon s m).1 := by
  obtain ⟨h1, h2⟩ := relF_logonS2 (N := fun o => o ≠ Obs.reset) (S := StoreMono) s m (by unfold cbObs; split <;> simp)
  rw [handleLogon_eq]
  split
  · exact RelF.refl s
  · split
    · exact h1
    · split
      · exact h2
      · rw [logonS3_of_noReset hno]
        split
        · exact h2
        · exact h2.trans (tail _)

theorem logon_echo_no_reset (s : Sess) (m : InMsg) (hi : s.cfg.initiator = true) (hsr : s.sentReset = true) :
    RelF (fun o => o ≠ Obs.reset) StoreMono s (handleLogon s m).1 := by
  refine logon_no_reset s m (by unfold logonResets; rw [hi, hsr]; simp) (fun ns => ?_)
  have a2 : (logonS2 s m).cfg.initiator = true := by rw [(logonS2_frame s m).1]; exact hi
  have hrep : logonReply (logonS2 s m) m (logonResetFlag m) = logonS2 s m := by unfold logonReply; rw [a2]; rfl
  unfold logonTail
  split
  · have : logonRefused (logonS2 s m) m = logonS2 s m := by unfold logonRefused; rw [a2]; rfl
    rw [this]; exact RelF.refl _
  · rw [hrep]; exact relF_logonFinish _ m _ (by simp)

theorem logon_echo_no_reset_acceptor (s : Sess) (m : InMsg) (hi : s.cfg.initiator = false) (hrol : s.cfg.resetOnLogon = false)
    (hsr : s.sentReset = true) (hl : s.st.loggedOn = true) :
    RelF (fun o => o ≠ Obs.reset) StoreMono s (handleLogon s m).1 := by
  refine logon_no_reset s m (by unfold logonResets; rw [hi, hrol, hsr]; simp) (fun ns => ?_)
  obtain ⟨c1, c2, _, c4, _⟩ := logonS2_frame s m
  generalize logonS2 s m = s4 at c1 c2 c4 ⊢
  have hb : (replyBase s4 m).sentReset = true ∧ (replyBase s4 m).st.loggedOn = true ∧
      RelF (fun o => o ≠ Obs.reset) StoreMono s4 (replyBase s4 m) := by
    have hl4 : s4.st.loggedOn = true := by rw [c2]; exact hl
    unfold replyBase; split
    · cases getInt m 108 <;> exact ⟨c4.trans hsr, hl4, RelF.of_eq rfl rfl rfl rfl rfl⟩
    · exact ⟨c4.trans hsr, hl4, RelF.refl _⟩
  have hr : RelF (fun o => o ≠ Obs.reset) StoreMono s4 (logonReply s4 m (logonResetFlag m)) := by
    rw [logonReply_base]
    have : (!s4.cfg.initiator) = true := by rw [c1, hi]; rfl
    rw [if_pos this, hb.1, hb.2.1]
    cases logonResetFlag m
    · simp only [Bool.false_and, Bool.false_eq_true, if_false]
      exact hb.2.2.trans (relF_sendLogonRe _ false m (Or.inr rfl))
    · rw [if_pos (show (true && true && true) = true from rfl)]; exact hb.2.2
  unfold logonTail
  split
  · exact relF_logonRefused _ m
  · exact hr.trans (relF_logonFinish _ m _ (by simp))

theorem shouldSendReset_fix40 (s : Sess) (h : s.cfg.bs = 0) : shouldSendReset s = false := by
  unfold shouldSendReset; rw [h]; rfl

theorem processReject_not_latent (s : Sess) (m : InMsg) (r : Rej) : (processReject s m r).2 ≠ .latent := by
  have ite : ∀ {c : Prop} [Decidable c] {a b : Sess × SState}, a.2 ≠ .latent → b.2 ≠ .latent →
      (if c then a else b).2 ≠ .latent := by
    intro c _ a b ha hb; split <;> assumption
  have ins : SState.inSession ≠ .latent := nofun
  have lo : SState.logout ≠ .latent := nofun
  cases r with
  | tooHigh a b => simp only [processReject]; split <;> exact nofun
  | tooLow a b =>
    show (doTargetTooLow s m).2 ≠ .latent
    unfold doTargetTooLow
    split
    · exact ins
    · refine ite lo ?_
      split
      · exact ins
      · exact ins
      · split
        · exact ins
        · exact ins
        · exact ite lo ins
  | badBeginString => exact lo
  | rejectLogon => exact ins
  | plain a b c => exact ite lo ins

theorem dropAndReset_store (s : Sess) : (dropAndReset s).store = s.store.reset := rfl

theorem reset_on_logout (s : Sess) (m : InMsg) (hcfg : s.cfg.resetOnLogout = true) (hl : (handleLogout s m).2 = .latent) :
    (handleLogout s m).1.store.sender = 1 ∧ (handleLogout s m).1.store.target = 1 ∧ (handleLogout s m).1.store.msgs = []
    ∧ Obs.reset ∈ (handleLogout s m).1.log := by
  unfold handleLogout at hl ⊢
  have hv := relF_verifySelect (N := fun _ => True) (S := fun _ _ => True) (P := fun _ => True) s m false false true
    ⟨trivial, fun _ _ => trivial, fun _ _ _ => trivial, fun _ _ _ => trivial, Or.inl triv_resetOK⟩
  generalize verifySelect s m false false true = r at hv hl
  obtain ⟨s', o⟩ := r
  cases o with
  | some r => exact absurd hl (processReject_not_latent s' m r)
  | none =>
    dsimp only at hl ⊢
    generalize hs2 : (if s'.st.loggedOn = true then sendInReplyTo s' ((mkOut "5" []).inReplyTo m) else s') = s2
    have h2 : RelF (fun _ => True) (fun _ _ => True) s s2 :=
      hs2 ▸ ite_both (hv.trans (relF_sendInReplyTo s' _ (Or.inr rfl))) hv
    have : s2.cfg.resetOnLogout = true := by rw [h2.cfg]; exact hcfg
    rw [if_pos this]
    exact ⟨rfl, rfl, rfl, by simp [dropAndReset, Sess.storeReset, Sess.emit]⟩

theorem reset_on_disconnect_mid (s : Sess) (hcfg : s.cfg.resetOnDisconnect = true) :
    (discMid s).store = s.store.reset ∧ Obs.reset ∈ (discMid s).log :=
  ⟨by rw [(discMid_store s).1, hcfg]; rfl, (discMid_store s).2 hcfg⟩

theorem discMid_keeps_store (s : Sess) (hcfg : s.cfg.resetOnDisconnect = false) : (discMid s).store = s.store := by
  rw [(discMid_store s).1, hcfg]; rfl

theorem disconnected_store (s : Sess) (hc : s.st.connected = true) (hi : s.inbox = []) :
    (step s .disconnected).1.store = (discMid s.clearLog).store ∧ (step s .disconnected).1.st = .latent := by
  have hf : fuelOf s = 7 + 1 := by unfold fuelOf; rw [hi]; rfl
  rw [step_disconnected, if_pos hc, hf, setState_disconnect 7 s.clearLog .latent rfl hc hi]
  -- the field updates are unfolded by `simp`: `rfl` would first try to unify the updated session with `discMid …` as a whole
  split <;> simp only [Sess.clearLog, Sess.setSt, Sess.setStopped, Sess.closeInbox, and_self]

/-- GapFillFlag as the handler reads it -/
def gapFillOf (m : InMsg) : Bool := match getBool m 123 with | .val b => b | _ => false

theorem handleSequenceReset_eq (s : Sess) (m : InMsg) (h123 : getBool m 123 ≠ .garbled) :
    handleSequenceReset s m =
      match verifySelect s m (gapFillOf m) (gapFillOf m) true with
      | (s, some r) => processReject s m r
      | (s, none) =>
        match getInt m 36 with
        | .val n =>
          if n > s.store.target then ((s.setTarget n).emit (.setT n), SState.inSession)
          else if n < s.store.target then (doReject s m 5 none false, SState.inSession)
          else (s, SState.inSession)
        | _ => (s, SState.inSession) := by
  unfold handleSequenceReset gapFillOf
  cases h : getBool m 123 with
  | garbled => exact absurd h h123
  | missing => rfl
  | val b => rfl

theorem seqreset_forward_only (s : Sess) (m : InMsg) (n : Int) (h123 : getBool m 123 ≠ .garbled) (h36 : getInt m 36 = .val n)
    (hg : GateMsg s.cfg m) (ht : TimeGate s m) (hv : callbackVerdict m = none)
    (hseq : SeqGate s m (gapFillOf m) (gapFillOf m)) :
    let s1 := s.emit (cbObs s m)
    (n > s.store.target → handleSequenceReset s m = ((s1.setTarget n).emit (.setT n), .inSession))
    ∧ (n = s.store.target → handleSequenceReset s m = (s1, .inSession))
    ∧ (n < s.store.target → handleSequenceReset s m = (doReject s1 m 5 none false, .inSession)) := by
  intro s1
  have hvs : verifySelect s m (gapFillOf m) (gapFillOf m) true = (s1, none) := by
    rw [verifySelect_complete s m _ _ true hg.begin hg.comp ht hseq]
    simp only [if_true]
    rw [verifyAppImpl_pass s m hg.valid, hv]
  rw [handleSequenceReset_eq s m h123, hvs]
  simp only [h36]
  have ht1 : s1.store.target = s.store.target := rfl
  rw [ht1]
  refine ⟨?_, ?_, ?_⟩
  · intro h; rw [if_pos h]
  · intro h; rw [if_neg (by omega), if_neg (by omega)]
  · intro h; rw [if_neg (by omega), if_pos h]

theorem seqreset_never_backwards (s : Sess) (m : InMsg) (hk : kindOf m = "4") :
    RelF (fun o => o ≠ Obs.reset) StoreMono s (handleSequenceReset s m).1 := by
  have hm : MsgHyp (fun o => o ≠ Obs.reset) StoreMono (fun _ => True) s.cfg m :=
    ⟨trivial, by intro _ s'; unfold cbObs; split <;> simp, by intro _ _ s'; unfold cbObs; split <;> simp, by intro _ _ _; simp,
      Or.inr (by intro h; rw [hk] at h; exact absurd h (by decide))⟩
  exact (hout_handleSequenceReset s m hk hm (by intro p _; trivial)).rel

theorem connect_acceptor_store (s : Sess) (hi : s.cfg.initiator = false) (hcfg : s.cfg.resetOnDisconnect = false) :
    (connect s).1.store = s.store := by
  cases hc : s.st.connected
  · cases ht : s.st.sessionTime
    · rw [connect_nottime s hc ht, hcfg]; rfl
    · rw [connect_acceptor s hc ht hi]; rfl
  · rw [connect_already s hc]

theorem prep_target (s : Sess) (m : OutMsg) (h : resetLogon m = false) : (prep s m).2.store.target = s.store.target := by
  rw [prep_eq, prepBase_plain h]
  split
  · rfl
  · rw [persistOut_eq]

theorem sendInReplyTo_target (s : Sess) (m : OutMsg) (h : resetLogon m = false) : (sendInReplyTo s m).store.target = s.store.target := by
  unfold sendInReplyTo queueForSend
  split
  · have hp := prep_target s m.asNew (by rw [resetLogon_asNew]; exact h)
    generalize prep s m.asNew = r at hp
    obtain ⟨_ | _, s'⟩ := r <;> exact hp
  · have hp := prep_target s m h
    generalize prep s m = r at hp
    obtain ⟨_ | _, s'⟩ := r
    · exact hp
    · show (sendQueued _).store.target = _
      unfold sendQueued; split <;> exact hp

theorem doReject_target (s : Sess) (m : InMsg) (r : Nat) (t : Option Nat) (b : Bool) : (doReject s m r t b).store.target = s.store.target :=
  sendInReplyTo_target s _ (resetLogon_rejectMsg _ _ _ _ _)

theorem crossedReset_iff (rs : Nat) (last now : Int) :
    crossedReset rs last now = true ↔ last < resetInstant rs now ∧ resetInstant rs now ≤ now := by
  unfold crossedReset
  simp

theorem resetInstant_day (rs : Nat) (now : Int) (h : rs < 86400) :
    resetInstant rs now / 86400 = now / 86400 ∧ resetInstant rs now % 86400 = rs := by
  unfold resetInstant
  omega

theorem checkResetTime_crossed (s : Sess) (now last : Int) (rs : Nat) (hrs : s.cfg.resetSeqTime = some rs)
    (hl : s.lastCheckedReset = some last) (hc : s.st.connected = true) (hx : crossedReset rs last now = true) :
    checkResetTime s now = (sendLogonInReplyTo s true).setLastChecked now := by
  unfold checkResetTime
  simp only [hrs, hl, hc, hx, Bool.not_true, Bool.false_eq_true, if_false, if_true]

theorem checkResetTime_quiet (s : Sess) (now : Int)
    (h : s.cfg.resetSeqTime = none ∨ s.lastCheckedReset = none ∨ s.st.connected = false
         ∨ (∀ rs last, s.cfg.resetSeqTime = some rs → s.lastCheckedReset = some last → crossedReset rs last now = false)) :
    checkResetTime s now = s ∨ checkResetTime s now = s.setLastChecked now := by
  unfold checkResetTime
  split
  · exact Or.inl rfl
  · rename_i rs hrs
    split
    · exact Or.inr rfl
    · rename_i last hl
      split
      · exact Or.inr rfl
      · rename_i hc
        rcases h with h | h | h | h
        · rw [h] at hrs; cases hrs
        · rw [h] at hl; cases hl
        · rw [h] at hc; simp at hc
        · rw [h rs last hrs hl]; exact Or.inr rfl

theorem checkResetTime_records (s : Sess) (now : Int) (rs : Nat) (hrs : s.cfg.resetSeqTime = some rs) :
    (checkResetTime s now).lastCheckedReset = some now := by
  unfold checkResetTime
  simp only [hrs]
  repeat' split
  all_goals rfl

end Qfx.Sess
