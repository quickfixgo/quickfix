/-
  Groups described level by level — a group without nested groups (`FlatGroup`), a group with one nested group (`NestedGroup`), a group
  whose nested groups are flat with the member fields in ANY arrangement the parser accepts (`Walk2`: several entries, each with leaf
  members and any number of nested group instances, return from a nested group to the members of the enclosing one (the D6 pop), one
  nested group directly after another) — are walks of the tag stack (`WalkN`) over stacks of one or two levels: `walk2_walkN`.
  `WalkN` / `GroupWalk` subsume these descriptions; `C13_dict_flat_group_*`, `C13_dict_nested_group_mid`, `C13_dict_depth2_*` and
  `C11_faithful_dict_groups` are stated in them.
-/
import Qfx.Lemmas.CodecDictNest
namespace Qfx
open Qfx.Spec

variable {d : Dicts}

/-- `G` is a repeating group of message type `mt` with (non-empty) member list `C` — nothing said about nesting -/
def OuterGroup (d : Dicts) (mt : Bytes) (G : Tag) (C : List DNode) : Prop :=
  (∃ msgs fs nG, d.app = some msgs ∧ alFindB msgs mt = some fs ∧ dfind fs G = some nG ∧ nG.children = C) ∧ C.isEmpty = false

theorem NestedGroup.outer {mt : Bytes} {G N : Tag} {C CN : List DNode} (hg : NestedGroup d mt G N C CN) : OuterGroup d mt G C := by
  obtain ⟨msgs, fs, nG, nN, hap, hfs, hnG, hcG, _, _⟩ := hg.defd
  exact ⟨⟨msgs, fs, nG, hap, hfs, hnG, hcG⟩, hg.neC⟩

theorem FlatGroup.outer {mt : Bytes} {G : Tag} {C : List DNode} (hg : FlatGroup d mt G C) : OuterGroup d mt G C := ⟨hg.defd, hg.ne⟩

theorem groupOf_of_dfind {C C' : List DNode} {t : Tag} {n : DNode} (hn : dfind C t = some n) (hc : n.children = C')
    (hne : C'.isEmpty = false) : groupOf C t = some C' := by
  simp [groupOf, hn, hc, hne]

theorem OuterGroup.app {mt : Bytes} {G : Tag} {C : List DNode} (hg : OuterGroup d mt G C) :
    ∃ fs, AppMsg d mt fs ∧ groupOf fs G = some C := by
  obtain ⟨⟨msgs, fs, nG, hap, hfs, hnG, hcG⟩, hne⟩ := hg
  exact ⟨fs, ⟨msgs, hap, hfs⟩, groupOf_of_dfind hnG hcG hne⟩

theorem NestedGroup.groupOf {mt : Bytes} {G N : Tag} {C CN : List DNode} (hg : NestedGroup d mt G N C CN) : groupOf C N = some CN := by
  obtain ⟨_, _, _, nN, _, _, _, _, hnN, hcN⟩ := hg.defd
  exact groupOf_of_dfind hnN hcN hg.neN

theorem groupOf_leaves {C : List DNode} (hl : ∀ n ∈ C, n.children.isEmpty = true) (t : Tag) : groupOf C t = none := by
  rw [← pathWalk_single]; exact dfind_leaf_none C hl t

/-- position in the walk through a depth-2 group: among the members of `G`, or inside the nested group `N` (members `CN`) -/
inductive GState where
  | outer
  | inner (N : Tag) (CN : List DNode)

/-- the parser's tag stack at a position -/
def GState.stack (G : Tag) (C : List DNode) : GState → List Level
  | .outer => [(G, C)]
  | .inner N CN => [(G, C), (N, CN)]

def GState.OK (d : Dicts) (mt : Bytes) (G : Tag) (C : List DNode) : GState → Prop
  | .outer => OuterGroup d mt G C
  | .inner N CN => NestedGroup d mt G N C CN

/-- the member fields of a group `G` whose nested groups are flat, in ANY arrangement the parser accepts: leaf members of `G`,
    counts of nested groups, members of the current nested group, back to a leaf member of `G`, on to the next nested count -/
inductive Walk2 (d : Dicts) (mt : Bytes) (G : Tag) (C : List DNode) : GState → List TagValue → GState → Prop where
  | nil (s : GState) : Walk2 d mt G C s [] s
  | leaf {tv r s} : IsWire tv → isGroupMember tv.tag C = true → pathWalk C [tv.tag] = none →
      Walk2 d mt G C .outer r s → Walk2 d mt G C .outer (tv :: r) s
  | start {tv r s CN} : IsWire tv → NestedGroup d mt G tv.tag C CN →
      Walk2 d mt G C (.inner tv.tag CN) r s → Walk2 d mt G C .outer (tv :: r) s
  | inner {tv r s N CN} : IsWire tv → isGroupMember tv.tag CN = true →
      Walk2 d mt G C (.inner N CN) r s → Walk2 d mt G C (.inner N CN) (tv :: r) s
  | pop {tv r s N CN} : IsWire tv → isGroupMember tv.tag CN = false → isGroupMember tv.tag C = true → pathWalk C [tv.tag] = none →
      isHeaderField d tv.tag = false → isTrailerField d tv.tag = false → NoGroupTag d tv.tag →
      Walk2 d mt G C .outer r s → Walk2 d mt G C (.inner N CN) (tv :: r) s
  | restart {tv r s N CN CN'} : IsWire tv → isGroupMember tv.tag CN = false → NestedGroup d mt G tv.tag C CN' →
      isHeaderField d tv.tag = false → isTrailerField d tv.tag = false → NoGroupTag d tv.tag →
      Walk2 d mt G C (.inner tv.tag CN') r s → Walk2 d mt G C (.inner N CN) (tv :: r) s

/-- the member list the parser is looking at in a state -/
def GState.members (C : List DNode) : GState → List DNode
  | .outer => C
  | .inner _ CN => CN

theorem GState.lastGf_stack (G : Tag) (C : List DNode) (s : GState) : lastGf (s.stack G C) = s.members C := by
  cases s <;> rfl

/-- every move of `Walk2` is the move `stepSpec` makes on the one- or two-level stack: a tag the last level of `st0` lists brings the stack
    back to `st0` (`stepSpec_reenter`), where it stays or pushes the nested group the tag starts -/
theorem walk2_walkN {mt : Bytes} {G : Tag} {C : List DNode} {s s' : GState} {M : List TagValue} (hw : Walk2 d mt G C s M s') :
    s.OK d mt G C → WalkN d (s.stack G C) M (s'.stack G C) ∧ s'.OK d mt G C := by
  induction hw with
  | nil s => intro hok; exact ⟨.nil _, hok⟩
  | @leaf tv r s hwire hmem hleaf _ ih =>
    intro hok
    have hstep := stepSpec_reenter tv.tag [(G, C)] [] (by simp) hmem (by simp)
    rw [enterAt, show lastGf [(G, C)] = C from rfl, ← pathWalk_single, hleaf] at hstep
    exact ⟨.step hwire (fun h => by cases hmem.symm.trans h) hstep (ih hok).1, (ih hok).2⟩
  | @start tv r s CN hwire hg _ ih =>
    intro _
    have hmem := groupOf_isMember hg.groupOf
    have hstep := stepSpec_reenter tv.tag [(G, C)] [] (by simp) hmem (by simp)
    rw [enterAt, show lastGf [(G, C)] = C from rfl, hg.groupOf] at hstep
    exact ⟨.step hwire (fun h => by cases hmem.symm.trans h) hstep (ih hg).1, (ih hg).2⟩
  | @inner tv r s N CN hwire hmem _ ih =>
    intro hok
    have hstep := stepSpec_reenter tv.tag [(G, C), (N, CN)] [] (by simp) hmem (by simp)
    rw [enterAt, show lastGf [(G, C), (N, CN)] = CN from rfl, groupOf_leaves hok.leavesN] at hstep
    exact ⟨.step hwire (fun h => by cases hmem.symm.trans h) hstep (ih hok).1, (ih hok).2⟩
  | @pop tv r s N CN hwire hmN hmC hleaf hh ht hng _ ih =>
    intro hok
    have hstep := stepSpec_reenter tv.tag [(G, C)] [(N, CN)] (by simp) hmC (by simpa using hmN)
    rw [enterAt, show lastGf [(G, C)] = C from rfl, ← pathWalk_single, hleaf] at hstep
    exact ⟨.step hwire (fun _ => ⟨hh, ht, hng⟩) hstep (ih hok.outer).1, (ih hok.outer).2⟩
  | @restart tv r s N CN CN' hwire hmN hg' hh ht hng _ ih =>
    intro _
    have hstep := stepSpec_reenter tv.tag [(G, C)] [(N, CN)] (by simp) (groupOf_isMember hg'.groupOf) (by simpa using hmN)
    rw [enterAt, show lastGf [(G, C)] = C from rfl, hg'.groupOf] at hstep
    exact ⟨.step hwire (fun _ => ⟨hh, ht, hng⟩) hstep (ih hg').1, (ih hg').2⟩

theorem GState.stepSpec_exit (G : Tag) (C : List DNode) (s : GState) (t : Tag) (hC : isGroupMember t C = false)
    (hS : isGroupMember t (s.members C) = false) : stepSpec (s.stack G C) t = none := by
  apply Qfx.stepSpec_exit
  cases s with
  | outer => simpa [GState.stack] using hC
  | inner N CN => simpa [GState.stack, GState.members] using And.intro hC hS

theorem FlatGroup.walk2 {mt : Bytes} {G : Tag} {C : List DNode} (hg : FlatGroup d mt G C) :
    ∀ (M : List TagValue), (∀ tv ∈ M, IsWire tv ∧ isGroupMember tv.tag C = true) → Walk2 d mt G C .outer M .outer
  | [], _ => .nil _
  | tv :: r, hM => .leaf (hM tv (by simp)).1 (hM tv (by simp)).2 (dfind_leaf_none C hg.leaves tv.tag)
      (hg.walk2 r fun x hx => hM x (by simp [hx]))

theorem NestedGroup.walk2 {mt : Bytes} {G N : Tag} {C CN : List DNode} (hg : NestedGroup d mt G N C CN) (n0 : TagValue)
    (hn0 : IsWire n0) (hN : n0.tag = N) (MN : List TagValue) (hMN : ∀ tv ∈ MN, IsWire tv ∧ isGroupMember tv.tag CN = true) :
    ∀ (M1 : List TagValue), (∀ tv ∈ M1, IsWire tv ∧ isGroupMember tv.tag C = true ∧ pathWalk C [tv.tag] = none) →
      Walk2 d mt G C .outer (M1 ++ n0 :: MN) (.inner N CN)
  | [], _ => by
    subst hN
    refine .start hn0 hg ?_
    induction MN with
    | nil => exact .nil _
    | cons tv r ih => exact .inner (hMN tv (by simp)).1 (hMN tv (by simp)).2 (ih fun x hx => hMN x (by simp [hx]))
  | tv :: r, hM1 => .leaf (hM1 tv (by simp)).1 (hM1 tv (by simp)).2.1 (hM1 tv (by simp)).2.2
      (hg.walk2 n0 hn0 hN MN hMN r fun x hx => hM1 x (by simp [hx]))

end Qfx
