/-
  The bridge between the independent scanner of `Qfx.Spec.Codec` (`scanFields`, `wfScanned`, `tagNum`) and the parser's vocabulary
  (`IsWire`, `WireMsg`): what the scanner accepts is the concatenation of fields of the wire form, the scanner's numeric tag agrees with
  `atoi`, and a well-formed scan (with the numeric side conditions) is a `WireMsg` with the right BodyLength.
-/
import Qfx.Lemmas.CodecAnyDict
import Qfx.Lemmas.CodecScan
namespace Qfx
open Qfx.Spec

/-- what passes the guard both branches of `tagNum` share: 1–18 digits, whose value then fits comfortably -/
theorem tagNum_guard {ds : Bytes} (hc : ¬ (ds.isEmpty || decide (ds.length > 18) || !ds.all isDigit) = true) :
    ds ≠ [] ∧ ds.all isDigit = true ∧ digitsVal ds < 1000000000000000000 := by
  simp only [Bool.or_eq_true, not_or, Bool.not_eq_true, decide_eq_false_iff_not, Bool.not_eq_false'] at hc
  obtain ⟨⟨hne, hlen⟩, hdig⟩ := hc
  have hdig' : ds.all isDigit = true := by simpa using hdig
  exact ⟨by intro e; subst e; simp at hne, hdig', digitsVal_lt18 ds hdig' (by omega)⟩

theorem atoi_of_tagNum (b : Bytes) (t : Int) (h : tagNum b = some t) : atoi b = .ok t := by
  revert h
  -- case2: `45 :: ds` (45 = `cMinus`) and case4: no sign, both passing the guard
  fun_cases tagNum b with
  | case2 ds hg =>
    intro h; cases h
    obtain ⟨hne, hdig, hb⟩ := tagNum_guard hg
    exact (atoi_neg_digits ds hne hdig).trans (by rw [wrap64_of_in _ (by unfold inInt64; omega)])
  | case4 _ _ hg =>
    intro h; cases h
    obtain ⟨hne, hdig, hb⟩ := tagNum_guard hg
    rw [atoi_digits' b hne hdig, wrap64_of_in _ (by unfold inInt64; omega)]
  | _ => nofun

/-- what the scanner knows about one field: `<tagText>=<val>␁`, the tag text non-empty and free of `=` and SOH, the value SOH-free -/
def FieldShape (f : WField) : Prop :=
  f.tagText ≠ [] ∧ (∀ c ∈ f.tagText, c ≠ cEq ∧ c ≠ SOH) ∧ f.raw = f.tagText ++ cEq :: (f.val ++ [SOH]) ∧ ∀ c ∈ f.val, c ≠ SOH

theorem take_succ_of_getElem? (b : Bytes) (e x : Nat) (h : b[e]? = some x) : b.take (e + 1) = b.take e ++ [x] := by
  rw [List.take_add_one, h]; rfl

theorem no_mem_of_index (l : Bytes) (c n : Nat) (h : ∀ j, j < n → l[j]? ≠ some c) : ∀ x ∈ l.take n, x ≠ c := by
  intro x hx e
  subst e
  obtain ⟨i, hi, hget⟩ := List.mem_iff_getElem.1 hx
  have hin : i < n := by simp at hi; omega
  have : l[i]? = some x := by
    have h1 : (l.take n)[i]? = some x := by rw [List.getElem?_eq_getElem hi, hget]
    rwa [List.getElem?_take, if_pos hin] at h1
  exact h i hin this

theorem scan_shape (b : Bytes) (e q : Nat) (he : indexByte b SOH = some e) (hq : indexByte (b.take (e + 1)) cEq = some q) (hq0 : q ≠ 0) :
    FieldShape { tagText := (b.take (e + 1)).take q, val := ((b.take (e + 1)).take e).drop (q + 1), raw := b.take (e + 1) } ∧
    b = b.take (e + 1) ++ b.drop (e + 1) := by
  obtain ⟨hbe, hbefore⟩ := indexByte_spec b SOH e he
  obtain ⟨hrq, hqbefore⟩ := indexByte_spec _ cEq q hq
  have hraw : b.take (e + 1) = b.take e ++ [SOH] := take_succ_of_getElem? b e SOH hbe
  have hlen : (b.take e).length = e := by
    have := indexByte_lt b SOH e he
    simp; omega
  -- `=` sits strictly before the SOH
  have hqe : q < e := by
    have hql := indexByte_lt _ cEq q hq
    rw [hraw] at hql hrq
    simp only [List.length_append, hlen, List.length_singleton] at hql
    rcases Nat.lt_or_ge q e with h | h
    · exact h
    · have : q = e := by omega
      subst this
      rw [List.getElem?_append_right (by omega), hlen] at hrq
      simp [cEq, SOH] at hrq
  have hnoSOH : ∀ x ∈ b.take e, x ≠ SOH := no_mem_of_index b SOH e hbefore
  have htake : (b.take (e + 1)).take e = b.take e := by rw [hraw, List.take_left' hlen]
  have htt : (b.take (e + 1)).take q = (b.take e).take q := by
    rw [hraw, List.take_append_of_le_length (by omega)]
  have hqin : (b.take e)[q]? = some cEq := by
    rw [hraw, List.getElem?_append_left (by omega)] at hrq; exact hrq
  have hsplit : b.take e = (b.take e).take q ++ cEq :: (b.take e).drop (q + 1) := by
    have h1 : (b.take e) = (b.take e).take (q + 1) ++ (b.take e).drop (q + 1) := (List.take_append_drop _ _).symm
    rw [take_succ_of_getElem? _ q cEq hqin] at h1
    simpa [List.append_assoc] using h1
  refine ⟨⟨?_, ?_, ?_, ?_⟩, (List.take_append_drop _ _).symm⟩
  · show (b.take (e + 1)).take q ≠ []
    rw [htt]
    intro h0
    have hl : ((b.take e).take q).length = q := by rw [List.length_take, hlen]; omega
    rw [h0] at hl
    simp at hl
    omega
  · intro c hc
    show c ≠ cEq ∧ c ≠ SOH
    have hc' : c ∈ (b.take e).take q := by rw [← htt]; exact hc
    refine ⟨?_, hnoSOH c (List.mem_of_mem_take hc')⟩
    exact no_mem_of_index (b.take (e + 1)) cEq q hqbefore c hc
  · show b.take (e + 1) = (b.take (e + 1)).take q ++ cEq :: (((b.take (e + 1)).take e).drop (q + 1) ++ [SOH])
    rw [htake, htt, hraw]
    have h2 := congrArg (fun l => l ++ [SOH]) hsplit
    simp only [List.append_assoc, List.cons_append] at h2
    exact h2
  · intro c hc
    show c ≠ SOH
    have : c ∈ (b.take e).drop (q + 1) := by rw [← htake]; exact hc
    exact hnoSOH c (List.mem_of_mem_drop this)

/-- the scanner inverts nothing but the wire form: whatever `scanFields` accepts (no field whose numeric tag is 212) is the concatenation
    of its fields' raw bytes, every field of the shape `<tagText>=<val>␁` -/
theorem scanLoop_wire : ∀ (fuel : Nat) (b : Bytes) (fs : List WField), scanLoop fuel b 0 = some fs →
    (∀ f ∈ fs, tagNum f.tagText ≠ some 212) → b = (fs.map (·.raw)).flatten ∧ ∀ f ∈ fs, FieldShape f := by
  intro fuel b
  -- the recursive call carries a pending XMLData length, so the induction is over `xml` (it is 0 again by `hno`)
  generalize hx : 0 = xml
  -- case2: input exhausted; case6: a field scanned (SOH at `e`, `=` at `q ≠ 0`)
  fun_induction scanLoop fuel b xml with
  | case2 => intro fs h _; cases h; exact ⟨rfl, fun f hf => nomatch hf⟩
  | case6 fuel b xml hb endIdx e he raw q hq0 hq f ih =>
    intro fs h hno
    subst hx
    obtain ⟨fs', hrec, rfl⟩ := Option.map_eq_some_iff.1 h
    obtain ⟨hshape, hbsplit⟩ := scan_shape b e q he hq hq0
    -- no field is XMLDataLen, so the scan goes on without a pending length
    have hn212 : f.tagText ≠ [50, 49, 50] := fun e212 => hno f (List.mem_cons_self ..) (by rw [e212]; decide)
    obtain ⟨h1, h2⟩ := ih (if_neg hn212).symm fs' hrec fun g hg => hno g (List.mem_cons_of_mem _ hg)
    exact ⟨by rw [List.map_cons, List.flatten_cons, ← h1]; exact hbsplit, List.forall_mem_cons.2 ⟨hshape, h2⟩⟩
  | _ => intro fs h; cases h

/-- the TagValue the parser stores for a scanned field -/
def tvOf (f : WField) : TagValue := { tag := (tagNum f.tagText).getD 0, value := f.val, bytes := f.raw }

theorem tvOf_wire (f : WField) (hs : FieldShape f) (t : Int) (ht : tagNum f.tagText = some t) : IsWire (tvOf f) ∧ (tvOf f).tag = t := by
  obtain ⟨h1, h2, h3, h4⟩ := hs
  refine ⟨⟨f.tagText, h1, h2, ?_, h3, h4⟩, by simp [tvOf, ht]⟩
  simp only [tvOf, ht, Option.getD_some]
  exact atoi_of_tagNum _ _ ht

theorem wireOf_tvOf (fs : List WField) : wireOf (fs.map tvOf) = (fs.map (·.raw)).flatten := by
  rw [wireOf, List.flatMap_map, List.flatMap_def]; rfl

theorem wfScanned_shape (fs : List WField) (h : wfScanned fs = true) :
    ∃ f8 f9 f35 mid f10, fs = f8 :: f9 :: f35 :: (mid ++ [f10]) ∧ f8.tagText = Spec.t8 ∧ f9.tagText = Spec.t9 ∧ f35.tagText = Spec.t35 ∧
      f10.tagText = Spec.t10 ∧ f9.val = fmtNat (rawLen (f35 :: mid)) := by
  unfold wfScanned at h
  cases fs with
  | nil => cases h
  | cons f8 r1 =>
    cases r1 with
    | nil => cases h
    | cons f9 rest =>
      simp only at h
      cases hr : rest.reverse with
      | nil => rw [hr] at h; cases h
      | cons f10 midRev =>
        rw [hr] at h
        simp only [Bool.and_eq_true, beq_iff_eq] at h
        obtain ⟨⟨⟨⟨⟨⟨h1, h2⟩, h3⟩, h4⟩, _⟩, h6⟩, _⟩ := h
        have hrest : rest = midRev.reverse ++ [f10] := by
          have := congrArg List.reverse hr
          simpa using this
        cases hm : midRev.reverse with
        | nil => rw [hm] at h3; simp at h3
        | cons f35 mid =>
          rw [hm] at h3 h6
          simp only [List.head?_cons, Option.map_some, Option.some.injEq] at h3
          exact ⟨f8, f9, f35, mid, f10, by rw [hrest, hm]; rfl, h1, h2, h3, h4, h6⟩

theorem fieldsLength_tvOf (mid : List WField) (h : ∀ f ∈ mid, (tvOf f).tag ≠ 8 ∧ (tvOf f).tag ≠ 9 ∧ (tvOf f).tag ≠ 10) :
    fieldsLength (mid.map tvOf) = rawLen mid := by
  rw [fieldsLength_eq_len, wireOf_tvOf, List.length_flatten, List.map_map]; rfl
  intro tv htv
  obtain ⟨f, hf, rfl⟩ := List.mem_map.1 htv
  exact h f hf

theorem scanned_wireMsg (w : Bytes) (fs : List WField) (hscan : scanFields w = some fs) (hwf : wfScanned fs = true)
    (hnum : ∀ f ∈ fs, (tagNum f.tagText).isSome)
    (hmid : ∀ f ∈ (fs.drop 3).dropLast, ∀ t, tagNum f.tagText = some t → t ≠ 8 ∧ t ≠ 9 ∧ t ≠ 10 ∧ t ≠ 212)
    (hsmall : w.length < 9223372036854775808) :
    ∃ f8 f9 f35 mid f10, fs = f8 :: f9 :: f35 :: (mid ++ [f10]) ∧
      WireMsg (tvOf f8) (tvOf f9) (tvOf f35) (mid.map tvOf) (tvOf f10) ∧
      w = wireOf (tvOf f8 :: tvOf f9 :: tvOf f35 :: (mid.map tvOf ++ [tvOf f10])) ∧
      atoi (tvOf f9).value = .ok ((fieldsLength (tvOf f8 :: tvOf f9 :: tvOf f35 :: (mid.map tvOf ++ [tvOf f10])) : Nat) : Int) ∧
      ∀ f ∈ fs, ∀ t, tagNum f.tagText = some t → (tvOf f).tag = t := by
  obtain ⟨f8, f9, f35, mid, f10, hfs, e8, e9, e35, e10, hlen9⟩ := wfScanned_shape fs hwf
  subst hfs
  have hmid' : ∀ f ∈ mid, ∀ t, tagNum f.tagText = some t → t ≠ 8 ∧ t ≠ 9 ∧ t ≠ 10 ∧ t ≠ 212 := by
    intro f hf
    apply hmid f
    simp [hf]
  have n8 : tagNum f8.tagText = some 8 := by rw [e8]; decide
  have n9 : tagNum f9.tagText = some 9 := by rw [e9]; decide
  have n35 : tagNum f35.tagText = some 35 := by rw [e35]; decide
  have n10 : tagNum f10.tagText = some 10 := by rw [e10]; decide
  have hno212 : ∀ f ∈ f8 :: f9 :: f35 :: (mid ++ [f10]), tagNum f.tagText ≠ some 212 := by
    intro f hf
    simp only [List.mem_cons, List.mem_append, List.mem_nil_iff, or_false] at hf
    rcases hf with e | e | e | e | e
    · subst e; rw [n8]; decide
    · subst e; rw [n9]; decide
    · subst e; rw [n35]; decide
    · intro h212; exact (hmid' f e 212 h212).2.2.2 rfl
    · subst e; rw [n10]; decide
  obtain ⟨hw, hshape⟩ := scanLoop_wire _ w _ hscan hno212
  have sh := fun f hf => hshape f hf
  obtain ⟨w8, t8⟩ := tvOf_wire f8 (sh f8 (by simp)) 8 n8
  obtain ⟨w9, t9⟩ := tvOf_wire f9 (sh f9 (by simp)) 9 n9
  obtain ⟨w35, t35'⟩ := tvOf_wire f35 (sh f35 (by simp)) 35 n35
  obtain ⟨w10, t10'⟩ := tvOf_wire f10 (sh f10 (by simp)) 10 n10
  -- the side conditions on the fields between MsgType and CheckSum, in the parser's words
  have hmidtv : ∀ f ∈ mid, IsWire (tvOf f) ∧ (tvOf f).tag ≠ 8 ∧ (tvOf f).tag ≠ 9 ∧ (tvOf f).tag ≠ 10 ∧ (tvOf f).tag ≠ 212 := by
    intro f hf
    obtain ⟨t, ht⟩ := Option.isSome_iff_exists.1 (hnum f (by simp [hf]))
    obtain ⟨wf, tf⟩ := tvOf_wire f (sh f (by simp [hf])) t ht
    exact ⟨wf, tf ▸ hmid' f hf t ht⟩
  have hwm : WireMsg (tvOf f8) (tvOf f9) (tvOf f35) (mid.map tvOf) (tvOf f10) :=
    ⟨w8, w9, w35, List.forall_mem_map.2 fun f hf => ⟨(hmidtv f hf).1, (hmidtv f hf).2.2.2⟩, w10, t8, t9, t35', t10',
      List.forall_mem_map.2 fun f hf => (hmidtv f hf).2.2.1⟩
  have hwire : w = wireOf (tvOf f8 :: tvOf f9 :: tvOf f35 :: (mid.map tvOf ++ [tvOf f10])) := by
    rw [hw, ← wireOf_tvOf]; simp
  have hrl : rawLen (f35 :: mid) < 9223372036854775808 := by
    have h1 : rawLen (f35 :: mid) ≤ w.length := by
      rw [hw]
      simp only [rawLen, List.map_cons, List.map_append, List.flatten_cons, List.flatten_append, List.length_append, List.sum_cons]
      have : ((mid.map (·.raw)).flatten).length = ((mid.map (fun f => f.raw.length))).sum := by
        simp [List.length_flatten, List.map_map, Function.comp_def]
      omega
    omega
  have hbl : atoi (tvOf f9).value = .ok ((fieldsLength (tvOf f8 :: tvOf f9 :: tvOf f35 :: (mid.map tvOf ++ [tvOf f10])) : Nat) : Int) := by
    have hfl : fieldsLength (tvOf f8 :: tvOf f9 :: tvOf f35 :: (mid.map tvOf ++ [tvOf f10])) = rawLen (f35 :: mid) := by
      have e : tvOf f8 :: tvOf f9 :: tvOf f35 :: (mid.map tvOf ++ [tvOf f10]) = tvOf f8 :: tvOf f9 :: (((f35 :: mid).map tvOf) ++ [tvOf f10]) := by simp
      rw [e, fieldsLength_framed _ _ _ _ t8 t9 t10']
      apply fieldsLength_tvOf
      intro f hf
      rcases List.mem_cons.1 hf with e | e
      · subst e; rw [t35']; decide
      · exact ⟨(hmidtv f e).2.1, (hmidtv f e).2.2.1, (hmidtv f e).2.2.2.1⟩
    rw [hfl]
    show atoi f9.val = _
    rw [hlen9]
    exact atoi_fmtNat _ hrl
  refine ⟨f8, f9, f35, mid, f10, rfl, hwm, hwire, hbl, ?_⟩
  intro f hf t ht
  simp [tvOf, ht]

theorem faithful_scanned (d : Dicts) (w : Bytes) (fs : List WField) (hscan : scanFields w = some fs) (hwf : wfScanned fs = true)
    (hnum : ∀ f ∈ fs, (tagNum f.tagText).isSome)
    (hmid : ∀ f ∈ (fs.drop 3).dropLast, ∀ t, tagNum f.tagText = some t → t ≠ 8 ∧ t ≠ 9 ∧ t ≠ 10 ∧ t ≠ 212)
    (hsmall : w.length < 9223372036854775808) :
    ∃ m, parseMessage Fixes.cur d w = .ok m ∧ m.raw = some w ∧ m.fields = fs.map tvOf := by
  obtain ⟨f8, f9, f35, mid, f10, hfs, hwm, hwire, hbl, _⟩ := scanned_wireMsg w fs hscan hwf hnum hmid hsmall
  obtain ⟨c', hp⟩ := parse_wire_anydict (d := d) _ _ _ _ _ hwm hbl
  rw [← hwire] at hp
  exact ⟨_, hp, rfl, by rw [hfs]; simp [msgOf]⟩

end Qfx
