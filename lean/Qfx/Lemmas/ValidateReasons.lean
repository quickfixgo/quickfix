/-
  Qfx.Lemmas.ValidateReasons — the validator never reports the two session-reject reasons that end a session
  (9 CompID problem, 10 SendingTime accuracy problem): `RsnOK v` says so of one stage `v`, `rsn_validate` of the whole
  validator (the rejects of Qfx/Model/Validate.lean carry 0 1 2 4 5 6 11 13 14 16).  The proofs follow the exits of each function
  (`fun_induction`, `fun_cases`; `caseN` = N-th exit in source order): `.ok`, `panic`, `fuelOut`, a literal reject, an error handed up, or a
  recursive call.
  Used by C06: a validator reject always takes the "Reject and consume" path of `processReject`.
-/
import Qfx.Model.Validate
namespace Qfx.Validate
open Qfx Qfx.Dict

/-- the reject (if any) of a validator stage is not one of the session-ending reasons -/
def RsnOK {α} (v : V α) : Prop := ∀ r, v = .error (.reject r) → r.reason ≠ 9 ∧ r.reason ≠ 10

theorem rsn_ok {α} (a : α) : RsnOK (.ok a : V α) := by intro r h; cases h
theorem rsn_panic {α} : RsnOK (.error .panic : V α) := by intro r h; cases h
theorem rsn_fuel {α} : RsnOK (.error .fuelOut : V α) := by intro r h; cases h
theorem rsn_rej {α} (n t : Nat) (h : n ≠ 9 ∧ n ≠ 10) : RsnOK (rej n t : V α) := by
  intro r hr; unfold rej at hr; cases hr; exact h

theorem rsn_error_of {α β} {e : Stop} (h : RsnOK (.error e : V α)) : RsnOK (.error e : V β) := by
  intro r hr; cases hr; exact h r rfl

theorem rsn_bind {α β} {x : V α} {f : α → V β} (hx : RsnOK x) (hf : ∀ a, RsnOK (f a)) : RsnOK (x >>= f) := by
  cases x with
  | ok a => exact hf a
  | error e => exact rsn_error_of hx

theorem rsn_validateMsgType (d : VDict) (mt : Bytes) : RsnOK (validateMsgType d mt) := by
  unfold validateMsgType
  split
  · exact rsn_ok _
  · intro r h; cases h; decide

theorem rsn_requiredFieldMap (req present : List Nat) : RsnOK (validateRequiredFieldMap req present) := by
  unfold validateRequiredFieldMap
  split
  · exact rsn_ok _
  · exact rsn_rej _ _ (by decide)

theorem rsn_validateRequired (tr app : VDict) (mt : Bytes) (m : PMsg) : RsnOK (validateRequired tr app mt m) := by
  unfold validateRequired
  split
  · exact rsn_bind (rsn_requiredFieldMap _ _) (fun _ => rsn_bind (rsn_requiredFieldMap _ _) (fun _ => rsn_requiredFieldMap _ _))
  · exact rsn_panic

theorem rsn_fieldContentLoop (hv ord : Bool) (fs : List TV) (ih it : Bool) :
    RsnOK (fieldContentLoop hv ord fs ih it) := by
  fun_induction fieldContentLoop hv ord fs ih it
  -- 2: `rej 4`; 5, 7: `rej 14`; the rest recursive calls
  case case1 => exact rsn_ok _
  case case2 | case5 | case7 => exact rsn_rej _ _ (by decide)
  all_goals assumption

theorem rsn_validateFieldContent (m : PMsg) (hv ord : Bool) : RsnOK (validateFieldContent m hv ord) := by
  unfold validateFieldContent
  split
  · exact rsn_ok _
  · exact rsn_fieldContentLoop _ _ _ _ _

theorem rsn_validateFieldWith (ok : FType → Bytes → Bool) (d : VDict) (s : Settings) (f : TV) :
    RsnOK (validateFieldWith ok d s f) := by
  fun_cases validateFieldWith ok d s f
  -- 3, 6: `.ok`; 5: no prototype; the rest `rej 4 / 0 / 5 / 6`
  case case3 | case6 => exact rsn_ok _
  case case5 => exact rsn_panic
  all_goals exact rsn_rej _ _ (by decide)

theorem rsn_validateFields (tr app : VDict) (s : Settings) (fs : List TV) : RsnOK (validateFields tr app s fs) := by
  fun_induction validateFields tr app s fs
  case case1 => exact rsn_ok _
  case case2 ih => exact ih
  case case3 ih => exact rsn_bind (rsn_validateFieldWith _ _ _ _) (fun _ => ih)

/-- the three mutually recursive group functions, all at the same fuel: the case rule of each lists its exits — `fuelOut`, `panic`, `.ok`,
    a literal `rej` (1, 6, 16), an error handed up from a call with less fuel, or such a call itself -/
theorem rsn_visit (tc : Bool) : ∀ fuel : Nat,
    (∀ fd st, RsnOK (visitFieldW tc fuel fd st)) ∧ (∀ fd st, RsnOK (visitGroupW tc fuel fd st)) ∧
    (∀ fd st cds cnt, RsnOK (groupLoopW tc fuel fd st cds cnt)) := by
  intro fuel
  induction fuel using Nat.strongRecOn with | _ fuel ih => ?_
  refine ⟨fun fd st => ?_, fun fd st => ?_, fun fd st cds cnt => ?_⟩
  · fun_cases visitFieldW tc fuel fd st
    case case1 => exact rsn_fuel
    case case2 => exact (ih _ (Nat.lt_succ_self _)).2.1 _ _
    case case3 => exact rsn_ok _
  · fun_cases visitGroupW tc fuel fd st
    -- 4: the loop's error handed up; 3, 5: `rej 6 / 16`
    case case1 => exact rsn_fuel
    case case2 => exact rsn_panic
    case case4 he => exact rsn_error_of (he ▸ (ih _ (Nat.lt_succ_self _)).2.2 _ _ _ _)
    case case6 => exact rsn_ok _
    all_goals exact rsn_rej _ _ (by decide)
  · fun_cases groupLoopW tc fuel fd st cds cnt
    -- 5: the visit's error handed up; 6, 8: the recursive calls; 3, 7: `rej 1`
    case case1 => exact rsn_fuel
    case case2 | case4 => exact rsn_ok _
    case case5 => exact rsn_error_of (‹visitFieldW tc _ _ _ = _› ▸ (ih _ (Nat.lt_succ_self _)).1 _ _)
    case case6 | case8 => exact (ih _ (Nat.lt_succ_self _)).2.2 _ _ _ _
    all_goals exact rsn_rej _ _ (by decide)

theorem rsn_walkLoop (tr app : VDict) (s : Settings) (body : MDef) (fuel : Nat) (fs : List TV) (seen : List Nat) :
    RsnOK (walkLoop tr app s body fuel fs seen) := by
  fun_induction walkLoop tr app s body fuel fs seen
  -- 7: the visit's error handed up; 6, 8: the recursive calls
  case case1 => exact rsn_fuel
  case case2 => exact rsn_ok _
  case case3 => exact rsn_panic
  case case4 | case5 => exact rsn_rej _ _ (by decide)
  case case7 he => exact rsn_error_of (by rw [← he]; exact (rsn_visit true _).1 _ _)
  all_goals assumption

theorem rsn_validateWalk (tr app : VDict) (s : Settings) (mt : Bytes) (m : PMsg) : RsnOK (validateWalk tr app s mt m) := by
  unfold validateWalk
  split
  · exact rsn_panic
  · exact rsn_walkLoop _ _ _ _ _ _ _

theorem rsn_validatePipeline (tr app : VDict) (s : Settings) (mt : Bytes) (m : PMsg) : RsnOK (validatePipeline tr app s mt m) := by
  unfold validatePipeline
  refine rsn_bind (rsn_validateMsgType _ _) (fun _ => rsn_bind (rsn_validateRequired _ _ _ _) (fun _ =>
    rsn_bind (rsn_validateFieldContent _ _ _) (fun _ => ?_)))
  split
  · exact rsn_bind (rsn_validateFields _ _ _ _) (fun _ => rsn_validateWalk _ _ _ _ _)
  · exact rsn_ok _

theorem rsn_validate (app : VDict) (tr : Option VDict) (s : Settings) (m : PMsg) : RsnOK (validate app tr s m) := by
  fun_cases validate app tr s m
  case case1 => exact rsn_rej _ _ (by decide)
  case case2 => exact rsn_panic
  all_goals exact rsn_validatePipeline _ _ _ _ _

end Qfx.Validate
