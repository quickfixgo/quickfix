/-
  Qfx.Lemmas.Decimal — decimals (Model/Decimal.lean): what `readDec` makes of a text that `render` printed, and the
  specification of the two roundings of `Write` (`IsRoundHalfAway` for FIXDecimal, `IsTruncTowardZero` for FIXUDecimal) with
  the proofs that `roundDec` / `truncDec` meet it (there is no Spec/Decimal: the specification is defined here).
-/
import Qfx.Lemmas.Bytes
import Qfx.Model.Decimal
namespace Qfx.Dec
open Qfx

theorem parseSigned_digits (ds : Bytes) (hne : ds ≠ []) (h : ds.all isDigit = true) : parseSigned ds = some (false, digitsVal ds) := by
  -- case5, case6: no sign, test passed / failed
  fun_cases parseSigned ds with
  | case5 => rfl
  | case6 ds _ _ hc => simp [h, hne] at hc
  -- a sign in front is not a digit
  | _ => simp [isDigit] at h

theorem parseSigned_minus (ds : Bytes) (hne : ds ≠ []) (h : ds.all isDigit = true) : parseSigned (45 :: ds) = some (true, digitsVal ds) := by
  have : ds.isEmpty = false := by cases ds <;> simp_all
  simp [parseSigned, this, h]

theorem parseSigned_sign (neg : Bool) (ds : Bytes) (hne : ds ≠ []) (h : ds.all isDigit = true) :
    parseSigned ((if neg then [45] else []) ++ ds) = some (neg, digitsVal ds) := by
  cases neg
  · exact parseSigned_digits ds hne h
  · exact parseSigned_minus ds hne h

/-- a value as the store of it: the sign of zero is dropped (big.Int has no negative zero) -/
def normDec (d : Dec) : Dec := { d with neg := d.neg && d.mag != 0 }

theorem render_read (d : Dec) : readDec (render d) = .ok (normDec d) := by
  -- the only '.' in the text is the one `render` writes, so `readDec` splits where `render` joined; the sign in front of the
  -- digits is read back by `parseSigned_sign`, and a zero loses it on both sides
  unfold render readDec normDec
  generalize hneg : (d.neg && d.mag != 0) = neg
  have hz : (neg && d.mag != 0) = neg := by rw [← hneg]; cases d.neg <;> simp
  have hsg : ∀ ds : Bytes, 46 ∉ ds → 46 ∉ (if neg then [45] else []) ++ ds := by cases neg <;> simp
  by_cases hs : d.scale = 0
  · have hno := hsg _ (fmtNat_no d.mag 46 (by decide))
    simp only [hs, if_true]
    rw [takeWhile_nosep _ hno, dropWhile_nosep _ hno]
    simp only [parseSigned_sign _ _ (fmtNat_ne_nil _) (fmtNat_all_digits _), digitsVal_fmtNat, hz]
  · have hno := hsg _ (fmtNat_no (d.mag / 10 ^ d.scale) 46 (by decide))
    have hfrac : (digitsW d.scale (d.mag % 10 ^ d.scale)).contains 46 = false := by
      simpa using digitsW_no d.scale _ 46 (by decide)
    have hall : (fmtNat (d.mag / 10 ^ d.scale) ++ digitsW d.scale (d.mag % 10 ^ d.scale)).all isDigit = true := by
      simp [List.all_append, fmtNat_all_digits, digitsW_all_digits]
    have hval : digitsVal (fmtNat (d.mag / 10 ^ d.scale) ++ digitsW d.scale (d.mag % 10 ^ d.scale)) = d.mag := by
      rw [digitsVal_append, digitsVal_fmtNat, digitsW_length, digitsVal_digitsW_of_lt _ _ (Nat.mod_lt _ (pow10_pos _))]
      exact Nat.div_add_mod' _ _
    simp only [hs, if_false]
    rw [show ∀ sg ip fp : Bytes, sg ++ (ip ++ [46] ++ fp) = (sg ++ ip) ++ 46 :: fp by simp,
      takeWhile_sep _ _ hno, dropWhile_sep _ _ hno]
    simp only [hfrac, Bool.false_eq_true, if_false, List.append_assoc,
      parseSigned_sign _ _ (by simp [fmtNat_ne_nil]) hall, hval, hz, digitsW_length]

/-- `r` is `d` rounded to `s` decimals, half away from zero (as magnitudes: ties go up) -/
def IsRoundHalfAway (d r : Dec) (s : Nat) : Prop :=
  r.scale = s ∧ 2 * r.mag * 10 ^ d.scale ≤ 2 * d.mag * 10 ^ s + 10 ^ d.scale ∧ 2 * d.mag * 10 ^ s < 2 * r.mag * 10 ^ d.scale + 10 ^ d.scale

/-- cut `m` to `m / P`, then round half up on the last digit kept: the result is within half a unit of `m / (10·P)`;
    stated with both sides multiplied by `S`, the power of ten the result is scaled by -/
theorem half_up_bracket (m P S : Nat) (hP : 0 < P) (hS : 0 < S) :
    2 * ((m / P + 5) / 10) * (S * (10 * P)) ≤ 2 * m * S + S * (10 * P) ∧
    2 * m * S < 2 * ((m / P + 5) / 10) * (S * (10 * P)) + S * (10 * P) := by
  have h1 : m / P * P ≤ m := Nat.div_mul_le_self m P
  have h2 : m < m / P * P + P := by have := Nat.lt_div_mul_add (a := m) hP; omega
  generalize m / P = x at *
  have hy : 10 * ((x + 5) / 10) ≤ x + 5 ∧ x + 6 ≤ 10 * ((x + 5) / 10) + 10 := by omega
  generalize (x + 5) / 10 = y at *
  have ha := Nat.mul_le_mul_right P hy.1
  have hb := Nat.mul_le_mul_right P hy.2
  rw [Nat.add_mul, Nat.mul_assoc] at ha
  rw [Nat.add_mul, Nat.add_mul, Nat.mul_assoc] at hb
  have e1 : 2 * y * (S * (10 * P)) = S * (2 * 10 * (y * P)) := by ac_rfl
  have e2 : 2 * m * S = S * (2 * m) := Nat.mul_comm _ _
  rw [e1, e2, ← Nat.mul_add, ← Nat.mul_add]
  exact ⟨Nat.mul_le_mul_left S (by omega), Nat.mul_lt_mul_of_pos_left (by omega) hS⟩

theorem roundDec_spec (d : Dec) (s : Nat) : IsRoundHalfAway d (roundDec d s) s := by
  unfold IsRoundHalfAway roundDec
  have hp := pow10_pos d.scale
  split
  · next h0 => subst h0; exact ⟨rfl, by omega, by omega⟩
  · refine ⟨rfl, ?_⟩
    dsimp only
    rcases Nat.lt_or_ge s d.scale with hlt | hge
    · -- digits are dropped: all but one by truncation, the last by rounding (none by truncation when there is just one)
      have hx : (if s + 1 ≥ d.scale then d.mag * 10 ^ (s + 1 - d.scale) else d.mag / 10 ^ (d.scale - (s + 1)))
          = d.mag / 10 ^ (d.scale - (s + 1)) := by
        split
        · rw [show s + 1 - d.scale = 0 by omega, show d.scale - (s + 1) = 0 by omega]; simp
        · rfl
      have hpow : 10 ^ d.scale = 10 ^ s * (10 * 10 ^ (d.scale - (s + 1))) := by
        rw [← Nat.pow_succ', ← Nat.pow_add]; congr 1; omega
      rw [hx, hpow]
      exact half_up_bracket _ _ _ (pow10_pos _) (pow10_pos _)
    · -- no digit is dropped: the value is exact
      have hx : (if s + 1 ≥ d.scale then d.mag * 10 ^ (s + 1 - d.scale) else d.mag / 10 ^ (d.scale - (s + 1)))
          = d.mag * 10 ^ (s - d.scale) * 10 := by
        rw [if_pos (by omega), show s + 1 - d.scale = s - d.scale + 1 by omega, Nat.pow_succ, Nat.mul_assoc]
      rw [hx, show (d.mag * 10 ^ (s - d.scale) * 10 + 5) / 10 = d.mag * 10 ^ (s - d.scale) by omega,
        ← Nat.pow_sub_mul_pow 10 hge, Nat.mul_assoc 2, Nat.mul_assoc 2, Nat.mul_assoc d.mag]
      omega

/-- `r` is `d` cut to `s` decimals toward zero -/
def IsTruncTowardZero (d r : Dec) (s : Nat) : Prop :=
  r.scale = s ∧ r.mag * 10 ^ d.scale ≤ d.mag * 10 ^ s ∧ d.mag * 10 ^ s < (r.mag + 1) * 10 ^ d.scale

theorem floor_bracket (m P S : Nat) (hP : 0 < P) (hS : 0 < S) :
    m / P * (S * P) ≤ m * S ∧ m * S < (m / P + 1) * (S * P) := by
  have h1 : m / P * P ≤ m := Nat.div_mul_le_self m P
  have h2 : m < (m / P + 1) * P := by have := Nat.lt_div_mul_add (a := m) hP; rw [Nat.add_mul]; omega
  rw [Nat.mul_comm S P, ← Nat.mul_assoc, ← Nat.mul_assoc]
  exact ⟨Nat.mul_le_mul_right S h1, Nat.mul_lt_mul_of_pos_right h2 hS⟩

theorem truncDec_spec (d : Dec) (s : Nat) : IsTruncTowardZero d (truncDec d s) s := by
  unfold IsTruncTowardZero truncDec
  have hp := pow10_pos d.scale
  split
  · next h =>
    refine ⟨rfl, ?_⟩
    dsimp only
    rw [← Nat.pow_sub_mul_pow 10 h, Nat.add_mul, Nat.mul_assoc]
    omega
  · next h =>
    refine ⟨rfl, ?_⟩
    dsimp only
    rw [show 10 ^ d.scale = 10 ^ s * 10 ^ (d.scale - s) by rw [← Nat.pow_add]; congr 1; omega]
    exact floor_bracket _ _ _ (pow10_pos _) (pow10_pos _)

theorem render_normDec (d : Dec) : render (normDec d) = render d := by
  unfold render normDec; simp

theorem roundDec_self (d : Dec) : roundDec d d.scale = d := by simp [roundDec]

end Qfx.Dec
