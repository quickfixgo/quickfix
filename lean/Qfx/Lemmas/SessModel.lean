/-
  What the definitions of Qfx.Model.Session do on the inputs the session proofs meet, the dispatches as case rules, and the
  induction over a history (`IsRun`, `run_fold`).  (`prep` and `verifySelect` as equations: SessVerify.)
-/
import Qfx.Model.Session
import Qfx.Lemmas.ListFacts
namespace Qfx.Sess
open Qfx

theorem Fields.get?_set (f : Fields) (t : Nat) (v : String) (t' : Nat) :
    Fields.get? (Fields.set f t v) t' = if t' = t then some v else Fields.get? f t' :=
  find?_upsert f t v t'

theorem Fields.filter_map_set (f : Fields) (t : Nat) (v : String) (q : Nat → Bool) (hq : q t = false) :
    (f.map (fun p => if p.1 == t then (t, v) else p)).filter (fun p => q p.1) = f.filter (fun p => q p.1) := by
  induction f with
  | nil => rfl
  | cons p rest ih =>
    simp only [List.map_cons, List.filter_cons]
    by_cases hp : p.1 = t
    · simp only [hp, beq_self_eq_true, if_true, hq, Bool.false_eq_true, if_false]; exact ih
    · have hpt : (p.1 == t) = false := by simpa using hp
      simp only [hpt, Bool.false_eq_true, if_false, ih]

theorem Fields.filter_set (f : Fields) (t : Nat) (v : String) (q : Nat → Bool) (hq : q t = false) :
    (Fields.set f t v).filter (fun p => q p.1) = f.filter (fun p => q p.1) := by
  unfold Fields.set
  split
  · exact Fields.filter_map_set f t v q hq
  · simp [List.filter_append, hq]

/-- MsgType of what goes through `sendInReplyTo` apart from ResendRequests: Heartbeat, TestRequest, Reject, Logout,
    BusinessMessageReject -/
def replyKinds : List String := ["0", "1", "3", "5", "j"]

theorem rejectMsg_replyKind (cfg : Cfg) (m : InMsg) (reason : Nat) (refTag : Option Nat) (business : Bool) :
    (rejectMsg cfg m reason refTag business).kind ∈ replyKinds := by
  -- case1: a business reject
  fun_cases rejectMsg cfg m reason refTag business with
  | case1 => exact (by decide : "j" ∈ replyKinds)
  | _ => exact (by decide : "3" ∈ replyKinds)

theorem replyKinds_ne_logon {m : OutMsg} (h : m.kind ∈ replyKinds) : (m.kind == "A") = false := by
  simp only [replyKinds, List.mem_cons, List.not_mem_nil, or_false] at h
  rcases h with h | h | h | h | h <;> rw [h] <;> rfl

def OutMsg.possDup (m : OutMsg) : Prop := m.f.get? 43 = some "Y"

theorem resent_possDup (m : OutMsg) : (resent m).f.get? 43 = some "Y" := by
  simp [resent, Fields.get?_set]

/-- what the resend machinery hands to `enqueueAndSend`: a SequenceReset-GapFill or a stored application message, marked
    PossDupFlag=Y -/
structure OutMsg.Replay (m : OutMsg) : Prop where
  possDup : m.possDup
  kind : m.kind = "4" ∨ isAdminKind m.kind = false

theorem replay_gapFill (b e : Int) (last : Option Int) : ({ gapFill b e with last := last } : OutMsg).Replay := ⟨rfl, Or.inl rfl⟩
theorem replay_gapFillR (s : Sess) (b e : Int) : (gapFillR s b e).Replay := replay_gapFill b e _
theorem replay_gapFillRe (s : Sess) (m : InMsg) (b e : Int) : (gapFillRe s m b e).Replay := replay_gapFill b e _
theorem replay_resent {m : OutMsg} (h : isAdminKind m.kind = false) : (resent m).Replay := ⟨resent_possDup m, Or.inr h⟩

def Rej.isHigh : Rej → Bool
  | .tooHigh .. => true
  | _ => false

theorem checkBeginString_notHigh {s : Sess} {m : InMsg} {r : Rej} (h : checkBeginString s m = some r) : r.isHigh = false := by
  revert h
  fun_cases checkBeginString s m <;> intro h <;> cases h <;> rfl

theorem checkCompID_notHigh {s : Sess} {m : InMsg} {r : Rej} (h : checkCompID s m = some r) : r.isHigh = false := by
  revert h
  fun_cases checkCompID s m <;> intro h <;> cases h <;> rfl

theorem checkSendingTime_notHigh {s : Sess} {m : InMsg} {r : Rej} (h : checkSendingTime s m = some r) : r.isHigh = false := by
  revert h
  fun_cases checkSendingTime s m <;> intro h <;> cases h <;> rfl

theorem checkTooLow_notHigh {s : Sess} {m : InMsg} {r : Rej} (h : checkTooLow s m = some r) : r.isHigh = false := by
  revert h
  fun_cases checkTooLow s m <;> intro h <;> cases h <;> rfl

theorem validate_notHigh {cfg : Cfg} {m : InMsg} {r : Rej} (h : validate cfg m = some r) : r.isHigh = false := by
  obtain ⟨_, _, rfl⟩ := validate_plain h
  rfl

theorem callbackVerdict_notHigh {m : InMsg} {r : Rej} (h : callbackVerdict m = some r) : r.isHigh = false := by
  revert h
  fun_cases callbackVerdict m <;> intro h <;> cases h <;> rfl

theorem verifyAppImpl_notHigh {s : Sess} {m : InMsg} {r : Rej} (h : (verifyAppImpl s m).2 = some r) : r.isHigh = false := by
  unfold verifyAppImpl at h
  split at h
  · rename_i r' hv
    cases h
    exact validate_notHigh hv
  · exact callbackVerdict_notHigh h

theorem verifySelect_notHigh {s : Sess} {m : InMsg} {tl ai : Bool} {r : Rej} (h : (verifySelect s m false tl ai).2 = some r) :
    r.isHigh = false := by
  revert h
  fun_cases verifySelect s m false tl ai <;> intro h <;> try cases h
  case case1 hh => exact checkBeginString_notHigh hh
  case case2 hh => exact checkCompID_notHigh hh
  case case3 hh => split at hh <;> first | cases hh | exact checkSendingTime_notHigh hh
  case case4 hh => split at hh <;> first | cases hh | exact checkTooLow_notHigh hh
  case case5 hh => cases hh
  case case6 => exact verifyAppImpl_notHigh h

theorem getInt_seqText (m : InMsg) (n : Int) (h : getInt m 34 = .val n) : readInt (strBytes (seqText m)) = .ok n := by
  revert h
  unfold seqText
  -- case2: the field is there and reads as an integer
  fun_cases getInt m 34 with
  | case2 v hv i hr => rintro ⟨⟩; rw [hv]; exact hr
  | _ => nofun

theorem checkTooLow_none (s : Sess) (m : InMsg) (h : checkTooLow s m = none) : ∃ n, getInt m 34 = .val n ∧ s.store.target ≤ n := by
  revert h
  -- case4: MsgSeqNum readable and not below the expected number
  fun_cases checkTooLow s m with
  | case4 n hg hn => exact fun _ => ⟨n, hg, by omega⟩
  | _ => nofun

theorem checkTooHigh_none (s : Sess) (m : InMsg) (h : checkTooHigh s m = none) : ∃ n, getInt m 34 = .val n ∧ n ≤ s.store.target := by
  revert h
  -- case4: MsgSeqNum readable and not above the expected number
  fun_cases checkTooHigh s m with
  | case4 n hg hn => exact fun _ => ⟨n, hg, by omega⟩
  | _ => nofun

/-- the state in which the acceptor builds its Logon reply: the peer's HeartBtInt adopted unless overridden -/
def replyBase (s : Sess) (m : InMsg) : Sess :=
  if !s.cfg.hbOverride then (match getInt m 108 with | .val h => s.setHb h | _ => s) else s

theorem logonReply_base (s : Sess) (m : InMsg) (flag : Bool) :
    logonReply s m flag =
      if (!s.cfg.initiator) = true then
        (if (flag && (replyBase s m).sentReset && (replyBase s m).st.loggedOn) = true then replyBase s m
         else sendLogonRe (replyBase s m) flag m)
      else s := rfl

theorem curResend_congr {a b : Sess} (h1 : a.st = b.st) (h2 : a.cfg = b.cfg) : curResend a = curResend b := by
  unfold curResend; rw [h1, h2]

theorem sendResendRequest_fst (s : Sess) (b e : Int) :
    ∃ f, (sendResendRequest s b e).1 = sendInReplyTo s (mkOut "2" f) := by
  unfold sendResendRequest
  dsimp only
  split <;> exact ⟨_, rfl⟩

/-- the last branch of `inSessionFixMsgIn`, literally (it is that branch by `rfl`): a message that is none of Logon, Logout,
    ResendRequest, SequenceReset, TestRequest -/
def plainFixMsgIn (s : Sess) (m : InMsg) : Sess × SState :=
  match verifySelect s m true true true with
  | (s, some r) => processReject s m r
  | (s, none) => (incrTarget s, .inSession)

/-- `handleSequenceReset` once tag 123 has been read, literally its second branch -/
def seqResetCore (s : Sess) (m : InMsg) (gf : Bool) : Sess × SState :=
  match verifySelect s m gf gf true with
  | (s, some r) => processReject s m r
  | (s, none) =>
    match getInt m 36 with
    | .val n =>
      if n > s.store.target then ((s.setTarget n).emit (.setT n), .inSession)
      else if n < s.store.target then (doReject s m 5 none false, .inSession)
      else (s, .inSession)
    | _ => (s, .inSession)

theorem connected_sessionTime (st : SState) (h : st.connected = true) : st.sessionTime = true := by
  cases st <;> simp_all [SState.connected, SState.sessionTime]

theorem loggedOn_connected (st : SState) (h : st.loggedOn = true) : st.connected = true := by
  cases st <;> simp_all [SState.connected, SState.loggedOn]

theorem checkSessionTime_noop (fuel : Nat) (s : Sess) (h : s.st.sessionTime = true) : checkSessionTime fuel s true true = s := by
  cases fuel with
  | zero => unfold checkSessionTime; rfl
  | succ n => unfold checkSessionTime; simp [h]

theorem setState_connected (fuel : Nat) (s : Sess) (next : SState) (h : next.connected = true) : setState fuel s next = s.setSt next := by
  cases fuel with
  | zero => unfold setState; rfl
  | succ n => unfold setState; simp [h]

theorem st_setState (fuel : Nat) (s : Sess) (nx : SState) : (setState fuel s nx).st = nx := by
  fun_cases setState fuel s nx <;> rfl

theorem drainIn_nil (fuel : Nat) (s : Sess) (h : s.inbox = []) : drainIn fuel s = s := by
  cases fuel with
  | zero => unfold drainIn; rfl
  | succ n => unfold drainIn; simp [h]

/-- `Incoming` once the session time has been checked: the handler and the state change; nothing for bytes that do not parse -/
def afterMsg (fuel : Nat) (s : Sess) : Option InMsg → Sess
  | none => s
  | some m => setState fuel (fixMsgInCore s m).1 (fixMsgInCore s m).2

theorem incoming_live (fuel : Nat) (s : Sess) (m : Option InMsg) (hc : s.st.connected = true) :
    incoming (fuel + 1) s m = (afterMsg fuel s m).emit (.armPeer (1200 * (afterMsg fuel s m).hb)) := by
  unfold incoming
  simp only [checkSessionTime_noop fuel s (connected_sessionTime _ hc), hc, Bool.not_true, Bool.false_eq_true, if_false]
  cases m <;> rfl

theorem incoming_some (fuel : Nat) (s : Sess) (m : InMsg) (hc : s.st.connected = true) :
    incoming (fuel + 1) s (some m) =
      (setState fuel (fixMsgInCore s m).1 (fixMsgInCore s m).2).emit
        (.armPeer (1200 * (setState fuel (fixMsgInCore s m).1 (fixMsgInCore s m).2).hb)) :=
  incoming_live fuel s (some m) hc

theorem incoming_connected (fuel : Nat) (s : Sess) (m : InMsg) (hc : s.st.connected = true)
    (hnx : (fixMsgInCore s m).2.connected = true) :
    incoming (fuel + 1) s (some m) =
      ((fixMsgInCore s m).1.setSt (fixMsgInCore s m).2).emit (.armPeer (1200 * (fixMsgInCore s m).1.hb)) := by
  rw [incoming_some fuel s m hc, setState_connected fuel _ _ hnx]
  rfl

theorem fuelOf_succ (s : Sess) : fuelOf s = (4 * s.inbox.length + 7) + 1 := rfl

theorem stepCore_send (s : Sess) (m : OutMsg) : (stepCore s (.send m)).1 = queueForSend s m := by
  unfold stepCore queueForSend
  dsimp only
  generalize prep s m = r
  obtain ⟨_ | _, _⟩ := r <;> rfl

/-- inside the session time the check in front of a flush changes nothing -/
theorem stepCore_flush (s : Sess) (h : s.st.sessionTime = true) :
    (stepCore s .flush).1 = if s.st.loggedOn = true then sendQueued s else s.setToSend [] := by
  show (fun c : Sess => if c.st.loggedOn = true then sendQueued c else c.setToSend []) (checkSessionTime (fuelOf s) s true true) = _
  rw [checkSessionTime_noop _ s h]

theorem step_incoming (s : Sess) (m : InMsg) (hc : s.st.connected = true)
    (hnx : (fixMsgInCore s.clearLog m).2.connected = true) :
    step s (.incomingMsg (some m)) =
      ((((fixMsgInCore s.clearLog m).1.setSt (fixMsgInCore s.clearLog m).2).clearLog),
       (fixMsgInCore s.clearLog m).1.log.reverse ++ [.armPeer (1200 * (fixMsgInCore s.clearLog m).1.hb)], "ok") := by
  unfold step stepCore
  simp only [fuelOf_succ]
  rw [incoming_connected _ s.clearLog m hc hnx]
  simp [Sess.emit, Sess.clearLog, Sess.setSt]

theorem step_incoming_eq (s : Sess) (m : InMsg) (hc : s.st.connected = true) (r : Sess × SState)
    (hr : fixMsgInCore s.clearLog m = r) (hnx : r.2.connected = true) :
    step s (.incomingMsg (some m)) = ((r.1.setSt r.2).clearLog, r.1.log.reverse ++ [.armPeer (1200 * r.1.hb)], "ok") := by
  subst hr
  exact step_incoming s m hc hnx

theorem enqueueAndSend_replyLast (s : Sess) (m : OutMsg) : (enqueueAndSend s m).replyLast = s.replyLast := by
  unfold enqueueAndSend sendQueued Sess.setToSend
  simp only []
  repeat' split
  all_goals rfl

/-- write `ms` to the connection: the queue is gone -/
def Sess.wrote (s : Sess) (ms : List OutMsg) : Sess := { s with log := (ms.map Obs.wire).reverse ++ s.log, toSend := [] }
def Sess.queued (s : Sess) (ms : List OutMsg) : Sess := { s with toSend := ms }

/-- what is in front of a replay: the queue if logged on, nothing otherwise (`enqueueAndSend` drops it) -/
def Sess.keptQueue (s : Sess) : List OutMsg := if s.st.loggedOn then s.toSend else []

theorem enqueueAndSend_out (s : Sess) (m : OutMsg) (ho : s.out = true) :
    enqueueAndSend s m = s.wrote (s.keptQueue ++ [m]) := by
  unfold enqueueAndSend sendQueued Sess.setToSend Sess.wrote Sess.keptQueue
  cases hl : s.st.loggedOn <;> simp [ho]

theorem enqueueAndSend_wrote (s : Sess) (a : List OutMsg) (m : OutMsg) (ho : s.out = true) :
    enqueueAndSend (s.wrote a) m = s.wrote (a ++ [m]) := by
  unfold enqueueAndSend sendQueued Sess.setToSend Sess.wrote
  cases hl : s.st.loggedOn <;> simp [ho]

theorem enqueueAndSend_noconn (s : Sess) (m : OutMsg) (ho : s.out = false) :
    enqueueAndSend s m = s.queued (s.keptQueue ++ [m]) := by
  unfold enqueueAndSend sendQueued Sess.setToSend Sess.queued Sess.keptQueue
  cases hl : s.st.loggedOn <;> simp [ho]

theorem gapFill_kind (a b : Int) : (gapFill a b).kind = "4" := rfl
theorem gapFill_seq (a b : Int) : (gapFill a b).seq = a := rfl
theorem gapFill_fields (a b : Int) :
    (gapFill a b).f.get? 36 = some (toString b) ∧ (gapFill a b).f.get? 43 = some "Y" ∧
    ((gapFill a b).f.get? 122).isSome = true ∧ (gapFill a b).f.get? 123 = some "Y" := by
  simp [gapFill, Fields.get?]

theorem resent_kind (m : OutMsg) : (resent m).kind = m.kind := rfl
theorem resent_seq (m : OutMsg) : (resent m).seq = m.seq := rfl
theorem resent_origSendingTime (m : OutMsg) : ((resent m).f.get? 122).isSome = true := by
  simp [resent, Fields.get?_set]
theorem resent_get? (m : OutMsg) (t : Nat) (h43 : t ≠ 43) (h122 : t ≠ 122) : (resent m).f.get? t = m.f.get? t := by
  simp [resent, Fields.get?_set, h43, h122]
theorem resent_body (m : OutMsg) :
    (resent m).f.filter (fun p => p.1 != 43 && p.1 != 122) = m.f.filter (fun p => p.1 != 43 && p.1 != 122) := by
  unfold resent
  simp only
  rw [Fields.filter_set _ 122 "+" (fun t => t != 43 && t != 122) (by simp),
      Fields.filter_set _ 43 "Y" (fun t => t != 43 && t != 122) (by simp)]

theorem lookup_cons (st : Store) (k : Int) (m : OutMsg) (n : Int) (x y : Int) :
    Store.lookup { sender := x, target := y, msgs := (k, m) :: st.msgs, epoch := st.epoch } n =
      if k = n then some m else st.lookup n :=
  find?_pair_cons (k, m) st.msgs n

theorem checkTooLow_store (s x : Sess) (m : InMsg) (h : x.store.target = s.store.target) : checkTooLow x m = checkTooLow s m := by
  unfold checkTooLow; rw [h]
theorem checkTooHigh_store (s x : Sess) (m : InMsg) (h : x.store.target = s.store.target) : checkTooHigh x m = checkTooHigh s m := by
  unfold checkTooHigh; rw [h]

/-- the third conjunct is the measure of the stash drain -/
theorem find_target {st : List (Int × InMsg)} {t n : Int} {m : InMsg} (h : st.find? (·.1 == t) = some (n, m)) :
    n = t ∧ (n, m) ∈ st ∧ (st.filter (·.1 != n)).length < st.length := by
  obtain ⟨h2, hn⟩ := find?_key_some (key := fun p : Int × InMsg => p.1) h
  exact ⟨hn, h2, List.length_filter_lt_length_iff_exists.2 ⟨(n, m), h2, by simp⟩⟩

/-- `trace` and `run` take a history event by event: the observations of each `step` in order, the session reached -/
structure IsRun (trace : Sess → List Ev → List Obs) (run : Sess → List Ev → Sess) : Prop where
  trace_nil : ∀ s, trace s [] = []
  trace_cons : ∀ s e es, trace s (e :: es) = (step s e).2.1 ++ trace (step s e).1 es
  run_nil : ∀ s, run s [] = s
  run_cons : ∀ s e es, run s (e :: es) = run (step s e).1 es

/-- an agreement `G` between a monitor state and the session that every admissible event keeps, the monitor reading the
    event's observations, holds along every history of admissible events -/
theorem run_fold {γ : Type} {f : γ → Obs → γ} {G : γ → Sess → Prop} {ok : Ev → Prop} {trace : Sess → List Ev → List Obs}
    {run : Sess → List Ev → Sess} (hr : IsRun trace run)
    (hstep : ∀ g s e, ok e → G g s → G ((step s e).2.1.foldl f g) (step s e).1) :
    ∀ (evs : List Ev) (s : Sess) (g : γ), (∀ e ∈ evs, ok e) → G g s → G ((trace s evs).foldl f g) (run s evs) := by
  intro evs
  induction evs with
  | nil => intro s g _ h; rw [hr.trace_nil, hr.run_nil]; exact h
  | cons e es ih =>
    intro s g hok h
    rw [hr.trace_cons, hr.run_cons, List.foldl_append]
    exact ih _ _ (fun x hx => hok x (List.mem_cons_of_mem _ hx)) (hstep g s e (hok e List.mem_cons_self) h)

section dispatch
variable (s : Sess) (m : InMsg)

theorem inSession_logon (h : kindOf m = "A") : inSessionFixMsgIn s m =
    match handleLogon s m with
    | (s, some _) => (sendInReplyTo s ((mkOut "5" []).inReplyTo m), .logout)
    | (s, none) => (s, .inSession) := by
  simp [inSessionFixMsgIn, h]
  rfl

theorem inSession_logout (h : kindOf m = "5") : inSessionFixMsgIn s m = handleLogout s m := by
  simp [inSessionFixMsgIn, h]

theorem inSession_resendRequest (h : kindOf m = "2") : inSessionFixMsgIn s m = handleResendRequest s m := by
  simp [inSessionFixMsgIn, h]

theorem inSession_sequenceReset (h : kindOf m = "4") : inSessionFixMsgIn s m = handleSequenceReset s m := by
  simp [inSessionFixMsgIn, h]

theorem inSession_testRequest (h : kindOf m = "1") : inSessionFixMsgIn s m = handleTestRequest s m := by
  simp [inSessionFixMsgIn, h]

theorem inSession_other (hA : kindOf m ≠ "A") (h5 : kindOf m ≠ "5") (h2 : kindOf m ≠ "2") (h4 : kindOf m ≠ "4") (h1 : kindOf m ≠ "1") :
    inSessionFixMsgIn s m =
      match verifySelect s m true true true with
      | (s, some r) => processReject s m r
      | (s, none) => (incrTarget s, .inSession) := by
  simp [inSessionFixMsgIn, hA, h5, h2, h4, h1]
  rfl

theorem inSessionFixMsgIn_cases {motive : Sess × SState → Prop}
    (logon : kindOf m = "A" → motive (match handleLogon s m with
      | (s, some _) => (sendInReplyTo s ((mkOut "5" []).inReplyTo m), .logout)
      | (s, none) => (s, .inSession)))
    (logout : kindOf m = "5" → motive (handleLogout s m))
    (resendRequest : kindOf m = "2" → motive (handleResendRequest s m))
    (sequenceReset : kindOf m = "4" → motive (handleSequenceReset s m))
    (testRequest : kindOf m = "1" → motive (handleTestRequest s m))
    (other : kindOf m ≠ "A" → kindOf m ≠ "5" → kindOf m ≠ "2" → kindOf m ≠ "4" → kindOf m ≠ "1" →
      motive (plainFixMsgIn s m)) :
    motive (inSessionFixMsgIn s m) := by
  by_cases hA : kindOf m = "A"
  · rw [inSession_logon s m hA]; exact logon hA
  by_cases h5 : kindOf m = "5"
  · rw [inSession_logout s m h5]; exact logout h5
  by_cases h2 : kindOf m = "2"
  · rw [inSession_resendRequest s m h2]; exact resendRequest h2
  by_cases h4 : kindOf m = "4"
  · rw [inSession_sequenceReset s m h4]; exact sequenceReset h4
  by_cases h1 : kindOf m = "1"
  · rw [inSession_testRequest s m h1]; exact testRequest h1
  rw [inSession_other s m hA h5 h2 h4 h1]; exact other hA h5 h2 h4 h1

end dispatch

theorem discMid_inbox (s : Sess) : (discMid s).inbox = s.inbox ∧ (discMid s).inboxOpen = s.inboxOpen := by
  have hemit : ∀ (c : Prop) [Decidable c] (x : Sess) (o : Obs),
      (if c then x.emit o else x).inbox = x.inbox ∧ (if c then x.emit o else x).inboxOpen = x.inboxOpen := by
    intro c _ x o; split <;> exact ⟨rfl, rfl⟩
  have hreset : ∀ (c : Prop) [Decidable c] (x : Sess),
      (if c then dropAndReset x else x).inbox = x.inbox ∧ (if c then dropAndReset x else x).inboxOpen = x.inboxOpen := by
    intro c _ x; split <;> exact ⟨rfl, rfl⟩
  have hclose : ∀ x : Sess, (if x.out = true then (x.setOut false).emit .closed else x).inbox = x.inbox
      ∧ (if x.out = true then (x.setOut false).emit .closed else x).inboxOpen = x.inboxOpen := by
    intro x; split <;> exact ⟨rfl, rfl⟩
  unfold discMid
  dsimp only
  rw [(hclose _).1, (hclose _).2, (hreset _ _).1, (hreset _ _).2, (hemit _ _ _).1, (hemit _ _ _).2]
  exact ⟨rfl, rfl⟩

theorem ite_emit_frame (c : Prop) [Decidable c] (s : Sess) (o : Obs) :
    (if c then s.emit o else s).cfg = s.cfg ∧ (if c then s.emit o else s).store = s.store := by
  split <;> exact ⟨rfl, rfl⟩

theorem discMid_store (s : Sess) :
    (discMid s).store = (if s.cfg.resetOnDisconnect then s.store.reset else s.store)
    ∧ (s.cfg.resetOnDisconnect = true → Obs.reset ∈ (discMid s).log) := by
  unfold discMid
  simp only []
  generalize hs1 : (if (s.st.loggedOn || match s.st with | SState.logout => true | SState.logon => s.cfg.initiator | x => false) = true
      then s.emit Obs.onLogout else s) = s1
  have a1 : s1.cfg = s.cfg ∧ s1.store = s.store := by rw [← hs1]; exact ite_emit_frame _ _ _
  rw [a1.1]
  cases s.cfg.resetOnDisconnect
  · simp only [Bool.false_eq_true, if_false]
    refine ⟨?_, fun h => by cases h⟩
    split <;> exact a1.2
  · simp only [if_true]
    split
    · exact ⟨by show s1.store.reset = _; rw [a1.2], fun _ => by simp [dropAndReset, Sess.storeReset, Sess.emit, Sess.setOut]⟩
    · exact ⟨by show s1.store.reset = _; rw [a1.2], fun _ => by simp [dropAndReset, Sess.storeReset, Sess.emit]⟩

theorem step_disconnected (s : Sess) :
    (step s .disconnected).1 = (if s.st.connected then setState (fuelOf s) s.clearLog .latent else s.clearLog).clearLog := rfl

theorem setState_disconnect (n : Nat) (s : Sess) (next : SState) (hn : next.connected = false) (hc : s.st.connected = true)
    (hi : s.inbox = []) :
    setState (n + 1) s next =
      (if (discMid s).closeInbox.pendingStop then (discMid s).closeInbox.setStopped else (discMid s).closeInbox).setSt next := by
  have hd : (discMid s).inbox = [] := by
    rw [(discMid_inbox s).1]; exact hi
  unfold setState
  simp only [hn, hc, Bool.not_false, if_true, drainIn_nil n _ hi, drainIn_nil n _ hd]

theorem nxEval_frame (s : Sess) (m : InMsg) (ns : Int) :
    (nxEval s m ns).1.store = s.store ∧ (nxEval s m ns).1.cfg = s.cfg ∧ (nxEval s m ns).1.st = s.st
    ∧ (nxEval s m ns).1.sentReset = s.sentReset ∧ (nxEval s m ns).1.out = s.out ∧ (nxEval s m ns).1.hb = s.hb := by
  have he : ∀ o : OutMsg, (enqueueAndSend s o).store = s.store ∧ (enqueueAndSend s o).cfg = s.cfg ∧ (enqueueAndSend s o).st = s.st
      ∧ (enqueueAndSend s o).sentReset = s.sentReset ∧ (enqueueAndSend s o).out = s.out ∧ (enqueueAndSend s o).hb = s.hb := by
    intro o
    unfold enqueueAndSend sendQueued
    simp only []
    repeat' split
    all_goals exact ⟨rfl, rfl, rfl, rfl, rfl, rfl⟩
  -- case1: the gap fill
  fun_cases nxEval s m ns with
  | case1 => exact he _
  | _ => exact ⟨rfl, rfl, rfl, rfl, rfl, rfl⟩

theorem nxEval_log (s : Sess) (m : InMsg) (ns : Int) : ∃ pre, (nxEval s m ns).1.log = pre ++ s.log := by
  have hq : ∀ x : Sess, ∃ pre, (sendQueued x).log = pre ++ x.log := by
    intro x; unfold sendQueued; split
    · exact ⟨_, rfl⟩
    · exact ⟨[], rfl⟩
  have he : ∀ (x : Sess) (o : OutMsg), ∃ pre, (enqueueAndSend x o).log = pre ++ x.log := by
    intro x o; unfold enqueueAndSend; simp only []
    split <;> exact hq _
  -- case1: the gap fill
  fun_cases nxEval s m ns with
  | case1 => exact he _ _
  | _ => exact ⟨[], rfl⟩

/-- the callback observation for `m` as `verifyAppImpl` records it: FromAdmin for the administrative kinds, FromApp otherwise -/
def cbOf (s : Sess) (m : InMsg) : Obs :=
  if isAdminKind (kindOf m) then .fromAdmin (kindOf m) (seqText m) else .fromApp (seqText m) s.store.target

theorem verifyAppImpl_valid (s : Sess) (m : InMsg) (hv : validate s.cfg m = none) :
    verifyAppImpl s m = (s.emit (cbOf s m), callbackVerdict m) := by
  unfold verifyAppImpl cbOf
  simp only [hv]
  split <;> rfl

/-- the state in which the initiator builds its Logon: connection opened, store refreshed / reset per configuration -/
def connectBase (s : Sess) : Sess :=
  let s := s.openConn
  let s := if s.cfg.refreshOnLogon then s.emit .refresh else s
  if s.cfg.resetOnLogon then dropAndReset s else s

theorem connect_already (s : Sess) (h : s.st.connected = true) : connect s = (s, "already") := by
  unfold connect; simp [h]

/-- outside the session time nothing is opened: `handleDisconnectState` on a state without a connection, its reset only -/
theorem connect_nottime (s : Sess) (h1 : s.st.connected = false) (h2 : s.st.sessionTime = false) :
    connect s = ((if s.cfg.resetOnDisconnect then dropAndReset s else s), "nottime") := by
  unfold connect; simp [h1, h2]

theorem connect_acceptor (s : Sess) (h1 : s.st.connected = false) (h2 : s.st.sessionTime = true) (h3 : s.cfg.initiator = false) :
    connect s = (s.openConn.setSt .logon, "ok") := by
  unfold connect
  have : s.openConn.cfg.initiator = false := h3
  simp [h1, h2, this]

theorem connect_initiator (s : Sess) (h1 : s.st.connected = false) (h2 : s.st.sessionTime = true) (h3 : s.cfg.initiator = true) :
    connect s = ((sendLogonInReplyTo (connectBase s) (shouldSendReset (connectBase s))).setSt .logon, "ok") := by
  unfold connect connectBase
  have : s.openConn.cfg.initiator = true := h3
  simp [h1, h2, this]

theorem connect_cases {motive : Sess × String → Prop} (s : Sess)
    (already : s.st.connected = true → motive (s, "already"))
    (nottime : s.st.connected = false → s.st.sessionTime = false →
      motive ((if s.cfg.resetOnDisconnect then dropAndReset s else s), "nottime"))
    (acceptor : s.st.connected = false → s.st.sessionTime = true → s.cfg.initiator = false → motive (s.openConn.setSt .logon, "ok"))
    (initiator : s.st.connected = false → s.st.sessionTime = true → s.cfg.initiator = true →
      motive ((sendLogonInReplyTo (connectBase s) (shouldSendReset (connectBase s))).setSt .logon, "ok")) :
    motive (connect s) := by
  cases h1 : s.st.connected
  · cases h2 : s.st.sessionTime
    · rw [connect_nottime s h1 h2]; exact nottime h1 h2
    · cases h3 : s.cfg.initiator
      · rw [connect_acceptor s h1 h2 h3]; exact acceptor h1 h2 h3
      · rw [connect_initiator s h1 h2 h3]; exact initiator h1 h2 h3
  · rw [connect_already s h1]; exact already h1

theorem connectBase_frame (s : Sess) :
    (connectBase s).cfg = s.cfg ∧ (connectBase s).out = true ∧ (connectBase s).st = s.st ∧ (connectBase s).inbox = [] := by
  unfold connectBase
  dsimp only
  split <;> split <;> exact ⟨rfl, rfl, rfl, rfl⟩

theorem connectBase_store (s : Sess) : (connectBase s).store = if s.cfg.resetOnLogon then s.store.reset else s.store := by
  unfold connectBase
  dsimp only
  have : s.openConn.cfg = s.cfg := rfl
  split <;> split <;> simp_all [dropAndReset, Sess.setToSend, Sess.storeReset, Sess.emit, Sess.openConn]

end Qfx.Sess
