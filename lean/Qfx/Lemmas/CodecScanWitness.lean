/-
  A wire message that a scanner comparing tag TEXTS finds well-formed but the parser rejects: `010=` reads as CheckSum.
-/
import Qfx.Lemmas.CodecParseMsg
namespace Qfx
open Qfx.Spec

def z8 : TagValue := ⟨8, [70], [56, 61, 70, 1]⟩                            -- 8=F
def z9 : TagValue := ⟨9, [49, 49], [57, 61, 49, 49, 1]⟩                    -- 9=11
def z35 : TagValue := ⟨35, [68], [51, 53, 61, 68, 1]⟩                      -- 35=D
def z010 : TagValue := ⟨10, [120], [48, 49, 48, 61, 120, 1]⟩               -- 010=x
def z10 : TagValue := ⟨10, [49, 57, 56], [49, 48, 61, 49, 57, 56, 1]⟩      -- 10=198
def zWire : Bytes := [56, 61, 70, 1, 57, 61, 49, 49, 1, 51, 53, 61, 68, 1, 48, 49, 48, 61, 120, 1, 49, 48, 61, 49, 57, 56, 1]

theorem z8_wire : IsWire z8 := ⟨[56], by decide, by decide, by rfl, by rfl, by decide⟩
theorem z9_wire : IsWire z9 := ⟨[57], by decide, by decide, by rfl, by rfl, by decide⟩
theorem z35_wire : IsWire z35 := ⟨[51, 53], by decide, by decide, by rfl, by rfl, by decide⟩
theorem z010_wire : IsWire z010 := ⟨[48, 49, 48], by decide, by decide, by rfl, by rfl, by decide⟩
theorem z10_wire : IsWire z10 := ⟨[49, 48], by decide, by decide, by rfl, by rfl, by decide⟩

theorem zWire_eq : zWire = wireOf (z8 :: z9 :: z35 :: [z010, z10]) := by rfl

/-- the parser rejects it, whatever the dictionaries: `010=` ends the loop as CheckSum, the last slot of the field array stays empty and
    the length check fails -/
theorem z_rejected (d : Dicts) (hh10 : isHeaderField d 10 = false) : parseMessage Fixes.cur d zWire = .err "incorrect message length" := by
  have hrestW : ∀ tv ∈ [z010, z10], IsWire tv := by
    intro tv h; simp only [List.mem_cons, List.mem_nil_iff, or_false] at h
    rcases h with e | e <;> subst e
    · exact z010_wire
    · exact z10_wire
  rw [zWire_eq, parseMessage_lead_wire Fixes.cur z8 z9 z35 _ z8_wire z9_wire z35_wire hrestW rfl rfl rfl]
  have hwire : wireOf [z010, z10] = z010.bytes ++ (z10.bytes ++ []) := by simp [wireOf]
  rw [hwire]
  rw [parseLoop_checksum (d := d) Fixes.cur _ 3 _ z010 (z10.bytes ++ []) (by simp) rfl z010_wire rfl hh10 rfl]
  rfl

def zScanned : List WField :=
  [⟨[56], [70], [56, 61, 70, 1]⟩, ⟨[57], [49, 49], [57, 61, 49, 49, 1]⟩, ⟨[51, 53], [68], [51, 53, 61, 68, 1]⟩,
   ⟨[48, 49, 48], [120], [48, 49, 48, 61, 120, 1]⟩, ⟨[49, 48], [49, 57, 56], [49, 48, 61, 49, 57, 56, 1]⟩]

theorem z_scan : scanFields zWire = some zScanned := by decide

theorem fmtNat_11 : fmtNat 11 = [49, 49] := by
  rw [fmtNat]; simp [fmtNat]

theorem z_wf : wfScanned zScanned = true := by
  simp [wfScanned, zScanned, Spec.t8, Spec.t9, Spec.t35, Spec.t10, rawLen, rawSum, fmtNat_11, digitsW]

theorem z_tags : (zScanned.all fun f => (tagNum f.tagText).isSome && tagNum f.tagText != some 212) = true := by decide

end Qfx
