/-
  The invariant of the whole link (`LInv`: one `Half` per direction), preserved by every link event, hence by every
  fault history along which the sequence numbers stay within Go's `int`; it gives the monitor's safety clause.
-/
import Qfx.Lemmas.LinkK
import Qfx.Lemmas.LinkRun
namespace Qfx.Link
open Qfx Qfx.Sess

variable {cfgA cfgB : Cfg}

theorem noteRcv_toIn (rcv : List (String × String)) (cfg : Cfg) (m : OutMsg) :
    noteRcv rcv (toIn cfg m) = match m.f.get? 9000 with
      | some p => (toString m.seq, p) :: rcv.filter (fun x => x.1 != toString m.seq)
      | none => rcv := by
  unfold noteRcv
  rw [toIn_get_body _ _ 9000 (by decide), toIn_hdr _ _ 34 _ rfl]
  cases m.f.get? 9000 <;> rfl

theorem noted_self (rcv : List (String × String)) (cfg : Cfg) (m : OutMsg) : Noted (noteRcv rcv (toIn cfg m)) m := by
  intro p hp
  rw [noteRcv_toIn, hp]
  simp [payloadOf]

theorem noted_mono {P : Store} (hP : StoreOK P) (rcv : List (String × String)) (cfg : Cfg) {m m' : OutMsg} (hw : Wire P m) (hw' : Wire P m')
    (h : Noted rcv m') : Noted (noteRcv rcv (toIn cfg m)) m' := by
  intro p' hp'
  rw [noteRcv_toIn]
  cases hp : m.f.get? 9000 with
  | none => exact h p' hp'
  | some p =>
    simp only []
    by_cases hs : toString m'.seq = toString m.seq
    · have := wire_payload_unique hP hw hw' (toString_int_inj hs) p p' hp hp'
      subst this
      rw [hs]
      simp [payloadOf]
    · have := h p' hp'
      unfold payloadOf at this ⊢
      have hne : ((toString m.seq, p).1 == toString m'.seq) = false := by
        simp only [beq_eq_false_iff_ne, ne_eq]; exact fun h => hs h.symm
      rw [List.find?_cons, hne, find?_filter_key _ (· != _) (bne_iff_ne.2 hs)]
      exact this

/-- the context of a step of `y` with peer `x` -/
def mkCtx (y x : Sess) (rcvY : List (String × String)) (dlvY : List String) : Ctx :=
  { cfg := y.cfg, pcfg := x.cfg, st0 := y.store, P := x.store, rcv := rcvY, d0 := dlvY }

/-- direction x → y: `x` sends, `y` receives.  The invariant `K` of one engine is made of both directions, crosswise: `K` of
    `y` (context `mkCtx y x rcvY dlvY`) is the receiving part of `Half x y` (`t1`, `t2`, `dlv`, `pool`; `sok` for `CtxOK`) with
    the sending part of `Half y x` (`sok`, `q`) — so `LInv` is `K` of A and `K` of B between events, plus what is in flight and
    the submitted lists (`halves_step` takes it apart and puts it together again). -/
structure Half (x y : Sess) (x2y : List OutMsg) (sentX dlvY : List String) (rcvY : List (String × String)) : Prop where
  /-- the sender's store is filed by number and holds well-formed messages -/
  sok : StoreOK x.store
  /-- what the sender has queued it can have written from its store -/
  q : ∀ m ∈ x.toSend, Wire x.store m
  /-- and so is everything in flight -/
  fl : ∀ m ∈ x2y, Wire x.store m
  t1 : 1 ≤ y.store.target
  /-- the receiver expects no number the sender has not used yet -/
  t2 : y.store.target ≤ x.store.sender
  /-- delivered = the payloads of the sender's application messages below the receiver's expected number, in order -/
  dlv : dlvY = appPay (below y.store.target x.store.msgs)
  /-- submitted = the payloads of all application messages in the sender's store -/
  sent : sentX = appPay x.store.msgs
  /-- what the receiver has buffered or stashed was written by the sender and is noted in the ghost table `rcvY` -/
  pool : PoolInv (PoolP (mkCtx y x rcvY dlvY)) y

/-- both configurations, as C05 assumes them -/
structure CfgsOK (cfgA cfgB : Cfg) : Prop where
  pa : cfgA.persist = true
  pb : cfgB.persist = true
  na : NoResetCfg cfgA
  nb : NoResetCfg cfgB
  st : cfgA.sender = cfgB.target
  ts : cfgA.target = cfgB.sender
  bs : cfgA.bs = cfgB.bs
  ne1 : cfgA.sender ≠ ""
  ne2 : cfgA.target ≠ ""
  /-- neither engine has a data dictionary configured: the default validator, under any of its five settings (with a
      dictionary whether the peer's traffic passes depends on what the dictionary says) -/
  vda : cfgA.validator.app = none
  vdb : cfgB.validator.app = none
  /-- EnableNextExpectedMsgSeqNum is off on both engines -/
  nxa : cfgA.nextExpected = false
  nxb : cfgB.nextExpected = false

theorem CfgsOK.symm (h : CfgsOK cfgA cfgB) : CfgsOK cfgB cfgA :=
  ⟨h.pb, h.pa, h.nb, h.na, h.ts.symm, h.st.symm, h.bs.symm, by rw [← h.ts]; exact h.ne2, by rw [← h.st]; exact h.ne1, h.vdb, h.vda, h.nxb, h.nxa⟩

theorem poolP_mk {y x : Sess} {rcv : List (String × String)} {d : List String} {im : InMsg} :
    PoolP (mkCtx y x rcv d) im ↔ ∃ m, im = toIn x.cfg m ∧ Wire x.store m ∧ Noted rcv m := Iff.rfl

theorem poolP_mono {y x x' : Sess} {rcvY : List (String × String)} {d d' : List String} {adm : Bool} (hc : x'.cfg = x.cfg)
    (hg : Grow adm x.store x'.store) {im : InMsg} (h : PoolP (mkCtx y x rcvY d) im) : PoolP (mkCtx y x' rcvY d') im := by
  obtain ⟨m, he, hw, hn⟩ := poolP_mk.1 h
  exact poolP_mk.2 ⟨m, by rw [he, hc], hw.mono hg, hn⟩

theorem poolInv_mono {P Q : InMsg → Prop} {s : Sess} (h : ∀ im, P im → Q im) (hp : PoolInv P s) : PoolInv Q s :=
  ⟨fun m hm => h m (hp.1 m hm), fun p hpp => h p.2 (hp.2 p hpp)⟩

theorem ctxOK_mk {cx cy : Cfg} (hcf : CfgsOK cx cy) {x y : Sess} (hcx : x.cfg = cx) (hcy : y.cfg = cy) (hsok : StoreOK x.store)
    (hb : x.store.sender ≤ maxSeq) (rcv : List (String × String)) (d : List String) : CtxOK (mkCtx y x rcv d) :=
  ⟨by simp only [mkCtx, hcy]; exact hcf.pb, by simp only [mkCtx, hcy]; exact hcf.nb, by simp only [mkCtx, hcx, hcy]; exact hcf.ts.symm,
    by simp only [mkCtx, hcx, hcy]; exact hcf.st.symm, by simp only [mkCtx, hcx, hcy]; exact hcf.bs.symm,
    by simp only [mkCtx, hcx]; exact hcf.ne1, by simp only [mkCtx, hcx]; exact hcf.ne2, hsok, hb,
    by simp only [mkCtx, hcy]; exact hcf.vdb, by simp only [mkCtx, hcy]; exact hcf.nxb⟩

theorem halves_step {cx cy : Cfg} (hcf : CfgsOK cx cy) {x y : Sess} (hcx : x.cfg = cx) (hcy : y.cfg = cy)
    {x2y y2x : List OutMsg} {sentX sentY dlvX dlvY : List String} {rcvX rcvY : List (String × String)}
    (hxy : Half x y x2y sentX dlvY rcvY) (hyx : Half y x y2x sentY dlvX rcvX) (hb : x.store.sender ≤ maxSeq)
    (e : Ev) (he : LinkEv (mkCtx y x rcvY dlvY) e) :
    Half x (step y e).1 x2y sentX (dlvY ++ (deliveredSeqs (step y e).2.1).map (payloadOf rcvY)) rcvY ∧
    Half (step y e).1 x (y2x ++ wiresOf (step y e).2.1) sentY dlvX rcvX ∧ (step y e).1.cfg = cy := by
  have hc := ctxOK_mk hcf hcx hcy hxy.sok hb rcvY dlvY
  -- the engine enters the step with an empty log: `K` holds of it by the two halves
  have hk : K (mkCtx y x rcvY dlvY) y.clearLog :=
    ⟨rfl, ⟨hc.persist, hyx.sok, Grow.refl _ _, hyx.q, fun _ hm => nomatch hm⟩, hxy.t1, hxy.t2, by
      simp [dl, deliveredSeqs, Sess.clearLog, mkCtx, hxy.dlv]⟩
  obtain ⟨k, g⟩ := K_stepCore hc y.clearLog e he hk (poolInv_clearLog y hxy.pool)
  unfold step
  generalize stepCore y.clearLog e = r at k g
  obtain ⟨y', status⟩ := r
  simp only [] at k g ⊢
  have hg : Grow true y.store y'.clearLog.store := k.snd.grow
  refine ⟨⟨hxy.sok, hxy.q, hxy.fl, k.t1, k.t2, k.d, hxy.sent, g⟩, ⟨k.snd.sok, k.snd.q, ?_, hyx.t1, ?_, ?_, ?_, ?_⟩, k.cfg.trans hcy⟩
  · intro m hm
    rcases List.mem_append.1 hm with hm | hm
    · exact (hyx.fl m hm).mono hg
    · exact k.snd.w m (by simpa using (mem_wiresOf _ m).1 hm)
  · have := hg.1; have := hyx.t2; omega
  · rw [hg.below _ hyx.t2]; exact hyx.dlv
  · rw [hg.appPay]; exact hyx.sent
  · exact poolInv_mono (fun im h => poolP_mono k.cfg hg h) hyx.pool

structure LInv (cfgA cfgB : Cfg) (l : LSt) : Prop where
  ca : l.a.cfg = cfgA
  cb : l.b.cfg = cfgB
  ab : Half l.a l.b l.a2b l.sentA l.dlvB l.rcvB
  ba : Half l.b l.a l.b2a l.sentB l.dlvA l.rcvA

/-- both engines' next outbound numbers are still within Go's `int` -/
def Bnd (l : LSt) : Prop := l.a.store.sender ≤ maxSeq ∧ l.b.store.sender ≤ maxSeq

theorem LInv_swap {l : LSt} (h : LInv cfgA cfgB l) : LInv cfgB cfgA (swapL l) := ⟨h.cb, h.ca, h.ba, h.ab⟩
theorem Bnd_swap {l : LSt} (h : Bnd l) : Bnd (swapL l) := ⟨h.2, h.1⟩

theorem LInv_onSide_B (hcf : CfgsOK cfgA cfgB) {l : LSt} (h : LInv cfgA cfgB l) (hb : l.a.store.sender ≤ maxSeq)
    (e : Ev) (he : LinkEv (mkCtx l.b l.a l.rcvB l.dlvB) e) : LInv cfgA cfgB (onSide l .B e).1 := by
  obtain ⟨h1, h2, h3⟩ := halves_step hcf h.ca h.cb h.ab h.ba hb e he
  unfold onSide
  simp only []
  exact ⟨h.ca, h3, h1, h2⟩

theorem LInv_onSide_A (hcf : CfgsOK cfgA cfgB) {l : LSt} (h : LInv cfgA cfgB l) (hb : l.b.store.sender ≤ maxSeq)
    (e : Ev) (he : LinkEv (mkCtx l.a l.b l.rcvA l.dlvA) e) : LInv cfgA cfgB (onSide l .A e).1 :=
  LInv_swap (cfgA := cfgB) (cfgB := cfgA) (l := swapL (onSide l .A e).1)
    (onSide_swap l .A e ▸ LInv_onSide_B hcf.symm (LInv_swap h) hb e he)

theorem LInv_cutLinks {l : LSt} (h : LInv cfgA cfgB l) : LInv cfgA cfgB { l with a2b := [], b2a := [] } :=
  ⟨h.ca, h.cb, ⟨h.ab.sok, h.ab.q, (by intro m hm; cases hm), h.ab.t1, h.ab.t2, h.ab.dlv, h.ab.sent, h.ab.pool⟩,
    ⟨h.ba.sok, h.ba.q, (by intro m hm; cases hm), h.ba.t1, h.ba.t2, h.ba.dlv, h.ba.sent, h.ba.pool⟩⟩

/-- the application message as `prepMessageForSend` stores and queues it: numbered, header filled (tag 369 when the
    option is on) -/
def appMsgS (s : Sess) (p : String) : OutMsg := { stamp s (appMsg 0 p) with seq := s.store.sender }

theorem appMsgS_view (s : Sess) (p : String) :
    (appMsgS s p).kind = "D" ∧ (appMsgS s p).f = [(9000, p)] ∧ (appMsgS s p).seq = s.store.sender := ⟨rfl, rfl, rfl⟩

/-- the engine after accepting an application message with payload `p` -/
def sentSess (s : Sess) (p : String) : Sess :=
  { s with
    store := { s.store with msgs := (s.store.sender, appMsgS s p) :: s.store.msgs, sender := s.store.sender + 1 },
    toSend := s.toSend ++ [appMsgS s p],
    log := [] }

theorem step_send (s : Sess) (p : String) (hp : s.cfg.persist = true) :
    step s (.send (appMsg 0 p)) = (sentSess s p, [Obs.saved s.store.sender "D" true], "ok") := by
  have h9002 : appRefuses (appMsg 0 p) = false := by simp [appRefuses, appMsg, get?_cons, get?_nil]
  have hres : resendable (appMsgS s p) = true := by
    simp [resendable, appMsgS, appMsg, get?_cons, get?_nil]
  have hplain : resetLogon (appMsg 0 p) = false := resetLogon_of_not_logon (show ("D" == "A") = false by decide)
  have hprep : prep s.clearLog (appMsg 0 p) = (some (appMsgS s p), s.clearLog.persistOut s.store.sender (appMsgS s p)) := by
    rw [prep_eq, h9002, prepBase_plain hplain, outgoing_plain hplain]; rfl
  simp only [step, stepCore, hprep]
  rw [persistOut_eq _ _ _ (show s.clearLog.cfg.persist = true from hp)]
  have hk : (appMsgS s p).kind = "D" := rfl
  simp [Sess.clearLog, Sess.emit, Sess.setToSend, sentSess, hres, hk]

theorem msgOK_appS (s : Sess) (p : String) (hp : p ≠ "") : MsgOK (appMsgS s p) :=
  have m := msgOK_app p 0 hp
  ⟨m.f, m.ord, m.k, m.k4, m.app, m.rr⟩

theorem halves_send {x y : Sess} {x2y y2x : List OutMsg} {sentX sentY dlvX dlvY : List String} {rcvX rcvY : List (String × String)}
    (hxy : Half x y x2y sentX dlvY rcvY) (hyx : Half y x y2x sentY dlvX rcvX) (p : String) (hp : p ≠ "") :
    Half (sentSess x p) y x2y (sentX ++ [p]) dlvY rcvY ∧ Half y (sentSess x p) y2x sentY dlvX rcvX := by
  have hg : Grow false x.store (sentSess x p).store := Grow.save false x.store _ (fun h => by cases h)
  refine ⟨⟨hxy.sok.save _ (msgOK_appS x p hp) rfl, ?_, fun m hm => (hxy.fl m hm).mono hg, hxy.t1, ?_, ?_, ?_, ?_⟩,
    ⟨hyx.sok, hyx.q, hyx.fl, hyx.t1, hyx.t2, hyx.dlv, hyx.sent, hyx.pool⟩⟩
  · intro m hm
    simp only [sentSess, List.mem_append, List.mem_singleton] at hm
    rcases hm with hm | hm
    · exact (hxy.q m hm).mono hg
    · rw [hm]; exact .stored List.mem_cons_self
  · have := hxy.t2; simp only [sentSess]; omega
  · rw [hg.below _ hxy.t2]; exact hxy.dlv
  · simp only [sentSess, appPay, pay, (appMsgS_view x p).1, (appMsgS_view x p).2.1]
    rw [← hxy.sent]
    simp [get?_cons, show isAdminKind "D" = false by decide]
  · exact poolInv_mono (fun im h => poolP_mono (y := y) (x := x) (x' := sentSess x p) (d := dlvY) (d' := dlvY) rfl hg h) hxy.pool

theorem lstep_send_B (l : LSt) (p : String) (hp : l.b.cfg.persist = true) :
    (lstep l (.send .B p)).1 = { l with b := sentSess l.b p, sentB := l.sentB ++ [p] } := by
  have hs := step_send l.b p hp
  unfold appMsg at hs
  simp [lstep, onSide, hs, wiresOf, deliveredSeqs]

theorem half_note {x y : Sess} {m : OutMsg} {rest : List OutMsg} {sentX dlvY : List String} {rcvY : List (String × String)}
    (hxy : Half x y (m :: rest) sentX dlvY rcvY) :
    Half x y rest sentX dlvY (noteRcv rcvY (toIn x.cfg m)) ∧ PoolP (mkCtx y x (noteRcv rcvY (toIn x.cfg m)) dlvY) (toIn x.cfg m) := by
  have hw : Wire x.store m := hxy.fl m List.mem_cons_self
  refine ⟨⟨hxy.sok, hxy.q, fun k hk => hxy.fl k (List.mem_cons_of_mem _ hk), hxy.t1, hxy.t2, hxy.dlv, hxy.sent, ?_⟩,
    poolP_mk.2 ⟨m, rfl, hw, noted_self _ _ _⟩⟩
  exact poolInv_mono (fun im h => by
    obtain ⟨m', he, hw', hn⟩ := poolP_mk.1 h
    exact poolP_mk.2 ⟨m', he, hw', noted_mono hxy.sok _ _ hw hw' hn⟩) hxy.pool

/-- payloads handed to `send` are non-empty (an empty tag value is rejected by the peer as malformed) -/
def EvOKL : LEv → Prop
  | .send _ p => p ≠ ""
  | _ => True

theorem evOKL_of_payloads {evs : List LEv} (hpay : ∀ side p, LEv.send side p ∈ evs → p ≠ "") : ∀ e ∈ evs, EvOKL e := by
  intro e he
  cases e with
  | send side p => exact hpay side p he
  | _ => trivial

theorem LInv_lstep_notA (hcf : CfgsOK cfgA cfgB) {l : LSt} (h : LInv cfgA cfgB l) (e : LEv) (hA : onA e = false)
    (hev : EvOKL e) (hb0 : Bnd l) (hb1 : Bnd (lstep l e).1) : LInv cfgA cfgB (lstep l e).1 := by
  cases e with
  | connect =>
    have h1 := LInv_onSide_A hcf h hb0.2 .connect trivial
    have e1 : (lstep l .connect).1 = (onSide (onSide l .A .connect).1 .B .connect).1 := rfl
    rw [e1] at hb1 ⊢
    exact LInv_onSide_B hcf h1 hb1.1 .connect trivial
  | cut =>
    have h1 := LInv_onSide_A hcf (LInv_cutLinks h) hb0.2 .disconnected trivial
    have e1 : (lstep l .cut).1 = { (onSide (onSide { l with a2b := [], b2a := [] } .A .disconnected).1 .B .disconnected).1 with a2b := [], b2a := [] } := rfl
    rw [e1] at hb1 ⊢
    exact LInv_cutLinks (LInv_onSide_B hcf h1 hb1.1 .disconnected trivial)
  | send side p =>
    cases side with
    | A => cases hA
    | B =>
      obtain ⟨h1, h2⟩ := halves_send h.ba h.ab p hev
      rw [lstep_send_B l p (by rw [h.cb]; exact hcf.pb)]
      exact ⟨h.ca, h.cb, h2, h1⟩
  | deliver to =>
    cases to with
    | A => cases hA
    | B =>
      cases hq : l.a2b with
      | nil => rw [lstep_deliverB_nil hq]; exact h
      | cons m rest =>
        rw [lstep_deliverB_cons hq]
        have hab := h.ab
        rw [hq] at hab
        obtain ⟨k1, k2⟩ := half_note hab
        exact LInv_onSide_B hcf (l := { l with a2b := rest, rcvB := noteRcv l.rcvB (toIn l.a.cfg m) })
          ⟨h.ca, h.cb, k1, h.ba⟩ hb0.1 _ k2
  | restart side =>
    cases side with
    | A => cases hA
    | B =>
      exact ⟨h.ca, h.cb,
        ⟨h.ab.sok, h.ab.q, h.ab.fl, h.ab.t1, h.ab.t2, h.ab.dlv, h.ab.sent, ⟨(by intro m hm; cases hm), (by intro p hp; cases hp)⟩⟩,
        ⟨h.ba.sok, (by intro m hm; cases hm), h.ba.fl, h.ba.t1, h.ba.t2, h.ba.dlv, h.ba.sent, h.ba.pool⟩⟩
  | timer side ev =>
    cases side with
    | A => cases hA
    | B => exact LInv_onSide_B hcf h hb0.1 (.timeout ev) trivial
  | flush side =>
    cases side with
    | A => cases hA
    | B => exact LInv_onSide_B hcf h hb0.1 .flush trivial

/-- **one link event** keeps the invariant, as long as the sequence numbers stay within Go's `int`: what A does alone is what B
    does on the link seen from the other side -/
theorem LInv_lstep (hcf : CfgsOK cfgA cfgB) {l : LSt} (h : LInv cfgA cfgB l) (e : LEv) (hev : EvOKL e)
    (hb0 : Bnd l) (hb1 : Bnd (lstep l e).1) : LInv cfgA cfgB (lstep l e).1 := by
  cases hA : onA e with
  | false => exact LInv_lstep_notA hcf h e hA hev hb0 hb1
  | true =>
    have := LInv_lstep_notA hcf.symm (LInv_swap h) (swapEv e) (onA_swapEv hA) (by cases e <;> exact hev) (Bnd_swap hb0) (by rw [lstep_swap]; exact Bnd_swap hb1)
    rw [lstep_swap] at this
    exact LInv_swap this

/-- along the whole history both engines' next outbound numbers stay within Go's `int` -/
def AllBnd (l : LSt) : List LEv → Prop
  | [] => Bnd l
  | e :: es => Bnd l ∧ AllBnd (lstep l e).1 es

theorem AllBnd.head {l : LSt} {evs : List LEv} (h : AllBnd l evs) : Bnd l := by
  cases evs with
  | nil => exact h
  | cons e es => exact h.1

theorem LInv_run (hcf : CfgsOK cfgA cfgB) (evs : List LEv) : ∀ l : LSt, LInv cfgA cfgB l → (∀ e ∈ evs, EvOKL e) →
    AllBnd l evs → LInv cfgA cfgB (runL l evs) := by
  induction evs with
  | nil => intro l h _ _; exact h
  | cons e es ih =>
    intro l h hev hb
    exact ih _ (LInv_lstep hcf h e (hev e List.mem_cons_self) hb.1 hb.2.head) (fun e' he' => hev e' (List.mem_cons_of_mem _ he')) hb.2

theorem storeOK_init : StoreOK ({ sender := 1, target := 1 } : Store) :=
  ⟨Int.le_refl _, List.Pairwise.nil, by intro p hp; cases hp⟩

theorem LInv_init (cfgA cfgB : Cfg) : LInv cfgA cfgB (linkInit cfgA cfgB) := by
  have hh : ∀ (x y : Cfg), Half (initSess x 1 1) (initSess y 1 1) [] [] [] [] :=
    fun x y => ⟨storeOK_init, (by intro m hm; cases hm), (by intro m hm; cases hm), Int.le_refl _, Int.le_refl _, rfl, rfl,
      ⟨(by intro m hm; cases hm), (by intro p hp; cases hp)⟩⟩
  exact ⟨rfl, rfl, hh cfgA cfgB, hh cfgB cfgA⟩

theorem safe_of_LInv {l : LSt} (h : LInv cfgA cfgB l) : safe l.sentA l.sentB l.dlvA l.dlvB = true := by
  unfold safe
  rw [h.ab.dlv, h.ab.sent, h.ba.dlv, h.ba.sent, isPrefix_below _ _ h.ab.sok.desc, isPrefix_below _ _ h.ba.sok.desc]
  rfl

theorem AllBnd.last {evs : List LEv} : ∀ {l : LSt}, AllBnd l evs → Bnd (runL l evs) := by
  induction evs with
  | nil => intro l h; exact h
  | cons e es ih => intro l h; exact ih h.2

end Qfx.Link
