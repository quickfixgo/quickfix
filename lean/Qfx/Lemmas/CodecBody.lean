/- C03 byte layer / C11: `bodyBytes` of a parsed message none of whose fields starts a repeating group -/
import Qfx.Lemmas.CodecParseMsg
namespace Qfx
open Qfx.Spec

variable {d : Dicts}

/-- the part of the loop state that determines `bodyBytes` -/
structure BB where
  foundBody : Bool
  foundTrailer : Bool
  bodyBytes : Bytes
  trailerBytes : Bytes

def PCore.bb (c : PCore) : BB := ⟨c.foundBody, c.foundTrailer, c.bodyBytes, c.trailerBytes⟩

/-- what a plain field of section `s`, with `raw` left behind it, does to the `bodyBytes` bookkeeping -/
def bbStep (s : Sec) (raw : Bytes) (b : BB) : BB :=
  match s with
  | .h => ⟨b.foundBody, b.foundTrailer, if b.foundBody then b.bodyBytes else raw, b.trailerBytes⟩
  | .b => ⟨true, b.foundTrailer, b.bodyBytes, raw⟩
  | .t => ⟨b.foundBody, true, if b.foundBody then b.bodyBytes else raw, b.trailerBytes⟩

theorem plainStep_bb (idx : Nat) (tv : TagValue) (raw : Bytes) (c : PCore) :
    (plainTail (plainSwitch d idx tv { c with rawBytes := raw })).bb = bbStep (secOf d tv.tag) raw c.bb := by
  refine plainSwitch_elim (P := fun r => (plainTail r).bb = bbStep (secOf d tv.tag) raw c.bb) d idx tv _ ?_ ?_ ?_ <;>
    intro h <;> rw [h] <;> cases hfb : c.foundBody <;> simp [plainTail, PCore.bb, bbStep, hfb]

theorem bbStep_absorb (s : Sec) (r r' : Bytes) (b : BB) : bbStep s r' (bbStep s r b) = bbStep s r' b := by
  cases s <;> cases hfb : b.foundBody <;> simp [bbStep, hfb]

/-- a run of plain fields of one section acts on the `bodyBytes` bookkeeping like its last field -/
theorem plainRun_bb (s : Sec) : ∀ (L : List TagValue) (idx : Nat) (tail : Bytes) (c : PCore),
    (∀ tv ∈ L, secOf d tv.tag = s) → L ≠ [] → (plainRun d idx L tail c).bb = bbStep s tail c.bb := by
  intro L
  induction L with
  | nil => intro _ _ _ _ h; exact absurd rfl h
  | cons tv r ih =>
    intro idx tail c hL _
    simp only [plainRun]
    cases r with
    | nil => simp only [plainRun]; rw [plainStep_bb, hL tv (by simp)]; simp [wireOf]
    | cons y ys =>
      rw [ih (idx + 1) tail _ (fun x hx => hL x (by simp [hx])) (by simp), plainStep_bb, hL tv (by simp), bbStep_absorb]

theorem plainRun_append : ∀ (a b : List TagValue) (idx : Nat) (tail : Bytes) (c : PCore),
    plainRun d idx (a ++ b) tail c = plainRun d (idx + a.length) b tail (plainRun d idx a (wireOf b ++ tail) c) := by
  intro a
  induction a with
  | nil => intro b idx tail c; simp [plainRun]
  | cons x r ih =>
    intro b idx tail c
    simp only [List.cons_append, plainRun, List.length_cons]
    rw [ih]
    have e1 : wireOf (r ++ b) ++ tail = wireOf r ++ (wireOf b ++ tail) := by simp [wireOf, List.append_assoc]
    have e2 : idx + 1 + r.length = idx + (r.length + 1) := by omega
    rw [e1, e2]

/-- `t10.bytes ++ []` is how `plainFinal` spells the buffer in front of CheckSum (its `tail` at `[]`) -/
theorem plainMessage_bodyBytes (d : Dicts) (t8 t9 t35 t10 : TagValue) (H B T : List TagValue) (h10 : t10.tag = 10)
    (hh10 : isHeaderField d 10 = false)
    (hH : ∀ tv ∈ H, secOf d tv.tag = .h) (hHne : H ≠ []) (hB : ∀ tv ∈ B, secOf d tv.tag = .b) (hBne : B ≠ [])
    (hBw : ∀ tv ∈ B, tv.bytes ≠ []) (hT : ∀ tv ∈ T, secOf d tv.tag = .t) :
    (plainMessage d t8 t9 t35 (H ++ (B ++ T)) t10).bodyBytes = wireOf B := by
  show (plainFinal d t8 t9 t35 (H ++ (B ++ T)) t10).bodyBytes = wireOf B
  unfold plainFinal
  rw [plainRun_append, plainRun_append]
  generalize hc0 : plainInit t8 t9 t35 (wireOf ((H ++ (B ++ T)) ++ [t10])) = c0
  have hfb0 : c0.foundBody = false := by rw [← hc0]; rfl
  generalize hcT : plainRun d (3 + H.length + B.length) T (t10.bytes ++ [])
    (plainRun d (3 + H.length) B (wireOf T ++ (t10.bytes ++ [])) (plainRun d 3 H (wireOf (B ++ T) ++ (t10.bytes ++ [])) c0)) = cT
  -- header fields move `bodyBytes` along, the body fields fix it and move `trailerBytes`, trailer fields only raise `foundTrailer`
  have bbB : ∀ tl, (plainRun d (3 + H.length) B tl (plainRun d 3 H (wireOf (B ++ T) ++ (t10.bytes ++ [])) c0)).bb =
      ⟨true, c0.foundTrailer, wireOf (B ++ T) ++ (t10.bytes ++ []), tl⟩ := fun tl => by
    rw [plainRun_bb .b B _ _ _ hB hBne, plainRun_bb .h H _ _ _ hH hHne]; simp [bbStep, PCore.bb, hfb0]
  obtain ⟨e1, e2, e3⟩ : cT.foundBody = true ∧ cT.bodyBytes = wireOf (B ++ T) ++ (t10.bytes ++ []) ∧
      cT.trailerBytes = wireOf T ++ (t10.bytes ++ []) := by
    rw [← hcT]
    cases T with
    | nil =>
      have := bbB (wireOf [] ++ (t10.bytes ++ []))
      exact ⟨congrArg BB.foundBody this, congrArg BB.bodyBytes this, congrArg BB.trailerBytes this⟩
    | cons x T' =>
      have := plainRun_bb (d := d) .t (x :: T') (3 + H.length + B.length) (t10.bytes ++ [])
        (plainRun d (3 + H.length) B (wireOf (x :: T') ++ (t10.bytes ++ [])) (plainRun d 3 H (wireOf (B ++ x :: T') ++ (t10.bytes ++ [])) c0)) hT (by simp)
      rw [bbB] at this
      exact ⟨congrArg BB.foundBody this, congrArg BB.bodyBytes this, congrArg BB.trailerBytes this⟩
  have hne : wireOf B ≠ [] := by
    obtain ⟨x, r, rfl⟩ := List.exists_cons_of_ne_nil hBne
    intro h
    rw [wireOf_cons] at h
    exact hBw x (by simp) (List.append_eq_nil_iff.1 h).1
  -- CheckSum is filed in the trailer: the bookkeeping stays as the trailer fields left it
  have h1 : isHeaderField d t10.tag = false := by rw [h10]; exact hh10
  have h2 : isTrailerField d t10.tag = true := by rw [h10]; exact isTrailerField_ten d
  simp only [plainSwitch, h1, h2, Bool.false_eq_true, if_false, if_true]
  exact finishAdjust_bodyBytes _ _ e1 hne (by show cT.bodyBytes = _ ++ cT.trailerBytes; rw [e2, e3, wireOf_append, List.append_assoc])

theorem ndMessage_bodyBytes (t8 t9 t35 t10 : TagValue) (H B T : List TagValue) (h10 : t10.tag = 10)
    (hH : ∀ tv ∈ H, secND tv.tag = .h) (hHne : H ≠ []) (hB : ∀ tv ∈ B, secND tv.tag = .b) (hBne : B ≠ [])
    (hBw : ∀ tv ∈ B, tv.bytes ≠ []) (hT : ∀ tv ∈ T, secND tv.tag = .t) :
    (ndMessage t8 t9 t35 (H ++ (B ++ T)) t10).bodyBytes = wireOf B :=
  plainMessage_bodyBytes Dicts.none t8 t9 t35 t10 H B T h10 rfl (fun tv h => (secOf_none _).trans (hH tv h)) hHne
    (fun tv h => (secOf_none _).trans (hB tv h)) hBne hBw (fun tv h => (secOf_none _).trans (hT tv h))

end Qfx
