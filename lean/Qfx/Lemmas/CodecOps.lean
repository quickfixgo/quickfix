/-
  Totality of the API side (C10 "whatever API calls produced them", C09 codec part): setters, SetGroup/Write, Remove, Clear,
  CopyInto and build never return an error and never fault — on a fresh message and on any message the fixed parser returns.
  Invariant: every field is an owned non-empty list or a non-empty view inside `Message.fields`.
-/
import Qfx.Lemmas.CodecBuild
import Qfx.Lemmas.CodecTotal
namespace Qfx

theorem FMOK.remove {n : Nat} {fm : FieldMap} (h : FMOK n fm) (t : Tag) : FMOK n (fm.remove t) :=
  fun k f hf => h k f (alFind_remove_sub fm t k f hf)

theorem FMOK.clear (n : Nat) (fm : FieldMap) : FMOK n fm.clear := by intro k f h; simp [FieldMap.clear, alFind] at h

theorem FMOK.copy {fm : FieldMap} {arr : List TagValue} (h : FMOK arr.length fm) (n : Nat) : FMOK n (fm.copy arr) := by
  intro k f hf
  simp only [FieldMap.copy, alFind_copy] at hf
  obtain ⟨g, hk, rfl⟩ := Option.map_eq_some_iff.1 hf
  rcases h k g hk with ⟨tv, rest, e⟩ | ⟨s, l, e, h1, h2⟩
  · subst e; exact Or.inl ⟨tv, rest, rfl⟩
  · subst e
    left
    simp only [Field.items]
    cases hd : (arr.drop s).take l with
    | cons x r => exact ⟨x, r, rfl⟩
    | nil =>
      have := congrArg List.length hd
      simp at this; omega

theorem FMOK.write {n : Nat} {fm : FieldMap} (h : FMOK n fm) (arr : List TagValue) : FMOK n (fm.write arr).2 := by
  intro k f hf; exact h k f hf

/-- `RepeatingGroup.Write` and the setter calls inside it always succeed.  Structural induction over the description of the entries:
    one setter call in front of the remaining calls `r` (`M1`), the entries of a group (`M2`), the calls of one entry (`M3`) -/
theorem write_total :
    (∀ (e : List GFld) (fm : FieldMap), FMOK 0 fm → ∃ fm', buildEntry e fm = .ok fm' ∧ FMOK 0 fm') ∧
    (∀ (tmpl : List Item) (es : List (List GFld)), ∃ tvs, writeEntries tmpl es = .ok tvs) := by
  let M3 : List GFld → Prop := fun e => ∀ fm, FMOK 0 fm → ∃ fm', buildEntry e fm = .ok fm' ∧ FMOK 0 fm'
  let M1 : GFld → Prop := fun f => ∀ (r : List GFld), M3 r → M3 (f :: r)
  let M2 : List (List GFld) → Prop := fun es => ∀ tmpl : List Item, ∃ tvs, writeEntries tmpl es = .ok tvs
  have fld : ∀ t v, M1 (.fld t v) := fun t v r ih fm h => by
    obtain ⟨s, hs, hne⟩ := h.setTV (TagValue.init t v)
    obtain ⟨fm', h1, h2⟩ := ih _ hne
    exact ⟨fm', by simp only [buildEntry, show fm.setBytes t v = .ok s from hs, h1], h2⟩
  have grp : ∀ t tm es, M2 es → M1 (.grp t tm es) := fun t tm es ihes r ih fm h => by
    obtain ⟨tvs, hw⟩ := ihes tm
    obtain ⟨fm', h1, h2⟩ := ih _ (h.setGroup t (countTV t es.length) tvs)
    exact ⟨fm', by simp only [buildEntry, hw, h1], h2⟩
  have nil2 : M2 [] := fun tmpl => ⟨[], by simp [writeEntries]⟩
  have cons2 : ∀ e es, M3 e → M2 es → M2 (e :: es) := fun e es ihe ihes tmpl => by
    obtain ⟨fm, hb, _⟩ := ihe _ (FMOK.empty 0 (.group (tmplTags tmpl)))
    obtain ⟨tvs, hw⟩ := ihes tmpl
    exact ⟨entryTVs fm ++ tvs, by simp only [writeEntries, hb, hw]⟩
  have nil3 : M3 [] := fun fm h => ⟨fm, by simp [buildEntry], h⟩
  have cons3 : ∀ f r, M1 f → M3 r → M3 (f :: r) := fun f r ihf ihr => ihf r ihr
  -- `GFld.rec_2` concludes `M3`, `GFld.rec_1` concludes `M2`
  exact ⟨@GFld.rec_2 M1 M2 M3 fld grp nil2 cons2 nil3 cons3, fun tmpl es => @GFld.rec_1 M1 M2 M3 fld grp nil2 cons2 nil3 cons3 es tmpl⟩

theorem writeGroup_total (t : Tag) (tmpl : List Item) (es : List (List GFld)) :
    ∃ tvs, writeGroup t tmpl es = .ok (countTV t es.length :: tvs) := by
  obtain ⟨tvs, h⟩ := write_total.2 tmpl es
  exact ⟨tvs, by simp [writeGroup, h]⟩

/-- every section of the message holds only owned non-empty fields or non-empty views inside `Message.fields` -/
def MOK (m : Message) : Prop := ∀ s, FMOK m.fields.length (m.sec s)

theorem MOK.new : MOK Message.new := by intro s; cases s <;> exact FMOK.empty _ _

theorem withSec_fields (m : Message) (s : Sec) (fm : FieldMap) : (m.withSec s fm).fields = m.fields := by cases s <;> rfl

theorem MOK.withSec {m : Message} (h : MOK m) (s : Sec) (fm : FieldMap) (hf : FMOK m.fields.length fm) : MOK (m.withSec s fm) := by
  intro s'
  rw [withSec_fields]
  cases s <;> cases s' <;> first | exact hf | exact h .h | exact h .b | exact h .t

theorem MOK.setFields {m : Message} (h : MOK m) (i : Nat) (tv : TagValue) : MOK { m with fields := m.fields.set i tv } := by
  intro s
  have e : ({ m with fields := m.fields.set i tv } : Message).fields.length = m.fields.length := by simp
  rw [e]
  cases s <;> first | exact h .h | exact h .b | exact h .t

theorem MOK.setBytes {m : Message} (h : MOK m) (s : Sec) (t : Tag) (v : Bytes) :
    ∃ m', m.setBytes Fixes.cur s t v = .ok m' ∧ MOK m' := by
  obtain ⟨r, hr, hne⟩ := (h s).setTV (TagValue.init t v)
  have hr' : (m.sec s).setBytes t v = .ok r := hr
  simp only [Message.setBytes, Fixes.cur, if_true, hr']
  cases hw : r.arrWrite with
  | none => exact ⟨_, rfl, h.withSec s _ hne⟩
  | some p =>
    obtain ⟨i, tv⟩ := p
    exact ⟨_, rfl, (h.withSec s _ hne).setFields i tv⟩

theorem MOK.setGroup {m : Message} (h : MOK m) (s : Sec) (t : Tag) (tmpl : List Item) (es : List (List GFld)) :
    ∃ m', m.setGroup s t tmpl es = .ok m' ∧ MOK m' := by
  obtain ⟨tvs, hw⟩ := writeGroup_total t tmpl es
  exact ⟨m.withSec s ((m.sec s).setGroup t (countTV t es.length :: tvs)), by simp only [Message.setGroup, hw], h.withSec s _ ((h s).setGroup t _ _)⟩

theorem MOK.copy {m : Message} (h : MOK m) : ∃ m', m.copy Fixes.cur = .ok m' ∧ MOK m' := by
  simp only [Message.copy, copyFM, Fixes.cur, if_true]
  refine ⟨_, rfl, ?_⟩
  intro s; cases s
  · exact (h .h).copy _
  · exact (h .b).copy _
  · exact (h .t).copy _

theorem MOK.cook {m : Message} (h : MOK m) (bl bt : Nat) : ∃ m', m.cook Fixes.cur bl bt = .ok m' ∧ MOK m' := by
  simp only [Message.cook, Message.setInt]
  obtain ⟨m1, h1, hn1⟩ := h.setBytes .h 9 (fmtInt ((m.header.length m.fields + bl + m.trailer.length m.fields : Nat) : Int))
  rw [h1]
  exact hn1.setBytes .t 10 _

theorem MOK.build {m : Message} (h : MOK m) : ∃ bytes m', m.build Fixes.cur = .ok (bytes, m') ∧ MOK m' := by
  obtain ⟨m1, h1, hn1⟩ := h.cook (m.body.length m.fields) (m.body.total m.fields)
  refine ⟨(m1.writeAll none).1, (m1.writeAll none).2, by simp only [Message.build, h1], ?_⟩
  intro s
  cases s
  · exact (hn1 .h).write m1.fields
  · exact (hn1 .b).write m1.fields
  · exact (hn1 .t).write m1.fields

theorem MOp.apply_total {m : Message} (h : MOK m) (op : MOp) : ∃ m', op.apply m = .ok m' ∧ MOK m' := by
  cases op with
  | set s t v => exact h.setBytes s t v
  | setInt s t v => exact h.setBytes s t _
  | setBool s t v => exact h.setBytes s t _
  | setGroup s t tm es => exact h.setGroup s t tm es
  | remove s t =>
    refine ⟨_, rfl, ?_⟩
    simp only [Message.remove, Fixes.cur, if_true]
    exact h.withSec s _ ((h s).remove t)
  | clear s => exact ⟨_, rfl, h.withSec s _ (FMOK.clear _ _)⟩
  | copy => exact h.copy
  | build =>
    obtain ⟨bytes, m', hb, hn⟩ := h.build
    exact ⟨m', by simp only [MOp.apply, hb], hn⟩

theorem runMOps_total (ops : List MOp) : ∀ m, MOK m → ∃ m', runMOps ops m = .ok m' ∧ MOK m' := by
  induction ops with
  | nil => intro m h; exact ⟨m, rfl, h⟩
  | cons op r ih =>
    intro m h
    obtain ⟨m1, h1, hn1⟩ := MOp.apply_total h op
    obtain ⟨m', h2, hn2⟩ := ih m1 hn1
    exact ⟨m', by simp only [runMOps, h1, h2], hn2⟩

theorem ViewsOK.fmok {fields : List TagValue} {fm : FieldMap} (h : ViewsOK fields fm) : FMOK fields.length fm :=
  fun k f hf => Or.inr (h k f hf)

theorem parse_MOK (d : Dicts) (w : Bytes) (m : Message) (hm : parseMessage Fixes.cur d w = .ok m) : MOK m := by
  obtain ⟨hh, hb, ht⟩ := parseMessage_views d w m hm
  intro s
  cases s
  · exact hh.fmok
  · exact hb.fmok
  · exact ht.fmok

end Qfx
