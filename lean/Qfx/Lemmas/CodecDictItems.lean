/-
  Dictionary-guided parse of messages that are any sequence of plain fields and repeating groups (any depth): a group may be followed by a
  plain body field, by a header or trailer field (classified by the transport dictionary), directly by the count field of another
  group, or by CheckSum.  Result: the section maps are exactly the additions in wire order.  The loop is `loop_chain` for the ghost state
  `DG` (the group `parseGroup` is collecting, the additions so far, the index): `dict_iter` says what one field does to the loop state, one
  case per move of `DStep`; the invariant `DInv` carries the section maps as `applyAdds` of the ghost state's additions.  Whatever ends
  the open group is handled once: `parseGroup` files the group and does with the field what the main loop does (`switchOf_closes`).
  The sequences are
  described twice: at the level of the parser's tag stack (`ItemsOK`, `ClosesOK`; a chain of moves by `items_chain`) and from the
  dictionaries alone (`ItemsN`, `ClosesN`, suffix `N` for "nested": `GroupWalk` / `TreeOK` per group; `itemsN_ok` takes the second
  description to the first).
-/
import Qfx.Lemmas.CodecDictNest
namespace Qfx
open Qfx.Spec

variable {d : Dicts}

/-- the field ends the open group: it is no member of the innermost level and is a header field, a trailer field, the count field of a
    group of the message type, or a body field that starts no group and that no enclosing level lists -/
def EndsGroup (d : Dicts) (fs : List DNode) (st : List Level) (t : Tag) : Prop :=
  isGroupMember t (lastGf st) = false ∧
  (isHeaderField d t = true ∨ isTrailerField d t = true ∨ (groupOf fs t).isSome = true ∨ (NoGroupTag d t ∧ stepSpec st t = none))

/-- a plain field, or a group: its count field and all its member fields -/
inductive Itm where
  | plain (tv : TagValue)
  | group (g0 : TagValue) (M : List TagValue)

def Itm.flat : Itm → List TagValue
  | .plain tv => [tv]
  | .group g0 M => g0 :: M

/-- the field an item is stored under -/
def Itm.head : Itm → TagValue
  | .plain tv => tv
  | .group g0 _ => g0

def flatItms (l : List Itm) : List TagValue := l.flatMap Itm.flat

structure PlainOK (d : Dicts) (tv : TagValue) : Prop where
  wire : IsWire tv
  n10 : tv.tag ≠ 10
  n212 : tv.tag ≠ 212
  n9 : tv.tag ≠ 9
  n35 : tv.tag ≠ 35
  ng : NoGroupTag d tv.tag

/-- which sequences: plain fields and groups of the message type's field list `fs` in any order.  The index threads the parser's tag
    stack (`none` = main loop): what stands behind a group — a plain body field that no level of it lists, a header or trailer field, the
    count field of another group — first ends it (`close`) and is then an item of the main loop. -/
inductive ItemsOK (d : Dicts) (fs : List DNode) : Option (List Level) → List Itm → Option (List Level) → Prop where
  | nil (s : Option (List Level)) : ItemsOK d fs s [] s
  | plainMain {tv r s'} : IsWire tv → tv.tag ≠ 10 → tv.tag ≠ 212 → tv.tag ≠ 9 → tv.tag ≠ 35 →
      (isHeaderField d tv.tag = true ∨ isTrailerField d tv.tag = true ∨ NoGroupTag d tv.tag) →
      ItemsOK d fs none r s' → ItemsOK d fs none (.plain tv :: r) s'
  | groupMain {g0 M C st' r s'} : IsWire g0 → isHeaderField d g0.tag = false → isTrailerField d g0.tag = false →
      groupOf fs g0.tag = some C → WalkN d [(g0.tag, C)] M st' → ItemsOK d fs (some st') r s' →
      ItemsOK d fs none (.group g0 M :: r) s'
  | close {st it r s'} : EndsGroup d fs st it.head.tag → ItemsOK d fs none (it :: r) s' → ItemsOK d fs (some st) (it :: r) s'

theorem flatItms_cons (it : Itm) (r : List Itm) : flatItms (it :: r) = it.flat ++ flatItms r := by simp [flatItms]

/-- what a sequence starting at field index `idx` adds, in wire order: a plain field goes to the section of its tag as a one-field view, a
    group to the body as ONE view over its count field and all its member fields (the members add nothing) -/
def itmAdds (d : Dicts) : Nat → List Itm → List SAdd
  | _, [] => []
  | idx, .plain tv :: r => (secOf d tv.tag, tv.tag, .view idx 1) :: itmAdds d (idx + 1) r
  | idx, .group g0 M :: r => (.b, g0.tag, .view idx (1 + M.length)) :: itmAdds d (idx + 1 + M.length) r

theorem ItemsOK.wire {fs : List DNode} {s s' : Option (List Level)} {items : List Itm} (hok : ItemsOK d fs s items s') :
    ∀ tv ∈ flatItms items, IsWire tv := by
  induction hok with
  | nil s => intro tv h; simp [flatItms] at h
  | plainMain hw _ _ _ _ _ _ ih =>
    intro x hx; rw [flatItms_cons] at hx; simp only [Itm.flat, List.mem_append, List.mem_singleton] at hx
    rcases hx with e | e
    · subst e; exact hw
    · exact ih x e
  | groupMain hw _ _ _ hW _ ih =>
    intro x hx; rw [flatItms_cons] at hx; simp only [Itm.flat, List.mem_append, List.mem_cons] at hx
    rcases hx with (e | e) | e
    · subst e; exact hw
    · exact hW.wire x e
    · exact ih x e
  | close _ _ ih => exact ih

/-- ghost state of the loop: the group `parseGroup` is collecting (index of its count field, the count field, the tag stack), the
    additions made to the section maps so far, the index of the next field -/
structure DG where
  grp : Option (Nat × TagValue × List Level)
  adds : List SAdd
  idx : Nat

def DG.mode (g : DG) : Mode :=
  match g.grp with
  | none => .main
  | some (j, _, st) => .grp j (stackTags st) (lastGf st)

/-- the additions once the open group has been closed at the present index -/
def DG.eff (g : DG) : List SAdd :=
  match g.grp with
  | none => g.adds
  | some (j, g0, _) => g.adds ++ [(.b, g0.tag, .view j (g.idx - j))]

def DG.stack (g : DG) : Option (List Level) := g.grp.map (·.2.2)

/-- what one field does to the ghost state; a field that ends the open group moves as it does in the main loop once the group is filed -/
inductive DStep (d : Dicts) (fs : List DNode) : DG → TagValue → DG → Prop where
  | plainMain {a i tv} : tv.tag ≠ 10 → tv.tag ≠ 212 → tv.tag ≠ 9 → tv.tag ≠ 35 →
      (isHeaderField d tv.tag = true ∨ isTrailerField d tv.tag = true ∨ NoGroupTag d tv.tag) →
      DStep d fs ⟨none, a, i⟩ tv ⟨none, a ++ [(secOf d tv.tag, tv.tag, .view i 1)], i + 1⟩
  | groupMain {a i tv C} : isHeaderField d tv.tag = false → isTrailerField d tv.tag = false → groupOf fs tv.tag = some C →
      DStep d fs ⟨none, a, i⟩ tv ⟨some (i, tv, [(tv.tag, C)]), a, i + 1⟩
  | member {a i j g0 st st1 tv} :
      (isGroupMember tv.tag (lastGf st) = false → isHeaderField d tv.tag = false ∧ isTrailerField d tv.tag = false ∧ NoGroupTag d tv.tag) →
      stepSpec st tv.tag = some st1 → DStep d fs ⟨some (j, g0, st), a, i⟩ tv ⟨some (j, g0, st1), a, i + 1⟩
  | close {a i j g0 st tv g'} : EndsGroup d fs st tv.tag → DStep d fs ⟨none, a ++ [(.b, g0.tag, .view j (i - j))], i⟩ tv g' →
      DStep d fs ⟨some (j, g0, st), a, i⟩ tv g'

/-- the loop invariant: the sections are `init` (those before the first item) with the ghost state's additions; `f35`, `i3`, `hdr` keep the
    MsgType lookup `parseGroup` repeats and the BodyLength entry the final check reads (`DInv.find`) -/
structure DInv (fs : List DNode) (t35 : TagValue) (init : Sec → FieldMap) (g : DG) (mode : Mode) (fields : List TagValue) (idx : Nat)
    (c : PCore) : Prop where
  idx_eq : idx = g.idx
  mode_eq : mode = g.mode
  grp : ∀ j g0 st, g.grp = some (j, g0, st) → Resolves fs st ∧ j < idx ∧ fields[j]? = some g0 ∧ c.foundBody = true
  f35 : fields[2]? = some t35
  i3 : 3 ≤ idx
  xlen : c.xmlDataLen = 0
  secs : ∀ s, c.sec s = applyAdds s g.adds (init s)
  /-- nothing is added to the header under 9 or 35 -/
  hdr : ∀ a ∈ g.adds, a.1 = Sec.h → a.2.1 ≠ 9 ∧ a.2.1 ≠ 35

theorem DInv.find {fs : List DNode} {t35 : TagValue} {init : Sec → FieldMap} {g : DG} {mode : Mode} {fields : List TagValue} {idx : Nat}
    {c : PCore} (h : DInv fs t35 init g mode fields idx c)
    (h9i : alFind (init .h).lookup 9 = some (.view 1 1)) (h35i : alFind (init .h).lookup 35 = some (.view 2 1)) :
    alFind c.header.lookup 9 = some (.view 1 1) ∧ MTInv fields c.header t35 := by
  have e := h.secs .h
  have h1 : ∀ k, (k = 9 ∨ k = 35) → alFind c.header.lookup k = alFind (init .h).lookup k := by
    intro k hk
    show alFind (c.sec .h).lookup k = _
    rw [e]
    exact applyAdds_find_absent .h k _ _ (fun a ha hh => by
      have := h.hdr a ha hh.1
      rcases hk with r | r <;> subst r
      · exact this.1 hh.2
      · exact this.2 hh.2)
  exact ⟨by rw [h1 9 (Or.inl rfl)]; exact h9i, by rw [h1 35 (Or.inr rfl)]; exact h35i, h.f35⟩

variable {mt : Bytes} {fs : List DNode} (ha : AppMsg d mt fs) (t35 : TagValue) (hv : t35.value = mt)
include ha hv

theorem top_group (fields : List TagValue) (hd : FieldMap) (hmt : MTInv fields hd t35) {t : Tag} {C : List DNode}
    (hgC : groupOf fs t = some C) : isNumInGroupField d fields hd [t] = true ∧ getGroupFields d fields hd [t] = C := by
  have hmf := appMsg_fields ha fields hd t35 hmt hv
  exact ⟨by simp only [isNumInGroupField, hmf, pathWalk_single, hgC, Option.isSome_some],
    by simp only [getGroupFields, hmf, pathWalk_single, hgC]⟩

/-- a field that ends the open group: `parseGroup` files the group, and what it does with the field is what the main loop does -/
theorem switchOf_closes (fields : List TagValue) (idx j : Nat) (c : PCore) (tv g0 : TagValue) (st : List Level)
    (hres : Resolves fs st) (hmt : MTInv fields c.header t35) (hj : fields[j]? = some g0) (hfb : c.foundBody = true)
    (hend : EndsGroup d fs st tv.tag) :
    switchOf Fixes.cur d fields idx tv c (.grp j (stackTags st) (lastGf st)) =
      switchOf Fixes.cur d fields idx tv { c with body := c.body.add g0.tag (.view j (idx - j)) } .main := by
  obtain ⟨hm, hkind⟩ := hend
  have hidxR : idxR fields j = .ok g0 := by simp [idxR, hj]
  obtain ⟨hd, bd, tr, bb, rb, tb, fb, ft, xl, xm⟩ := c
  obtain rfl : fb = true := hfb
  by_cases hh : isHeaderField d tv.tag = true
  · simp only [switchOf, grpSwitch, mainSwitch, hm, hh, Fixes.cur, if_true, Bool.false_eq_true, if_false, addDm, hidxR]
  · have hh' : isHeaderField d tv.tag = false := by simpa using hh
    by_cases ht : isTrailerField d tv.tag = true
    · simp only [switchOf, grpSwitch, mainSwitch, hm, hh', ht, Fixes.cur, if_true, Bool.false_eq_true, if_false, addDm, hidxR]
    · have ht' : isTrailerField d tv.tag = false := by simpa using ht
      cases hg : groupOf fs tv.tag with
      | some C =>
        obtain ⟨hnum, hgf⟩ := top_group ha t35 hv fields hd hmt hg
        simp only [switchOf, grpSwitch, mainSwitch, hm, hh', ht', hnum, hgf, Fixes.cur, if_true, Bool.false_eq_true, if_false, addDm, hidxR]
      | none =>
        rcases hkind with e | e | e | ⟨hng, hstep⟩
        · exact absurd e hh
        · exact absurd e ht
        · rw [hg] at e; cases e
        · simp only [switchOf]
          rw [grpSwitch_stack ha fields idx j _ tv t35 hmt hv st hres (fun _ => ⟨hh', ht', hng⟩), hstep]
          simp only [mainSwitch, hh', ht', isNum_false d _ _ tv.tag hng, addDm, hidxR, Bool.false_eq_true, if_false]

/-- at a field that ends the open group the loop is the main loop with the group filed in the body -/
theorem DInv.closes {init : Sec → FieldMap} {a : List SAdd} {i j : Nat} {g0 : TagValue} {st : List Level} {mode : Mode}
    {fields : List TagValue} {idx : Nat} {c : PCore} (hI : DInv fs t35 init ⟨some (j, g0, st), a, i⟩ mode fields idx c)
    (h9i : alFind (init .h).lookup 9 = some (.view 1 1)) (h35i : alFind (init .h).lookup 35 = some (.view 2 1))
    {tv : TagValue} {raw' : Bytes} (hidx : idx < fields.length) (hex : extractField c.rawBytes = (raw', .ok tv))
    (hend : EndsGroup d fs st tv.tag) :
    parseLoop Fixes.cur d mode fields idx c =
      parseLoop Fixes.cur d .main fields idx { c with body := c.body.add g0.tag (.view j (idx - j)) } ∧
    DInv fs t35 init ⟨none, a ++ [(.b, g0.tag, .view j (i - j))], i⟩ .main fields idx
      { c with body := c.body.add g0.tag (.view j (idx - j)) } := by
  obtain ⟨hres, hj, hfj, hfb⟩ := hI.grp j g0 st rfl
  obtain ⟨_, hmt⟩ := hI.find h9i h35i
  refine ⟨?_, hI.idx_eq, rfl, (fun _ _ _ h => by cases h), hI.f35, hI.i3, hI.xlen, fun s => ?_,
    List.forall_mem_append.2 ⟨hI.hdr, by simp⟩⟩
  · rw [hI.mode_eq]
    exact parseLoop_same Fixes.cur _ fields idx c _ tv raw' hidx hI.xlen hex .main hI.xlen hex
      (switchOf_closes ha t35 hv (fields.set idx tv) idx j { c with rawBytes := raw' } tv g0 st hres (hmt.set idx tv hI.i3)
        (by rw [List.getElem?_set_ne (by omega)]; exact hfj) hfb hend)
  · rw [applyAdds_snoc, ← hI.secs s, show i = idx from hI.idx_eq.symm]
    cases s <;> rfl

/-- one iteration of the dictionary-guided loop is one move of the ghost state: one case per move of `DStep` -/
theorem dict_iter {init : Sec → FieldMap} (h9i : alFind (init .h).lookup 9 = some (.view 1 1))
    (h35i : alFind (init .h).lookup 35 = some (.view 2 1)) : Advances Fixes.cur d (DInv fs t35 init) (fun g tv g' => IsWire tv ∧ DStep d fs g tv g') := by
  rintro g tv g' ⟨hw, hT⟩ mode fields idx c raw' hI hidx hraw
  have hex : extractField c.rawBytes = (raw', .ok tv) := by rw [hraw]; exact extractField_wire tv raw' hw
  clear hraw
  induction hT generalizing mode c with
  | @close a i j g0 st tv g' hend _ ih =>
    obtain ⟨e, hI'⟩ := hI.closes ha t35 hv h9i h35i hidx hex hend
    rw [e]
    exact ih hw _ _ hI' hex
  | @plainMain a i tv h10 h212 h9' h35' hk =>
    obtain rfl := hI.idx_eq
    obtain rfl := hI.mode_eq
    refine ⟨.main, _, parseLoop_back Fixes.cur .main fields idx c _ tv raw' hidx hI.xlen hex
      (by simp only [switchOf]; rw [mainSwitch_files _ _ _ _ _ hk]) h10 h212,
      ⟨rfl, rfl, (fun _ _ _ h => by cases h), by rw [List.getElem?_set_ne (by have := hI.i3; omega)]; exact hI.f35, Nat.le_succ_of_le hI.i3,
        by rw [(plainTail_raw _).2.1, (plainSwitch_raw _ _ _).2.1]; exact hI.xlen, fun s => ?_,
        List.forall_mem_append.2 ⟨hI.hdr, List.forall_mem_singleton.2 fun _ => ⟨h9', h35'⟩⟩⟩,
      by rw [(plainTail_raw _).1, (plainSwitch_raw _ _ _).1]⟩
    rw [plainTail_sec, plainSwitch_sec, applyAdds_snoc, ← hI.secs s]; rfl
  | @groupMain a i tv C hgh hgt hgC =>
    obtain rfl := hI.idx_eq
    obtain rfl := hI.mode_eq
    obtain ⟨_, hmt⟩ := hI.find h9i h35i
    obtain ⟨hnum, hgf⟩ := top_group ha t35 hv (fields.set idx tv) c.header (hmt.set idx tv hI.i3) hgC
    exact ⟨_, { c with rawBytes := raw', foundBody := true, trailerBytes := raw' },
      parseLoop_goes Fixes.cur .main fields idx c _ tv raw' hidx hI.xlen hex _
      (by simp only [switchOf, mainSwitch, hgh, hgt, hnum, hgf, Fixes.cur, if_true, Bool.false_eq_true, if_false]; rfl),
      ⟨rfl, rfl, fun j g0 st h => by cases h; exact ⟨.one hgC, Nat.lt_succ_self _, by simp [hidx], rfl⟩,
        (hmt.set idx tv hI.i3).2, Nat.le_succ_of_le hI.i3, hI.xlen, fun s => (by cases s <;> rfl : _ = c.sec s).trans (hI.secs s), hI.hdr⟩, rfl⟩
  | @member a i j g0 st st1 tv hside hstep =>
    obtain rfl := hI.idx_eq
    obtain rfl := hI.mode_eq
    obtain ⟨hres, hj, hfj, hfb⟩ := hI.grp j g0 st rfl
    obtain ⟨_, hmt⟩ := hI.find h9i h35i
    have hsw := grpSwitch_stack ha (fields.set idx tv) idx j { c with rawBytes := raw' } tv t35 (hmt.set idx tv hI.i3) hv st hres hside
    rw [hstep] at hsw
    exact ⟨_, { c with rawBytes := raw', trailerBytes := raw' }, parseLoop_goes Fixes.cur _ fields idx c _ tv raw' hidx hI.xlen hex _ hsw,
      ⟨rfl, rfl, fun j' g0' st' h => by
          cases h
          exact ⟨stepSpec_resolves st hres tv.tag st1 hstep, by omega, by rw [List.getElem?_set_ne (by omega)]; exact hfj, hfb⟩,
        (hmt.set idx tv hI.i3).2, Nat.le_succ_of_le hI.i3, hI.xlen, fun s => (by cases s <;> rfl : _ = c.sec s).trans (hI.secs s), hI.hdr⟩, rfl⟩

omit ha hv

theorem walkN_chain {st st' : List Level} {M : List TagValue} (h : WalkN d st M st') (j : Nat) (g0 : TagValue) (a : List SAdd) :
    ∀ i, Chain (DStep d fs) ⟨some (j, g0, st), a, i⟩ M ⟨some (j, g0, st'), a, i + M.length⟩ := by
  induction h with
  | nil s => intro i; exact .nil _
  | step _ hside hstep _ ih =>
    intro i
    have := Chain.cons (DStep.member (fs := fs) (a := a) (i := i) (j := j) (g0 := g0) hside hstep) (ih (i + 1))
    rwa [Nat.add_assoc, Nat.add_comm 1] at this

theorem items_chain {s s' : Option (List Level)} {items : List Itm} (h : ItemsOK d fs s items s') :
    ∀ g : DG, g.stack = s → ∃ g', Chain (DStep d fs) g (flatItms items) g' ∧ g'.stack = s' ∧ g'.eff = g.eff ++ itmAdds d g.idx items := by
  induction h with
  | nil s => intro g hg; exact ⟨g, .nil _, hg, by simp [itmAdds]⟩
  | @plainMain tv r s' _ h10 h212 h9 h35 hk _ ih =>
    rintro ⟨_ | q, a, i⟩ hg
    · obtain ⟨g', h1, h2, h4⟩ := ih ⟨none, a ++ [(secOf d tv.tag, tv.tag, .view i 1)], i + 1⟩ rfl
      exact ⟨g', .cons (.plainMain h10 h212 h9 h35 hk) h1, h2, by rw [h4]; simp [DG.eff, itmAdds]⟩
    · cases hg
  | @groupMain g0 M C st' r s' _ hgh hgt hgC hW _ ih =>
    rintro ⟨_ | q, a, i⟩ hg
    · obtain ⟨g', h1, h2, h4⟩ := ih ⟨some (i, g0, st'), a, i + 1 + M.length⟩ rfl
      have e : i + 1 + M.length - i = 1 + M.length := by omega
      refine ⟨g', ?_, h2, by rw [h4]; simp [DG.eff, itmAdds, e]⟩
      rw [flatItms_cons]
      exact (Chain.cons (.groupMain hgh hgt hgC) (walkN_chain hW i g0 a (i + 1))).trans h1
    · cases hg
  | @close st it r s' hend _ ih =>
    rintro ⟨_ | ⟨j, g0, st0⟩, a, i⟩ hg
    · cases hg
    · obtain rfl : st0 = st := by simpa [DG.stack] using hg
      -- the chain from the closed ghost state, its first move behind `close`
      obtain ⟨g', h1, h2, h4⟩ := ih ⟨none, a ++ [(.b, g0.tag, .view j (i - j))], i⟩ rfl
      cases it <;> exact ⟨g', h1.head fun _ => .close hend, h2, h4⟩   -- the split lets `flatItms` show its first field

/-- the sections right after the three leading fields -/
def initSec (t8 t9 t35 : TagValue) : Sec → FieldMap
  | .h => (((FieldMap.empty OrdKind.header).add t8.tag (Field.view 0 1)).add t9.tag (Field.view 1 1)).add t35.tag (Field.view 2 1)
  | .b => FieldMap.empty OrdKind.normal
  | .t => FieldMap.empty OrdKind.trailer

/-- the message may end inside a group only if that group does not list CheckSum -/
def ClosesOK : Option (List Level) → Prop
  | none => True
  | some st => isGroupMember 10 (lastGf st) = false

/-- parse with dictionaries, any sequence of plain fields and groups (any depth, any adjacency): the section maps are exactly the
    additions in wire order -/
theorem parse_dict_items {mt : Bytes} {fs : List DNode} (ha : AppMsg d mt fs) (t8 t9 t35 t10 : TagValue) (items : List Itm)
    (s' : Option (List Level))
    (hw8 : IsWire t8) (hw9 : IsWire t9) (hw35 : IsWire t35) (hw10 : IsWire t10)
    (h8 : t8.tag = 8) (h9 : t9.tag = 9) (h35 : t35.tag = 35) (h10 : t10.tag = 10) (hv : t35.value = mt)
    (hok : ItemsOK d fs none items s') (hclose : ClosesOK s') (hh10 : isHeaderField d 10 = false)
    (hbl : atoi t9.value = .ok ((fieldsLength (t8 :: t9 :: t35 :: (flatItms items ++ [t10])) : Nat) : Int)) :
    ∃ m, parseMessage Fixes.cur d (wireOf (t8 :: t9 :: t35 :: (flatItms items ++ [t10]))) = .ok m ∧
      m.fields = t8 :: t9 :: t35 :: (flatItms items ++ [t10]) ∧
      m.raw = some (wireOf (t8 :: t9 :: t35 :: (flatItms items ++ [t10]))) ∧
      ∀ s, m.sec s = applyAdds s (itmAdds d 3 items ++ [(Sec.t, 10, Field.view (3 + (flatItms items).length) 1)]) (initSec t8 t9 t35 s) := by
  have hrestW : ∀ tv ∈ flatItms items ++ [t10], IsWire tv := List.forall_mem_append.2 ⟨hok.wire, List.forall_mem_singleton.2 hw10⟩
  rw [parseMessage_lead_wire Fixes.cur t8 t9 t35 _ hw8 hw9 hw35 hrestW h8 h9 h35,
    show wireOf (flatItms items ++ [t10]) = wireOf (flatItms items) ++ (t10.bytes ++ []) by simp [wireOf]]
  obtain ⟨_, hf9, hf35⟩ := plainInit_find t8 t9 t35 (wireOf (flatItms items) ++ (t10.bytes ++ [])) h8 h9 h35
  obtain ⟨g', hch, hs', (heff : g'.eff = itmAdds d 3 items)⟩ := items_chain (d := d) hok ⟨none, [], 3⟩ rfl
  obtain ⟨m', c', hP, hI, hraw⟩ := loop_chain (dict_iter ha t35 hv (init := initSec t8 t9 t35) hf9 hf35)
    (hch.and_mem hok.wire) .main ([t8, t9, t35] ++ List.replicate (flatItms items ++ [t10]).length TagValue.zero) 3
    (plainInit t8 t9 t35 (wireOf (flatItms items) ++ (t10.bytes ++ []))) (t10.bytes ++ [])
    ⟨rfl, rfl, (fun _ _ _ h => by cases h), rfl, Nat.le_refl 3, rfl, (fun s => by cases s <;> rfl), (fun _ h => by cases h)⟩ rfl (by simp; omega)
  rw [hP]
  generalize hL : flatItms items = Lf at *
  generalize hF : setRange ([t8, t9, t35] ++ List.replicate (Lf ++ [t10]).length TagValue.zero) 3 Lf = F at hI ⊢
  have hk : 3 + Lf.length < F.length := by
    rw [← hF, setRange_length, List.length_append, List.length_replicate, List.length_append]; simp
  have hFL : F.set (3 + Lf.length) t10 = t8 :: t9 :: t35 :: (Lf ++ [t10]) := by
    rw [← hF, setRange_snoc]
    simpa using setRange_replicate TagValue.zero (Lf ++ [t10]) [t8, t9, t35]
  have hex : extractField c'.rawBytes = ([], .ok t10) := by rw [hraw]; exact extractField_wire t10 [] hw10
  -- CheckSum ends the open group if there is one: in either case the loop is the main loop with every group filed
  obtain ⟨c2, hP2, hI2, hraw2⟩ : ∃ c2, parseLoop Fixes.cur d m' F (3 + Lf.length) c' = parseLoop Fixes.cur d .main F (3 + Lf.length) c2 ∧
      DInv fs t35 (initSec t8 t9 t35) ⟨none, g'.eff, g'.idx⟩ .main F (3 + Lf.length) c2 ∧ c2.rawBytes = c'.rawBytes := by
    obtain rfl := hI.mode_eq
    obtain ⟨_ | ⟨j, g0, st⟩, a, i⟩ := g'
    · exact ⟨c', rfl, hI, rfl⟩
    · have hend : EndsGroup d fs st t10.tag := by
        rw [h10]; exact ⟨by have := hclose; rw [← hs'] at this; exact this, Or.inr (Or.inl (isTrailerField_ten d))⟩
      obtain ⟨e, hI'⟩ := hI.closes ha t35 hv hf9 hf35 hk hex hend
      exact ⟨_, e, hI', rfl⟩
  rw [hP2, parseLoop_checksum (d := d) Fixes.cur F _ c2 t10 [] hk hI2.xlen hw10 h10 hh10 (hraw2.trans hraw), hFL,
    finish_ok _ _ t9 ?h9 (by simp) hbl]
  case h9 => exact (hI2.find hf9 hf35).1
  refine ⟨_, rfl, rfl, rfl, fun s => ?_⟩
  rw [msgOf_sec, ← heff, applyAdds_snoc, ← hI2.secs s, ← h10]
  cases s <;> rfl

theorem itmAdds_append : ∀ (A B : List Itm) (idx : Nat),
    itmAdds d idx (A ++ B) = itmAdds d idx A ++ itmAdds d (idx + (flatItms A).length) B := by
  intro A
  induction A with
  | nil => intro B idx; simp [itmAdds, flatItms]
  | cons it r ih =>
    intro B idx
    cases it with
    | plain tv =>
      have e : idx + (flatItms (Itm.plain tv :: r)).length = idx + 1 + (flatItms r).length := by
        rw [flatItms_cons]; simp [Itm.flat]; omega
      simp only [List.cons_append, itmAdds, ih, e]
    | group g0 M =>
      have e : idx + (flatItms (Itm.group g0 M :: r)).length = idx + 1 + M.length + (flatItms r).length := by
        rw [flatItms_cons]; simp [Itm.flat]; omega
      simp only [List.cons_append, itmAdds, ih, e]

theorem itmAdds_tag : ∀ (items : List Itm) (idx : Nat), ∀ a ∈ itmAdds d idx items, ∃ it ∈ items, a.2.1 = it.head.tag := by
  intro items
  induction items with
  | nil => intro idx a ha; cases ha
  | cons it r ih =>
    intro idx a ha
    cases it with
    | plain tv =>
      simp only [itmAdds, List.mem_cons] at ha
      rcases ha with e | e
      · exact ⟨.plain tv, by simp, by rw [e]; rfl⟩
      · obtain ⟨it', hit, h⟩ := ih _ a e; exact ⟨it', by simp [hit], h⟩
    | group g0 M =>
      simp only [itmAdds, List.mem_cons] at ha
      rcases ha with e | e
      · exact ⟨.group g0 M, by simp, by rw [e]; rfl⟩
      · obtain ⟨it', hit, h⟩ := ih _ a e; exact ⟨it', by simp [hit], h⟩

/-- nothing is added later under a tag that no later item is stored under -/
theorem later_of_heads (items : List Itm) (idx : Nat) (sec : Sec) (k : Tag) (hitems : ∀ tv ∈ items.map Itm.head, tv.tag ≠ k) :
    ∀ a ∈ itmAdds d idx items, ¬ (a.1 = sec ∧ a.2.1 = k) := by
  intro a ha hh
  obtain ⟨it, hit, e⟩ := itmAdds_tag items idx a ha
  exact hitems it.head (List.mem_map_of_mem hit) (e ▸ hh.2)

theorem heads_plain (l : List TagValue) : (l.map Itm.plain).map Itm.head = l := by
  induction l with
  | nil => rfl
  | cons x r ih => simp only [List.map_cons, ih, Itm.head]

theorem itmAdds_find_group (A B : List Itm) (g0 : TagValue) (M : List TagValue) (idx : Nat) (last : List SAdd) (fm : FieldMap)
    (hlater : ∀ a ∈ itmAdds d (idx + (flatItms A).length + 1 + M.length) B ++ last, ¬ (a.1 = Sec.b ∧ a.2.1 = g0.tag)) :
    alFind (applyAdds .b (itmAdds d idx (A ++ .group g0 M :: B) ++ last) fm).lookup g0.tag =
      some (.view (idx + (flatItms A).length) (1 + M.length)) := by
  rw [itmAdds_append, List.append_assoc]
  exact applyAdds_find_last .b g0.tag _ _ _ fm hlater

theorem itmAdds_find_plain (A B : List Itm) (tv : TagValue) (idx : Nat) (last : List SAdd) (fm : FieldMap)
    (hlater : ∀ a ∈ itmAdds d (idx + (flatItms A).length + 1) B ++ last, ¬ (a.1 = secOf d tv.tag ∧ a.2.1 = tv.tag)) :
    alFind (applyAdds (secOf d tv.tag) (itmAdds d idx (A ++ .plain tv :: B) ++ last) fm).lookup tv.tag =
      some (.view (idx + (flatItms A).length) 1) := by
  rw [itmAdds_append, List.append_assoc]
  exact applyAdds_find_last (secOf d tv.tag) tv.tag _ _ _ fm hlater

theorem flatItms_append (a b : List Itm) : flatItms (a ++ b) = flatItms a ++ flatItms b := by
  simp [flatItms, List.flatMap_append]

theorem flatItms_map_plain (l : List TagValue) : flatItms (l.map Itm.plain) = l := by
  induction l with
  | nil => rfl
  | cons x r ih => rw [List.map_cons, flatItms_cons, ih]; rfl

/-- where the items are found after the parse: a plain field in the section of its tag, a group in the body as ONE view over its count field and
    all its member fields — each provided nothing later is added under the same tag to the same section (the last addition wins) -/
theorem parse_dict_found {mt : Bytes} {fs : List DNode} (ha : AppMsg d mt fs) (t8 t9 t35 t10 : TagValue) (items : List Itm)
    (s' : Option (List Level))
    (hw8 : IsWire t8) (hw9 : IsWire t9) (hw35 : IsWire t35) (hw10 : IsWire t10)
    (h8 : t8.tag = 8) (h9 : t9.tag = 9) (h35 : t35.tag = 35) (h10 : t10.tag = 10) (hv : t35.value = mt)
    (hok : ItemsOK d fs none items s') (hclose : ClosesOK s') (hh10 : isHeaderField d 10 = false)
    (hbl : atoi t9.value = .ok ((fieldsLength (t8 :: t9 :: t35 :: (flatItms items ++ [t10])) : Nat) : Int)) :
    ∃ m, parseMessage Fixes.cur d (wireOf (t8 :: t9 :: t35 :: (flatItms items ++ [t10]))) = .ok m ∧
      m.fields = t8 :: t9 :: t35 :: (flatItms items ++ [t10]) ∧
      m.raw = some (wireOf (t8 :: t9 :: t35 :: (flatItms items ++ [t10]))) ∧
      (∀ (A B : List Itm) (tv : TagValue), items = A ++ .plain tv :: B → tv.tag ≠ 10 →
        (∀ a ∈ itmAdds d (3 + (flatItms A).length + 1) B, ¬ (a.1 = secOf d tv.tag ∧ a.2.1 = tv.tag)) →
        (m.sec (secOf d tv.tag)).getBytes m.fields tv.tag = .ok tv.value) ∧
      (∀ (A B : List Itm) (g0 : TagValue) (M : List TagValue), items = A ++ .group g0 M :: B →
        (∀ a ∈ itmAdds d (3 + (flatItms A).length + 1 + M.length) B, ¬ (a.1 = Sec.b ∧ a.2.1 = g0.tag)) →
        alFind m.body.lookup g0.tag = some (.view (3 + (flatItms A).length) (1 + M.length)) ∧
        (Field.view (3 + (flatItms A).length) (1 + M.length)).items m.fields = g0 :: M ∧
        (Field.view (3 + (flatItms A).length) (1 + M.length)).full m.fields = g0 :: (M ++ (flatItms B ++ [t10]))) := by
  obtain ⟨m, h1, h2, h3, h4⟩ := parse_dict_items ha t8 t9 t35 t10 items s' hw8 hw9 hw35 hw10 h8 h9 h35 h10 hv hok hclose hh10 hbl
  refine ⟨m, h1, h2, h3, ?_, ?_⟩
  · intro A B tv hsplit hn10 hlater
    have hfind : alFind (m.sec (secOf d tv.tag)).lookup tv.tag = some (.view (3 + (flatItms A).length) 1) := by
      rw [h4, hsplit, itmAdds_find_plain]
      exact List.forall_mem_append.2 ⟨hlater, List.forall_mem_singleton.2 fun hh => hn10 hh.2.symm⟩
    exact getBytes_view _ _ _ _ tv hfind (getElem?_eq_mid (A := t8 :: t9 :: t35 :: flatItms A) (R := flatItms B ++ [t10])
      (by rw [h2, hsplit, flatItms_append, flatItms_cons]; simp [Itm.flat]) (by simp; omega))
  · intro A B g0 M hsplit hlater
    have hL : m.fields = (t8 :: t9 :: t35 :: flatItms A) ++ ((g0 :: M) ++ (flatItms B ++ [t10])) := by
      rw [h2, hsplit, flatItms_append, flatItms_cons]; simp [Itm.flat]
    refine ⟨?_, view_items_eq hL (by simp; omega) (by simp; omega), ?_⟩
    · show alFind (m.sec .b).lookup g0.tag = _
      rw [h4, hsplit, itmAdds_find_group]
      exact List.forall_mem_append.2 ⟨hlater, List.forall_mem_singleton.2 fun hh => nomatch hh.1⟩
    · rw [view_full_eq hL (by simp; omega)]; simp

theorem itemsOK_plains {fs : List DNode} (l : List TagValue) (hl : PlainFields d l) {r : List Itm} {s' : Option (List Level)}
    (hr : ItemsOK d fs none r s') : ItemsOK d fs none (l.map Itm.plain ++ r) s' := by
  induction l with
  | nil => exact hr
  | cons x xs ih =>
    obtain ⟨h1, h2, h3, h4, h5, h6⟩ := hl x (by simp)
    exact .plainMain h1 h2 h3 h4 h5 (Or.inr (Or.inr h6)) (ih (fun tv h => hl tv (by simp [h])))

/-- the tag is listed at no level of the dictionary tree under `C` -/
def NotListed (C : List DNode) (t : Tag) : Prop :=
  isGroupMember t C = false ∧ ∀ C', Below C C' → isGroupMember t C' = false

def notListedB (C : List DNode) (t : Tag) : Bool := (C :: belowNodes C).all fun C1 => !isGroupMember t C1

theorem notListedB_sound {C : List DNode} {t : Tag} (h : notListedB C t = true) : NotListed C t := by
  simp only [notListedB, List.all_eq_true, Bool.not_eq_true'] at h
  exact ⟨h C (by simp), fun C' hb => h C' (List.mem_cons_of_mem _ (below_mem hb))⟩

/-- the same sequences described from the dictionaries alone (no reference to the parser's tag stack): plain fields; groups of the message
    type whose member fields are well nested (`GroupWalk`) over a tag-disjoint tree (`TreeOK`); what follows a group — a plain field, a
    header / trailer field, the count field of another group — carries a tag listed nowhere in that group's tree.  The index threads the
    member list of the group that is open (`none` = none). -/
inductive ItemsN (d : Dicts) (fs : List DNode) : Option (List DNode) → List Itm → Option (List DNode) → Prop where
  | nil (s : Option (List DNode)) : ItemsN d fs s [] s
  | plainMain {tv r s'} : PlainOK d tv → ItemsN d fs none r s' → ItemsN d fs none (.plain tv :: r) s'
  | plainExit {C0 tv r s'} : IsWire tv → tv.tag ≠ 10 → tv.tag ≠ 212 → tv.tag ≠ 35 → tv.tag ≠ 9 → NotListed C0 tv.tag →
      (isHeaderField d tv.tag = true ∨ isTrailerField d tv.tag = true ∨ NoGroupTag d tv.tag) →
      ItemsN d fs none r s' → ItemsN d fs (some C0) (.plain tv :: r) s'
  | groupMain {g0 M C r s'} : IsWire g0 → isHeaderField d g0.tag = false → isTrailerField d g0.tag = false →
      groupOf fs g0.tag = some C → GroupWalk C M → TreeOK d C → ItemsN d fs (some C) r s' →
      ItemsN d fs none (.group g0 M :: r) s'
  | groupAdj {C0 g0 M C r s'} : IsWire g0 → isHeaderField d g0.tag = false → isTrailerField d g0.tag = false →
      NotListed C0 g0.tag →
      groupOf fs g0.tag = some C → GroupWalk C M → TreeOK d C → ItemsN d fs (some C) r s' →
      ItemsN d fs (some C0) (.group g0 M :: r) s'

/-- a parser stack over the tree of `C` -/
def StackOver : Option (List DNode) → Option (List Level) → Prop
  | none, none => True
  | some C, some st => ∃ G ext, st = (G, C) :: ext ∧ ∀ l ∈ ext, Below C l.2
  | _, _ => False

theorem StackOver.of_none {so : Option (List Level)} (h : StackOver none so) : so = none := by
  cases so with
  | none => rfl
  | some st => exact absurd h (by simp [StackOver])

theorem StackOver.of_some {C : List DNode} {so : Option (List Level)} (h : StackOver (some C) so) :
    ∃ G ext, so = some ((G, C) :: ext) ∧ ∀ l ∈ ext, Below C l.2 := by
  cases so with
  | none => exact absurd h (by simp [StackOver])
  | some st => obtain ⟨G, ext, hst, hext⟩ := h; exact ⟨G, ext, by rw [hst], hext⟩

theorem notListed_stack {C : List DNode} {t : Tag} (h : NotListed C t) (G : Tag) (ext : List Level) (hext : ∀ l ∈ ext, Below C l.2) :
    ∀ l ∈ (G, C) :: ext, isGroupMember t l.2 = false := by
  intro l hl
  simp only [List.mem_cons] at hl
  rcases hl with e | e
  · subst e; exact h.1
  · exact h.2 l.2 (hext l e)

theorem itemsN_ok {fs : List DNode} {s s' : Option (List DNode)} {items : List Itm} (h : ItemsN d fs s items s') :
    ∀ so, StackOver s so → ∃ so', ItemsOK d fs so items so' ∧ StackOver s' so' := by
  induction h with
  | nil s => intro so hso; exact ⟨so, .nil _, hso⟩
  | plainMain hp _ ih =>
    intro so hso
    obtain rfl := hso.of_none
    obtain ⟨so', h1, h2⟩ := ih none trivial
    exact ⟨so', .plainMain hp.wire hp.n10 hp.n212 hp.n9 hp.n35 (Or.inr (Or.inr hp.ng)) h1, h2⟩
  | @plainExit C0 tv r s' hw h10 h212 h35 h9 hnl hkind _ ih =>
    intro so hso
    obtain ⟨G, ext, rfl, hext⟩ := hso.of_some
    have hall := notListed_stack hnl G ext hext
    have hend : EndsGroup d fs ((G, C0) :: ext) tv.tag :=
      ⟨lastGf_notMember _ _ hall, hkind.imp_right (Or.imp_right fun e => Or.inr ⟨e, stepSpec_exit _ _ hall⟩)⟩
    obtain ⟨so', h1, h2⟩ := ih none trivial
    exact ⟨so', .close hend (.plainMain hw h10 h212 h9 h35 hkind h1), h2⟩
  | @groupMain g0 M C r s' hw hgh hgt hgC hM htree _ ih =>
    intro so hso
    obtain rfl := hso.of_none
    obtain ⟨ext', he', hW⟩ := hM.walkN_top (d := d) g0.tag htree
    obtain ⟨so', h1, h2⟩ := ih (some ((g0.tag, C) :: ext')) ⟨g0.tag, ext', rfl, he'⟩
    exact ⟨so', .groupMain hw hgh hgt hgC hW h1, h2⟩
  | @groupAdj C0 g0 M C r s' hw hgh hgt hnl hgC hM htree _ ih =>
    intro so hso
    obtain ⟨G, ext, rfl, hext⟩ := hso.of_some
    obtain ⟨ext', he', hW⟩ := hM.walkN_top (d := d) g0.tag htree
    obtain ⟨so', h1, h2⟩ := ih (some ((g0.tag, C) :: ext')) ⟨g0.tag, ext', rfl, he'⟩
    exact ⟨so', .close ⟨lastGf_notMember _ _ (notListed_stack hnl G ext hext), Or.inr (Or.inr (Or.inl (congrArg Option.isSome hgC)))⟩
      (.groupMain hw hgh hgt hgC hW h1), h2⟩

/-- the message may end inside a group whose tree does not list CheckSum -/
def ClosesN : Option (List DNode) → Prop
  | none => True
  | some C => NotListed C 10

theorem closesN_ok {s : Option (List DNode)} {so : Option (List Level)} (h : ClosesN s) (hso : StackOver s so) : ClosesOK so := by
  cases s with
  | none => rw [hso.of_none]; trivial
  | some C =>
    obtain ⟨G, ext, rfl, hext⟩ := hso.of_some
    exact lastGf_notMember _ _ (notListed_stack h G ext hext)

end Qfx
