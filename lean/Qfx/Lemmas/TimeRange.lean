/-
  Qfx.Lemmas.TimeRange — the arithmetic of days, weekdays and times of day behind C18, and the one shape every
  window has: it opens on a day `D` with `r.opens D`, at `startS`, and closes `r.span` days later at `endS`.
-/
import Qfx.Spec.TimeRange
namespace Qfx.TR

theorem instant_div_mod (t : Int) : t = dayOf t * 86400 + todOf t ∧ 0 ≤ todOf t ∧ todOf t < 86400 := by
  unfold dayOf todOf; omega

/-- instants are ordered as pairs (day, time of day): `t` lies between `s` on day `D` and `e` on day `D + n` exactly
    when its day lies `k ∈ [0, n]` days after `D` and its time of day respects the edge it shares a day with -/
theorem mem_window_iff {s e : Int} (hs : 0 ≤ s ∧ s < 86400) (he : 0 ≤ e ∧ e < 86400) (D n t : Int) :
    D * 86400 + s ≤ t ∧ t ≤ (D + n) * 86400 + e ↔
      0 ≤ dayOf t - D ∧ dayOf t - D ≤ n ∧ (dayOf t - D = 0 → s ≤ todOf t) ∧ (dayOf t - D = n → todOf t ≤ e) := by
  have := instant_div_mod t
  omega

theorem todOf_day_add {e : Int} (he : 0 ≤ e ∧ e < 86400) (D : Int) : todOf (D * 86400 + e) = e := by
  unfold todOf; omega

theorem wdOfDay_bounds (d : Int) : 0 ≤ wdOfDay d ∧ wdOfDay d < 7 := by unfold wdOfDay; omega

theorem wdOfDay_sub_eq_iff {sd : Int} (hsd : 0 ≤ sd ∧ sd < 7) (d k : Int) :
    wdOfDay (d - k) = sd ↔ k % 7 = (wdOfDay d - sd) % 7 := by
  unfold wdOfDay; omega

/-- the way forward from weekday `a` to weekday `b` without `%`.  For rewriting a GOAL only: as a hypothesis of `omega` an `if` is
    the dearest thing there is (it splits on it in every branch), where a residue `% 7` costs it one new variable -/
theorem mod7_sub {a b : Int} (ha : 0 ≤ a ∧ a < 7) (hb : 0 ≤ b ∧ b < 7) :
    (b - a) % 7 = if a ≤ b then b - a else b - a + 7 := by
  split <;> omega

/-- the circular-interval test of `isInWeekRange`: weekday `w` is outside `sd … ed` exactly when it is further
    from `sd` (going forward) than `ed` is -/
theorem outside_iff {w sd ed : Int} (hw : 0 ≤ w ∧ w < 7) (hsd : 0 ≤ sd ∧ sd < 7) (hed : 0 ≤ ed ∧ ed < 7) (hne : sd ≠ ed) :
    (if sd < ed then w < sd ∨ ed < w else ed < w ∧ w < sd) ↔ (ed - sd) % 7 < (w - sd) % 7 := by
  rw [mod7_sub hsd hw, mod7_sub hsd hed]
  split <;> split <;> split <;> omega

/-- turns the `∃ k` of `inRange_iff` into the one or two residues a weekly configuration has to check -/
theorem exists_mod7_iff {k0 n : Int} (hk0 : 0 ≤ k0 ∧ k0 < 7) (hn : n ≤ 7) (P : Int → Prop) :
    (∃ k, 0 ≤ k ∧ k ≤ n ∧ k % 7 = k0 ∧ P k) ↔ (k0 ≤ n ∧ P k0) ∨ (k0 = 0 ∧ n = 7 ∧ P 7) := by
  constructor
  · rintro ⟨k, h0, hkn, hk, hP⟩
    by_cases h : k = k0
    · exact Or.inl ⟨by omega, h ▸ hP⟩
    · have : k = 7 := by omega
      exact Or.inr ⟨by omega, by omega, this ▸ hP⟩
  · rintro (⟨h, hP⟩ | ⟨h0, h7, hP⟩)
    · exact ⟨k0, hk0.1, h, by omega, hP⟩
    · exact ⟨7, by omega, by omega, by omega, hP⟩

/-- … and into today's and yesterday's window for a daily one -/
theorem exists_upto_one {n : Int} (hn : n = 0 ∨ n = 1) (P : Int → Prop) :
    (∃ k, 0 ≤ k ∧ k ≤ n ∧ P k) ↔ P 0 ∨ (n = 1 ∧ P 1) := by
  constructor
  · rintro ⟨k, h0, h1, hP⟩
    by_cases h : k = 0
    · exact Or.inl (h ▸ hP)
    · have : k = 1 := by omega
      exact Or.inr ⟨by omega, this ▸ hP⟩
  · rintro (hP | ⟨h, hP⟩)
    · exact ⟨0, by omega, by omega, hP⟩
    · exact ⟨1, by omega, by omega, hP⟩

/-- how many days after its opening day a window closes -/
def Range.span (r : Range) : Int :=
  match r.startDay, r.endDay with
  | some sd, some ed => if sd = ed then (if r.startS < r.endS then 0 else 7) else (ed - sd) % 7
  | _, _ => if r.startS < r.endS then 0 else 1

/-- a window opens on civil day `D` -/
def Range.opens (r : Range) (D : Int) : Bool :=
  match r.startDay, r.endDay with
  | some sd, some _ => wdOfDay D = sd
  | _, _ => r.isInWeekdays (wdOfDay D)

theorem span_bounds (r : Range) : 0 ≤ r.span ∧ r.span ≤ 7 := by
  fun_cases Range.span r <;> omega

/-- `span` and `opens` describe both window shapes of the specification -/
theorem window_eq_some_iff (r : Range) (D lo hi : Int) :
    r.window D = some (lo, hi) ↔
      r.opens D = true ∧ D * 86400 + r.startS = lo ∧ (D + r.span) * 86400 + r.endS = hi := by
  unfold Range.window Range.opens Range.span Range.dailyWindow Range.weeklyWindow
  rcases r.startDay with _ | sd <;> rcases r.endDay with _ | ed <;> dsimp only <;>
    split <;> simp [*, apply_ite (· * (86400 : Int)), apply_ite (D + ·)]

theorem inRange_iff (r : Range) (hwf : r.wf) (t : Int) :
    InRange r t ↔ ∃ k, 0 ≤ k ∧ k ≤ r.span ∧ r.opens (dayOf t - k) = true ∧
      (k = 0 → r.startS ≤ todOf t) ∧ (k = r.span → todOf t ≤ r.endS) := by
  -- clauses 1-4 of `Range.wf`
  have hm := fun D => mem_window_iff ⟨hwf.1, hwf.2.1⟩ ⟨hwf.2.2.1, hwf.2.2.2.1⟩ D r.span t
  constructor
  · rintro ⟨D, lo, hi, hwin, hlo, hhi⟩
    obtain ⟨ho, rfl, rfl⟩ := (window_eq_some_iff r D _ _).1 hwin
    obtain ⟨h0, hn, hse⟩ := (hm D).1 ⟨hlo, hhi⟩
    exact ⟨dayOf t - D, h0, hn, by rwa [Int.sub_sub_self], hse⟩
  · rintro ⟨k, h0, hn, ho, hse⟩
    have := (hm (dayOf t - k)).2 (by rw [Int.sub_sub_self]; exact ⟨h0, hn, hse⟩)
    exact ⟨dayOf t - k, _, _, (window_eq_some_iff r _ _ _).2 ⟨ho, rfl, rfl⟩, this⟩

theorem span_weekly (r : Range) {sd ed : Int} (hS : r.startDay = some sd) (hE : r.endDay = some ed) :
    (r.span + sd - ed) % 7 = 0 ∧ (r.span = 7 → r.endS ≤ r.startS) := by
  simp only [Range.span, hS, hE]; split <;> omega

/-- the day offset `sessionEnd` computes in a weekly configuration (weekday `w`, time of day `x` off the closing second),
    seen from an instant `k` days into a window of `n` days: the `n - k` days that remain -/
theorem weekOffset_eq {w sd ed n k s e x : Int} (hw : 0 ≤ w ∧ w < 7) (hed : 0 ≤ ed ∧ ed < 7)
    (hn : 0 ≤ n ∧ n ≤ 7) (hmod : (n + sd - ed) % 7 = 0) (h7 : n = 7 → e ≤ s)
    (hk0 : 0 ≤ k) (hkn : k ≤ n) (ho : k % 7 = (w - sd) % 7) (hs : k = 0 → s ≤ x) (he : k = n → x ≤ e) (hne : x ≠ e) :
    (if ed < w then 7 + (ed - w) else if w = ed then (if e ≤ x then 7 else 0) else ed - w) = n - k := by
  omega

theorem sessionEnd_eq (r : Range) (hwf : r.wf) (t k : Int) (hne : todOf t ≠ r.endS)
    (h0 : 0 ≤ k) (hn : k ≤ r.span) (ho : r.opens (dayOf t - k) = true)
    (hs : k = 0 → r.startS ≤ todOf t) (he : k = r.span → todOf t ≤ r.endS) :
    r.sessionEnd t = (dayOf t - k + r.span) * 86400 + r.endS := by
  -- clauses 6-8 of `Range.wf`
  obtain ⟨-, -, -, -, -, hsd, hed, hsome, -⟩ := hwf
  unfold Range.sessionEnd
  rcases hS : r.startDay with _ | sd <;> rcases hE : r.endDay with _ | ed <;> simp only [hS, hE] at hsome
  · simp only [Range.span, hS, hE] at hn he ⊢
    omega
  · simp at hsome
  · simp at hsome
  · have hsp := span_weekly r hS hE
    simp only [Range.opens, hS, hE, decide_eq_true_eq, wdOfDay_sub_eq_iff (hsd sd hS)] at ho
    dsimp only
    rw [weekOffset_eq (w := weekday t) (wdOfDay_bounds _) (hed ed hE) (span_bounds r) hsp.1 hsp.2 h0 hn ho hs he hne]
    omega

/-- the two `show`s are the proof: `isInSameRange` is `isInSameRangeWith` at the repaired offset, and its guard is the two `isInRange` -/
theorem isInSameRange_iff (r : Range) (a b : Int) :
    r.isInSameRange a b = true ↔ r.isInRange a = true ∧ r.isInRange b = true ∧
      (if b < a then a else b) < r.sessionEnd (if b < a then b else a) := by
  show r.isInSameRangeWith addWeekdayOffset a b = true ↔ _
  unfold Range.isInSameRangeWith
  show (if (!(r.isInRange a && r.isInRange b)) = true then false else _) = true ↔ _
  cases r.isInRange a <;> cases r.isInRange b <;> simp

theorem isInSameRange_comm (r : Range) (a b : Int) : r.isInSameRange a b = r.isInSameRange b a := by
  rw [Bool.eq_iff_iff, isInSameRange_iff, isInSameRange_iff]
  rcases Int.lt_trichotomy a b with h | rfl | h
  · rw [if_neg (Int.lt_asymm h), if_neg (Int.lt_asymm h), if_pos h, if_pos h]; exact and_left_comm
  · rfl
  · rw [if_pos h, if_pos h, if_neg (Int.lt_asymm h), if_neg (Int.lt_asymm h)]; exact and_left_comm

theorem todOf_sessionEnd (r : Range) (hwf : r.wf) (t : Int) : todOf (r.sessionEnd t) = r.endS :=
  todOf_day_add ⟨hwf.2.2.1, hwf.2.2.2.1⟩ _

end Qfx.TR
