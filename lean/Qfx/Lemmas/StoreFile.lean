/- Qfx.Lemmas.StoreFile — the file store on well-formed files (`goodFS`: header = rendering of the log, body holds the bytes, counter and
   creation-time files read back).  First the refinement: the file store model refines the abstract store (`FileR`, `fileR_step`, `fileR_run`;
   C16_file_full), a refresh being one `populate` of the files (`populate_eq`, `refreshOp_eq`); the half of `FileR` that is about the
   index lines and the body alone is `Stored` (a save extends it, `Stored.save`; StoreCrash reads it back, `Stored.whole`).  Then, for the crash argument of C17
   (StoreCrash), what an operation does to such files as an effect (`Eff`, `effOf`): the primitives it issues (`fileOpPrims_good`) and its move
   of the abstract store (`step_eff`).  `fileR_step` does not go through the effects: cache, clock and answer differ by operation, not by effect. -/
import Qfx.Lemmas.StoreRefine
namespace Qfx.Store
open Qfx Qfx.Spec.Store

/-- one index line and the bytes it points at -/
structure Ent where
  seq : Nat
  off : Nat
  msg : Bytes

/-- the header file that holds exactly these index lines -/
def renderH : List Ent → Bytes
  | [] => []
  | e :: t => headerLine (e.seq : Int) e.off e.msg.length ++ renderH t

/-- every index line points at its bytes in the body `B`; its numbers fit a Go `int`; the map the lines stand for -/
def BodyOK (B : Bytes) (ents : List Ent) : Prop := ∀ e ∈ ents, (B.drop e.off).take e.msg.length = e.msg
def EntsB (ents : List Ent) : Prop := ∀ e ∈ ents, e.seq ≤ maxInt ∧ e.off ≤ maxInt ∧ e.msg.length ≤ maxInt
def entMsgs (ents : List Ent) : MsgMap := ents.map fun e => (e.seq, e.msg)

theorem renderH_append (a b : List Ent) : renderH (a ++ b) = renderH a ++ renderH b := by
  induction a with
  | nil => rfl
  | cons e t ih => simp [renderH, ih]

theorem headerLine_length_pos (s : Int) (o l : Nat) : 1 ≤ (headerLine s o l).length := by
  simp [headerLine]; omega

theorem renderH_length (ents : List Ent) : ents.length ≤ (renderH ents).length := by
  induction ents with
  | nil => simp [renderH]
  | cons e t ih =>
    have := headerLine_length_pos (e.seq : Int) e.off e.msg.length
    simp only [renderH, List.length_append, List.length_cons]; omega

theorem readAt_ok (B : Bytes) (off : Nat) (msg : Bytes) (h : (B.drop off).take msg.length = msg) :
    readAt B (off : Int) (msg.length : Int) = .ok msg := by
  -- case4: the read succeeds; case3: empty message; the others are absurd
  fun_cases readAt B (off : Int) (msg.length : Int) with
  | case1 h1 => omega
  | case2 h1 h2 => omega
  | case3 h1 h2 h0 => rw [List.eq_nil_of_length_eq_zero (by omega : msg.length = 0)]
  | case4 h1 h2 h0 got hg => simp only [got, Int.toNat_natCast, h]
  | case5 h1 h2 h0 got hg => simp [got, h] at hg

theorem fileIterLoop_eq (B : Bytes) (b e : Int) (k : Nat) : ∀ (ents : List Ent) (fuel calls : Nat) (acc : List Bytes),
    ents.length < fuel → BodyOK B ents → EntsB ents → Sorted (entMsgs ents) →
    fileIterLoop B b e k fuel (renderH ents) calls acc
      = ((deliverFrom k calls acc (selectRange b e (entMsgs ents))).1,
         if (deliverFrom k calls acc (selectRange b e (entMsgs ents))).2 then IterEnd.ok else IterEnd.err) := by
  intro ents
  induction ents with
  | nil =>
    intro fuel calls acc hf _ _ _
    cases fuel with
    | zero => omega
    | succ f => simp [fileIterLoop, renderH, scanf3, scanNum, entMsgs, selectRange, deliverFrom]
  | cons en t ih =>
    intro fuel calls acc hf hb hbd hso
    cases fuel with
    | zero => omega
    | succ f =>
      have hbe := hbd en (by simp)
      have hbody := hb en (by simp)
      have hso' : Sorted (entMsgs t) := (List.pairwise_cons.1 hso).2
      have hgt : ∀ q ∈ entMsgs t, en.seq < q.1 := (List.pairwise_cons.1 hso).1
      have hsc := scanf3_headerLine en.seq en.off en.msg.length (renderH t) hbe.1 hbe.2.1 hbe.2.2
      have ihh := fun calls acc => ih f calls acc (by simp at hf; omega) (fun x hx => hb x (by simp [hx]))
        (fun x hx => hbd x (by simp [hx])) hso'
      have hms : entMsgs (en :: t) = (en.seq, en.msg) :: entMsgs t := rfl
      unfold fileIterLoop
      simp only [renderH, hsc]
      by_cases h1 : (en.seq : Int) > e
      · have hnone : selectRange b e (entMsgs (en :: t)) = [] := by
          apply selectRange_none
          intro q hq
          rw [hms] at hq
          rcases List.mem_cons.1 hq with rfl | hq
          · exact h1
          · have := hgt q hq; omega
        rw [if_pos h1, hnone]; simp [deliverFrom]
      · rw [if_neg h1]
        by_cases h2 : (en.seq : Int) < b
        · rw [if_pos h2, ihh, hms, selectRange_cons, inRange_false _ _ _ (by simp only; omega)]; simp
        · rw [if_neg h2, readAt_ok B en.off en.msg hbody]
          simp only
          rw [hms, selectRange_cons, inRange_true _ _ _ (by simp only; omega)]
          simp only [if_true]
          rw [deliverFrom]
          by_cases hk : k ≠ 0 ∧ calls + 1 = k
          · rw [if_pos hk, if_pos hk]; simp
          · rw [if_neg hk, if_neg hk, ihh]

theorem fileIterate_eq (B : Bytes) (ents : List Ent) (b e : Int) (k : Nat)
    (hb : BodyOK B ents) (hbd : EntsB ents) (hso : Sorted (entMsgs ents)) :
    fileIterate (renderH ents) B b e k
      = ((cbRun k (selectRange b e (entMsgs ents))).1, if (cbRun k (selectRange b e (entMsgs ents))).2 then IterEnd.ok else IterEnd.err) := by
  unfold fileIterate
  rw [fileIterLoop_eq B b e k ents _ 0 [] (by have := renderH_length ents; omega) hb hbd hso, deliverFrom_cbRun]

theorem applyPrims_append (fs : FS) (a b : List Prim) : applyPrims fs (a ++ b) = applyPrims (applyPrims fs a) b := by
  simp [applyPrims, List.foldl_append]

theorem applyPrims_nil (fs : FS) : applyPrims fs [] = fs := rfl

theorem writeAt_cover (old data : Bytes) (h : old.length ≤ data.length) : writeAt old 0 data = data := by
  simp [writeAt, List.drop_eq_nil_of_le h]

theorem writeAt_end (old data : Bytes) : writeAt old old.length data = old ++ data := by
  simp [writeAt]

theorem fmtNat_length_le (n : Nat) : ∀ k, 1 ≤ k → n < 10 ^ k → (fmtNat n).length ≤ k := by
  fun_induction fmtNat n with
  | case1 n h => intro k hk _; simp; omega
  | case2 n h ih =>
    intro k hk hn
    cases k with
    | zero => omega
    | succ k' =>
      have hk' : 1 ≤ k' := by
        cases k' with
        | zero => simp at hn; omega
        | succ _ => omega
      have : n / 10 < 10 ^ k' := by
        apply Nat.div_lt_of_lt_mul
        rw [Nat.pow_succ] at hn; omega
      have := ih k' hk' this
      simp; omega

theorem fmt019_length (n : Nat) (h : n ≤ maxInt) : (fmt019 (n : Int)).length = 19 := by
  have h0 : ¬ ((n : Int) < 0) := by omega
  have hl : (fmtNat n).length ≤ 19 := fmtNat_length_le n 19 (by omega) (by unfold maxInt at h; omega)
  simp [fmt019, h0, padZero]; omega

theorem writeAt_fmt019 (k n : Nat) (hk : k ≤ maxInt) (hn : n ≤ maxInt) :
    writeAt (fmt019 (k : Int)) 0 (fmt019 (n : Int)) = fmt019 (n : Int) :=
  writeAt_cover _ _ (by rw [fmt019_length k hk, fmt019_length n hn]; exact Nat.le_refl _)

theorem parseTime_timeText (t : Nat) : parseTime (timeText t) = some t := by
  have hd : (padZero 12 (fmtNat t)).all isDigit = true := padZero_all_digits _ _ (fmtNat_all_digits t)
  have hv : digitsVal (padZero 12 (fmtNat t)) = t := by rw [digitsVal_padZero, digitsVal_fmtNat]
  have hl : 12 ≤ (padZero 12 (fmtNat t)).length := by simp [padZero]; omega
  simp only [parseTime, timeText]
  rw [List.dropLast_concat, List.getLast?_concat]
  simp [hd, hv]; omega

/-! ## the header never ends in an incomplete line (so `dropIncompleteIndexLine` has nothing to do) -/

/-- what `dropIncompleteIndexLine` leaves of header contents `h` -/
def dropTorn (h : Bytes) : Bytes := h.take (keepLen h)

theorem keepLen_nil : keepLen [] = 0 := rfl

theorem keepLen_endNL (l : Bytes) : keepLen (l ++ [cNL]) = (l ++ [cNL]).length := by
  simp [keepLen]

def EndsNL (h : Bytes) : Prop := h = [] ∨ ∃ l, h = l ++ [cNL]

theorem keepLen_of_endsNL (h : Bytes) (he : EndsNL h) : keepLen h = h.length := by
  rcases he with rfl | ⟨l, rfl⟩
  · rfl
  · exact keepLen_endNL l

theorem dropTorn_of_endsNL (h : Bytes) (he : EndsNL h) : dropTorn h = h := by
  simp [dropTorn, keepLen_of_endsNL h he]

theorem truncPrims_of_endsNL (sync : Bool) (h : Bytes) (he : EndsNL h) : truncPrims sync h = [] := by
  simp [truncPrims, keepLen_of_endsNL h he]

theorem endsNL_append (a b : Bytes) (hb : ∃ l, b = l ++ [cNL]) : EndsNL (a ++ b) := by
  obtain ⟨l, rfl⟩ := hb
  exact Or.inr ⟨a ++ l, by simp⟩

theorem headerLine_endsNL (s : Int) (o l : Nat) : ∃ x, headerLine s o l = x ++ [cNL] :=
  ⟨fmtD s ++ [cComma] ++ fmtNat o ++ [cComma] ++ fmtNat l, rfl⟩

theorem renderH_endsNL (ents : List Ent) : EndsNL (renderH ents) := by
  induction ents with
  | nil => exact Or.inl rfl
  | cons e t ih =>
    rcases ih with h | ⟨l, h⟩
    · obtain ⟨x, hx⟩ := headerLine_endsNL (e.seq : Int) e.off e.msg.length
      exact Or.inr ⟨x, by simp [renderH, h, hx]⟩
    · exact Or.inr ⟨headerLine (e.seq : Int) e.off e.msg.length ++ l, by simp [renderH, h]⟩

/-- the normal form of a session's directory that every file and crash lemma is stated over: header `H`, body `B`, a readable
    session file, both counter files holding `%019d` of `S` and `T` -/
def goodFS (H B : Bytes) (ct S T : Nat) : FS :=
  { header := some H, body := some B, session := some (timeText ct), sender := some (fmt019 (S : Int)), target := some (fmt019 (T : Int)) }

theorem goodFS_header (H B : Bytes) (ct S T : Nat) : (goodFS H B ct S T).header = some H := rfl
theorem goodFS_body (H B : Bytes) (ct S T : Nat) : (goodFS H B ct S T).body = some B := rfl

/-- what a counter file holds, if it is there and readable -/
def readCtr (o : Option Bytes) : Option Int := o.bind fun b => atoiGo (trimCRLF b)

/-- the creation time a session file holds, if it is there and readable -/
def readTime (o : Option Bytes) : Option Nat := o.bind parseTime

/-- the counter a fresh store loads from a counter file: `populateCache` keeps the reset value 1 when the file is missing or unreadable -/
def counterOf (o : Option Bytes) : Int :=
  match o with
  | some b => (match atoiGo (trimCRLF b) with
               | some v => v
               | none => 1)
  | none => 1

theorem counterOf_eq (o : Option Bytes) : counterOf o = (readCtr o).getD 1 := by
  cases o with
  | none => rfl
  | some b => simp only [counterOf, readCtr, Option.bind_some]; cases atoiGo (trimCRLF b) <;> rfl

theorem counterOf_fmt (S : Nat) (h : S ≤ maxInt) : counterOf (some (fmt019 (S : Int))) = (S : Int) := by
  simp [counterOf, counter_roundtrip S h]

/-- each of the three small files is read on its own and overrides one field of the cache -/
theorem populate_eq (c : MemStore) (fs : FS) :
    populateCache c fs = ((readTime fs.session).isSome,
      { senderM1 := ((readCtr fs.sender).map (· - 1)).getD c.senderM1, targetM1 := ((readCtr fs.target).map (· - 1)).getD c.targetM1,
        ctime := (readTime fs.session).getD c.ctime, map := c.map }) := by
  obtain ⟨hd, bd, se, sn, tg⟩ := fs
  -- `c1`: the cache after the session file; then one load per counter file
  have load : ∀ (a b : Option Int) (c1 : MemStore),
      (match b with | some v => (match a with | some v => c1.setS v | none => c1).setT v | none => (match a with | some v => c1.setS v | none => c1))
        = { c1 with senderM1 := (a.map (· - 1)).getD c1.senderM1, targetM1 := (b.map (· - 1)).getD c1.targetM1 } := by
    intro a b c1; cases a <;> cases b <;> rfl
  have k := load (readCtr sn) (readCtr tg)
  cases se with
  | none => cases sn <;> cases tg <;> exact congrArg (Prod.mk false) (k c)
  | some b =>
    simp only [populateCache, readTime, Option.bind_some]
    cases parseTime b <;> cases sn <;> cases tg <;> exact congrArg (Prod.mk _) (k _)

theorem apply_setSeq_sender (sync : Bool) (H B : Bytes) (ct S T n : Nat) (hS : S ≤ maxInt) (hn : n ≤ maxInt) :
    applyPrims (goodFS H B ct S T) (setSeqNumPrims sync .sender (n : Int)) = goodFS H B ct n T := by
  have := writeAt_fmt019 S n hS hn
  cases sync <;> simp [setSeqNumPrims, syncIf, applyPrims, applyPrim, goodFS, FS.get, FS.set, this]

theorem apply_setSeq_target (sync : Bool) (H B : Bytes) (ct S T n : Nat) (hT : T ≤ maxInt) (hn : n ≤ maxInt) :
    applyPrims (goodFS H B ct S T) (setSeqNumPrims sync .target (n : Int)) = goodFS H B ct S n := by
  have := writeAt_fmt019 T n hT hn
  cases sync <;> simp [setSeqNumPrims, syncIf, applyPrims, applyPrim, goodFS, FS.get, FS.set, this]

theorem apply_close (o : Bool) (fs : FS) : applyPrims fs (closePrims o) = fs := by
  cases o <;> simp [closePrims, applyPrims, applyPrim]

theorem apply_open_good (H B : Bytes) (ct S T : Nat) : applyPrims (goodFS H B ct S T) openPrims = goodFS H B ct S T := by
  simp [openPrims, applyPrims, applyPrim, goodFS, FS.get]

theorem apply_syncBH_creates_good (H B : Bytes) (ct S T : Nat) :
    applyPrims (goodFS H B ct S T) (syncBH ++ [.create .body, .create .header]) = goodFS H B ct S T := by
  simp [syncBH, applyPrims, applyPrim, goodFS, FS.get]

/-- `Refresh` on any directory: the store it leaves and its primitives, by what the three small files hold.  The lemmas about
    `refreshOp` on well-formed files, on an empty directory and on a crash image are readings of this equation. -/
theorem refreshOp_eq (st : FStore) (fs : FS) (now : Nat) :
    refreshOp st fs now =
      ({ st with cache := { senderM1 := counterOf fs.sender - 1, targetM1 := counterOf fs.target - 1,
                            ctime := (readTime fs.session).getD now, map := [] }, opened := true },
       closePrims st.opened ++ (openPrims ++ truncPrims st.sync (fs.header.getD []))
         ++ (if (readTime fs.session).isSome then [] else setSessionPrims st.sync ((readTime fs.session).getD now))
         ++ setSeqNumPrims st.sync .sender (counterOf fs.sender) ++ setSeqNumPrims st.sync .target (counterOf fs.target)) := by
  have e : ∀ o : Option Int, (o.map (· - 1)).getD 0 + 1 = o.getD 1 := fun o => by cases o <;> simp
  simp only [refreshOp, populate_eq, counterOf_eq, MemStore.reset, MemStore.setS, MemStore.setT, MemStore.nextS, MemStore.nextT, e]

theorem refreshOp_prims_good (st : FStore) (H B : Bytes) (ct S T now : Nat) (hS : S ≤ maxInt) (hT : T ≤ maxInt) (hH : EndsNL H) :
    (refreshOp st (goodFS H B ct S T) now).2
      = closePrims st.opened ++ openPrims ++ setSeqNumPrims st.sync .sender (S : Int) ++ setSeqNumPrims st.sync .target (T : Int) := by
  simp [refreshOp_eq, goodFS, readTime, parseTime_timeText, counterOf_fmt, hS, hT, truncPrims_of_endsNL _ H hH]

theorem refreshOp_prims_fresh (c : MemStore) (sync : Bool) (now : Nat) :
    (refreshOp ⟨c, sync, false⟩ {} now).2
      = openPrims ++ setSessionPrims sync now ++ setSeqNumPrims sync .sender 1 ++ setSeqNumPrims sync .target 1 := by
  simp [refreshOp_eq, readTime, counterOf, closePrims, truncPrims, keepLen]

theorem refreshOp_good (st : FStore) (H B : Bytes) (ct S T now : Nat) (hS : S ≤ maxInt) (hT : T ≤ maxInt) (hH : EndsNL H) :
    (refreshOp st (goodFS H B ct S T) now).1
        = { st with cache := { senderM1 := (S : Int) - 1, targetM1 := (T : Int) - 1, ctime := ct, map := [] }, opened := true }
    ∧ applyPrims (goodFS H B ct S T) (refreshOp st (goodFS H B ct S T) now).2 = goodFS H B ct S T := by
  constructor
  · simp [refreshOp_eq, goodFS, readTime, parseTime_timeText, counterOf_fmt, hS, hT]
  · rw [refreshOp_prims_good st H B ct S T now hS hT hH, applyPrims_append, applyPrims_append, applyPrims_append, apply_close, apply_open_good,
      apply_setSeq_sender _ H B ct S T S hS hS]
    exact apply_setSeq_target _ H B ct S T T hT hT

/-- `Refresh` on an empty directory (first open, or the second half of `Reset`) creates the five files -/
theorem refreshOp_fresh (st : FStore) (ho : st.opened = false) (now : Nat) :
    (refreshOp st {} now).1 = { st with cache := { senderM1 := 0, targetM1 := 0, ctime := now, map := [] }, opened := true }
    ∧ applyPrims {} (refreshOp st {} now).2 = goodFS [] [] now 1 1 := by
  obtain ⟨c, sync, opened⟩ := st
  simp only at ho; subst ho
  constructor
  · simp [refreshOp_eq, readTime, counterOf]
  · rw [refreshOp_prims_fresh]
    cases sync <;> simp [openPrims, setSessionPrims, setSeqNumPrims, syncIf, applyPrims, applyPrim, FS.get, FS.set, goodFS, writeAt]

def totalLen (l : MsgMap) : Nat := (l.map fun p => p.2.length).sum

theorem totalLen_append (l : MsgMap) (n : Nat) (m : Bytes) : totalLen (l ++ [(n, m)]) = totalLen l + m.length := by
  simp [totalLen]

/-- every number of the abstract state fits a Go `int` (the stores hold them in `int` / `%019d` / `%d`) -/
def Fits (s : AStore) : Prop :=
  s.sender ≤ maxInt ∧ s.target ≤ maxInt ∧ (∀ p ∈ s.msgs, p.1 ≤ maxInt) ∧ totalLen s.msgs ≤ maxInt

def FitsRun : AStore → List Op → Prop
  | _, [] => True
  | s, o :: os => Fits (s.step o).1 ∧ FitsRun (s.step o).1 os

theorem take_drop_append (B X msg : Bytes) (off : Nat) (h : (B.drop off).take msg.length = msg) :
    ((B ++ X).drop off).take msg.length = msg := by
  by_cases hl : msg.length = 0
  · have : msg = [] := List.eq_nil_of_length_eq_zero hl
    subst this; simp
  · have hlen : msg.length ≤ (B.drop off).length := by
      have := congrArg List.length h
      simp only [List.length_take] at this; omega
    have hoff : off ≤ B.length := by simp only [List.length_drop] at hlen; omega
    rw [List.drop_append_of_le_length hoff, List.take_append_of_le_length hlen, h]

theorem apply_save_good (st : FStore) (H B : Bytes) (ct S T : Nat) (n : Int) (m : Bytes) :
    applyPrims (goodFS H B ct S T) (saveMessagePrims st (goodFS H B ct S T) n m)
      = goodFS (H ++ headerLine n B.length m.length) (B ++ m) ct S T := by
  cases hs : st.sync <;>
    simp [saveMessagePrims, hs, len, goodFS, applyPrims, applyPrim, FS.get, FS.set, writeAt_end, syncBH]

theorem apply_remove_all (fs : FS) (o : Bool) : applyPrims fs (closePrims o ++ removePrims) = {} := by
  rw [applyPrims_append, apply_close]
  simp [removePrims, applyPrims, applyPrim, FS.set]

/-- the index lines `ents` over the body `B` hold the log `l` of an epoch whose highest number is `hi`: the part of `FileR` that does
    not mention the store.  `blen` makes the next entry's offset the end of the body -/
structure Stored (l : MsgMap) (hi : Option Nat) (ents : List Ent) (B : Bytes) : Prop where
  msgs : l = entMsgs ents
  body : BodyOK B ents
  entsb : EntsB ents
  blen : B.length = totalLen l
  sorted : Sorted l
  hib : HiB hi l

/-- `hi`, `ents`, `B` are ghosts: highest number saved in this epoch, the index lines, the body.
    `fresh` (creation time before the clock) is what makes a reset report a renewed creation time -/
structure FileR (s : AStore) (w : FileW) (hi : Option Nat) (ents : List Ent) (B : Bytes) : Prop where
  opened : w.st.opened = true
  fs : w.fs = goodFS (renderH ents) B w.st.cache.ctime s.sender s.target
  cs : w.st.cache.nextS = (s.sender : Int)
  ct : w.st.cache.nextT = (s.target : Int)
  fresh : w.st.cache.ctime < w.clock
  msgs : s.msgs = entMsgs ents
  body : BodyOK B ents
  entsb : EntsB ents
  blen : B.length = totalLen s.msgs
  sorted : Sorted s.msgs
  hib : HiB hi s.msgs
  fits : Fits s

theorem Stored.nil : Stored [] none [] [] := ⟨rfl, nofun, nofun, rfl, .nil, nofun⟩

theorem FileR.stored {s : AStore} {w : FileW} {hi : Option Nat} {ents : List Ent} {B : Bytes} (h : FileR s w hi ents B) :
    Stored s.msgs hi ents B := ⟨h.msgs, h.body, h.entsb, h.blen, h.sorted, h.hib⟩

theorem FileR.of_stored {s : AStore} {w : FileW} {hi : Option Nat} {ents : List Ent} {B : Bytes} (h : Stored s.msgs hi ents B)
    (opened : w.st.opened = true) (fs : w.fs = goodFS (renderH ents) B w.st.cache.ctime s.sender s.target)
    (cs : w.st.cache.nextS = (s.sender : Int)) (ct : w.st.cache.nextT = (s.target : Int)) (fresh : w.st.cache.ctime < w.clock)
    (fits : Fits s) : FileR s w hi ents B :=
  ⟨opened, fs, cs, ct, fresh, h.msgs, h.body, h.entsb, h.blen, h.sorted, h.hib, fits⟩

theorem fileR_init (sync : Bool) : FileR {} (FileW.open sync {} 0) none [] [] := by
  have hf := refreshOp_fresh { cache := MemStore.reset {} 0, sync := sync, opened := false } rfl 1
  refine .of_stored .nil ?_ ?_ ?_ ?_ ?_ ?_ <;>
    simp [FileW.open, fileOpenPrims, hf.1, hf.2, renderH, MemStore.nextS, MemStore.nextT, totalLen, Fits, maxInt]

theorem iterEnd_ok (b : Bool) : ((if b then IterEnd.ok else IterEnd.err) == IterEnd.ok) = b := by cases b <;> rfl

theorem Stored.save {l : MsgMap} {hi : Option Nat} {ents : List Ent} {B : Bytes} (h : Stored l hi ents B) (n : Nat) (m : Bytes)
    (hlt : ∀ p ∈ l, p.1 < n) (hfit : (∀ p ∈ l ++ [(n, m)], p.1 ≤ maxInt) ∧ totalLen (l ++ [(n, m)]) ≤ maxInt) :
    renderH (ents ++ [⟨n, B.length, m⟩]) = renderH ents ++ headerLine (n : Int) B.length m.length
    ∧ Stored (l ++ [(n, m)]) (some n) (ents ++ [⟨n, B.length, m⟩]) (B ++ m) := by
  have htl := totalLen_append l n m
  refine ⟨?_, ?_, ?_, ?_, ?_, sorted_append _ n m h.sorted hlt, hiB_append _ n m hlt⟩
  · simp [renderH_append, renderH]
  · simp [entMsgs, h.msgs]
  · intro e he
    rcases List.mem_append.1 he with he | he
    · exact take_drop_append B m e.msg e.off (h.body e he)
    · simp at he; subst he; simp
  · intro e he
    rcases List.mem_append.1 he with he | he
    · exact h.entsb e he
    · simp at he; subst he
      have := h.blen
      refine ⟨hfit.1 (n, m) (by simp), ?_, ?_⟩ <;> simp only <;> omega
  · simp [htl, h.blen]

theorem fileR_step (s : AStore) (w : FileW) (hi : Option Nat) (ents : List Ent) (B : Bytes) (o : Op)
    (h : FileR s w hi ents B) (ha : ascendingOk hi o = true) (hfit' : Fits (s.step o).1) :
    ∃ ents' B', FileR (s.step o).1 (w.step o).1 (hiAfter hi o) ents' B' ∧ (w.step o).2 = (s.step o).2 := by
  -- every operation maps `goodFS` to `goodFS` (the `apply_*` lemmas); only saves extend the ghosts; reset restarts from `refreshOp_fresh`
  have hl := h.stored
  obtain ⟨hop, hfs, hcs, hct, hfr, -, -, -, -, -, -, hfit⟩ := h
  obtain ⟨⟨c, sync, opened⟩, fs, clock⟩ := w
  simp only at hop hfs hcs hct hfr
  subst hop; subst hfs
  have hS := hfit.1
  have hT := hfit.2.1
  cases o <;>
    simp only [FileW.step, fileOpPrims, AStore.step, hiAfter, obsOf, MemStore.nextS_setS, MemStore.nextT_setS, MemStore.ctime_setS,
      MemStore.nextS_setT, MemStore.nextT_setT, MemStore.ctime_setT, hcs, hct, ne_eq, not_true_eq_false, decide_false] at hfit' ⊢
  case setS n =>
    rw [apply_setSeq_sender sync (renderH ents) B c.ctime s.sender s.target n hS hfit'.1]
    exact ⟨ents, B, .of_stored hl rfl rfl (MemStore.nextS_setS _ _) hct hfr hfit', trivial⟩
  case setT n =>
    rw [apply_setSeq_target sync (renderH ents) B c.ctime s.sender s.target n hT hfit'.2.1]
    exact ⟨ents, B, .of_stored hl rfl rfl hcs (MemStore.nextT_setT _ _) hfr hfit', trivial⟩
  case incS =>
    rw [← Int.natCast_add_one,
      apply_setSeq_sender sync (renderH ents) B c.ctime s.sender s.target (s.sender + 1) hS hfit'.1]
    exact ⟨ents, B, .of_stored hl rfl rfl (MemStore.nextS_setS _ _) hct hfr hfit', trivial⟩
  case incT =>
    rw [← Int.natCast_add_one,
      apply_setSeq_target sync (renderH ents) B c.ctime s.sender s.target (s.target + 1) hT hfit'.2.1]
    exact ⟨ents, B, .of_stored hl rfl rfl hcs (MemStore.nextT_setT _ _) hfr hfit', trivial⟩
  case save n m =>
    have hlt := asc_keys_lt hi s.msgs n hl.hib (asc_lt hi _ n m (Or.inl rfl) ha)
    rw [ainsert_asc n m s.msgs hlt] at hfit' ⊢
    obtain ⟨a1, a2⟩ := hl.save n m hlt hfit'.2.2
    rw [apply_save_good, ← a1]
    exact ⟨_, _, .of_stored a2 rfl rfl hcs hct hfr hfit', trivial⟩
  case saveIncr n m =>
    have hlt := asc_keys_lt hi s.msgs n hl.hib (asc_lt hi _ n m (Or.inr rfl) ha)
    rw [ainsert_asc n m s.msgs hlt] at hfit' ⊢
    obtain ⟨a1, a2⟩ := hl.save n m hlt hfit'.2.2
    rw [applyPrims_append, apply_save_good, ← Int.natCast_add_one,
      apply_setSeq_sender sync _ _ c.ctime s.sender s.target (s.sender + 1) hS hfit'.1, ← a1]
    exact ⟨_, _, .of_stored a2 rfl rfl (MemStore.nextS_setS _ _) hct hfr hfit', trivial⟩
  case get b e =>
    rw [apply_syncBH_creates_good]
    refine ⟨ents, B, .of_stored hl rfl rfl hcs hct hfr hfit, ?_⟩
    simp [goodFS_header, goodFS_body, fileIterate_eq B ents b e 0 hl.body hl.entsb (hl.msgs ▸ hl.sorted), cbRun, hl.msgs]
  case iter b e k =>
    rw [apply_syncBH_creates_good]
    refine ⟨ents, B, .of_stored hl rfl rfl hcs hct hfr hfit, ?_⟩
    simp [goodFS_header, goodFS_body, fileIterate_eq B ents b e k hl.body hl.entsb (hl.msgs ▸ hl.sorted), iterEnd_ok, hl.msgs]
  case refresh =>
    have hr := refreshOp_good ⟨c, sync, true⟩ (renderH ents) B c.ctime s.sender s.target clock hS hT (renderH_endsNL ents)
    simp only [hr.2, hr.1]
    refine ⟨ents, B, .of_stored hl rfl rfl (by simp [MemStore.nextS]) (by simp [MemStore.nextT]) (Nat.lt_succ_of_lt hfr) hfit, ?_⟩
    simp [MemStore.nextS, MemStore.nextT]
  case reopen =>
    have hr := refreshOp_good ⟨MemStore.reset {} clock, sync, false⟩ (renderH ents) B c.ctime s.sender s.target (clock + 1) hS hT
      (renderH_endsNL ents)
    simp only [applyPrims_append, apply_close, hr.2, hr.1]
    refine ⟨ents, B, .of_stored hl rfl rfl (by simp [MemStore.nextS]) (by simp [MemStore.nextT]) (by show c.ctime < clock + 2; omega) hfit, ?_⟩
    simp [MemStore.nextS, MemStore.nextT]
  case reset =>
    have hrm := apply_remove_all (goodFS (renderH ents) B c.ctime s.sender s.target) true
    have hr := refreshOp_fresh ⟨c.reset clock, sync, false⟩ rfl (clock + 1)
    simp only [resetOp, hrm, applyPrims_append _ (closePrims true ++ removePrims), hr.1, hr.2]
    refine ⟨[], [], .of_stored .nil rfl rfl rfl rfl (Nat.lt_succ_self _) hfit', ?_⟩
    have : clock + 1 ≠ c.ctime := by omega
    simp [MemStore.nextS, MemStore.nextT, this]

/-- related by `FileR` for some ghosts, with the rest of the history ascending and within Go's `int`: the relation `sim_run` carries -/
def FileSim (s : AStore) (w : FileW) (h : List Op) : Prop := ∃ hi ents B, FileR s w hi ents B ∧ Asc hi h ∧ FitsRun s h

theorem fileR_run (ops rest : List Op) (s : AStore) (w : FileW) (h : FileSim s w (ops ++ rest)) :
    FileSim (s.run ops).1 (w.run ops).1 rest ∧ (w.run ops).2 = (s.run ops).2 := by
  refine sim_run FileW.step FileW.run (fun _ => rfl) (fun _ _ _ => rfl) FileSim ?_ rest ops s w h
  intro s w o os ⟨hi, ents, B, h, ha, hf⟩
  obtain ⟨ents', B', hR, hobs⟩ := fileR_step s w hi ents B o h ha.1 hf.1
  exact ⟨⟨_, ents', B', hR, ha.2, hf.2⟩, hobs⟩

/-! ## what an operation does to well-formed files

  On `goodFS H B ct S T` every operation of the file store is one of four effects (`effOf`), and the abstract store moves by the same
  effect (`step_eff`).  `fileOpPrims_good` gives the primitives of the operation in the normal form of its effect (`Eff.Prims`); a
  client generalises the primitive list and the effect and argues over the four shapes, with `H B S T` variables. -/
inductive Eff where
  | quiet
  | ctr (f : Ext) (n : Nat)
  | save (n : Nat) (m : Bytes) (incr : Bool)
  | reset

/-- In file_store.go: `quiet` — `GetMessages`/`IterateMessages` sync and reopen body and header,
    `Refresh` and a reopened store close, open and rewrite both counter files with what they hold: nothing new reaches the files;
    `ctr f n` — `setSeqNum` rewrites one counter file in place (`SetNext…`, `IncrNext…`); `save n m incr` — `SaveMessage`
    (body bytes, index line, two syncs), and `SaveMessageAndIncrNextSenderMsgSeqNum` with the sender counter behind it;
    `reset` — `Reset` closes and removes the five files and `Refresh` recreates them. -/
def effOf (S T : Nat) : Op → Eff
  | .setS n => .ctr .sender n
  | .setT n => .ctr .target n
  | .incS => .ctr .sender (S + 1)
  | .incT => .ctr .target (T + 1)
  | .save n m => .save n m false
  | .saveIncr n m => .save n m true
  | .reset => .reset
  | _ => .quiet

/-- primitives that leave well-formed, fully synced files holding counters `S`, `T` as they are: syncs, creates of files that
    exist, a counter file rewritten with the value it holds -/
def harmless (S T : Nat) : Prim → Bool
  | .sync _ | .create _ => true
  | .write f 0 d => (f == .sender && d == fmt019 (S : Int)) || (f == .target && d == fmt019 (T : Int))
  | _ => false

theorem harmless_noop (H B : Bytes) (ct S T : Nat) (p : Prim) (h : harmless S T p = true) :
    applyPrimD ⟨goodFS H B ct S T, goodFS H B ct S T⟩ p = ⟨goodFS H B ct S T, goodFS H B ct S T⟩ := by
  have hw : ∀ x : Bytes, writeAt x 0 x = x := fun x => writeAt_cover x x (Nat.le_refl _)
  cases p with
  | sync f | create f => cases f <;> rfl
  | write f off d =>
    cases off with
    | succ _ => cases h
    | zero => cases f <;> simp [harmless] at h <;> simp [applyPrimD, applyPrim, goodFS, FS.get, FS.set, h, hw]
  | remove _ | truncate _ _ => cases h

theorem harmless_setSeq (sync : Bool) (S T : Nat) :
    (setSeqNumPrims sync .sender (S : Int)).all (harmless S T) = true ∧ (setSeqNumPrims sync .target (T : Int)).all (harmless S T) = true := by
  cases sync <;> simp [setSeqNumPrims, syncIf, harmless]

/-- `saveMessagePrims` on `goodFS H B …` -/
def savePrims (sync : Bool) (H B : Bytes) (n : Nat) (m : Bytes) : List Prim :=
  [.write .body B.length m, .write .header H.length (headerLine (n : Int) B.length m.length)] ++ (if sync then syncBH else [])

/-- `ps` is the primitive list of the effect on `goodFS H B ct S T` at clock `clock` -/
def Eff.Prims (sync : Bool) (H B : Bytes) (S T clock : Nat) (ps : List Prim) : Eff → Prop
  | .quiet => ps.all (harmless S T) = true
  | .ctr f n => (f = .sender ∨ f = .target) ∧ ps = setSeqNumPrims sync f (n : Int)
  | .save n m incr => ps = savePrims sync H B n m ++ (if incr then setSeqNumPrims sync .sender ((S + 1 : Nat) : Int) else [])
  | .reset => ps = closePrims true ++ removePrims ++ openPrims ++ setSessionPrims sync (clock + 1)
      ++ setSeqNumPrims sync .sender 1 ++ setSeqNumPrims sync .target 1

theorem fileOpPrims_good (c : MemStore) (sync : Bool) (H B : Bytes) (S T clock : Nat) (hS : S ≤ maxInt) (hT : T ≤ maxInt)
    (hH : EndsNL H) (hcs : c.nextS = (S : Int)) (hct : c.nextT = (T : Int)) (o : Op) :
    (effOf S T o).Prims sync H B S T clock (fileOpPrims ⟨c, sync, true⟩ (goodFS H B c.ctime S T) clock o).2.1 := by
  have hq : ∀ a b : Bool, ((closePrims a ++ (closePrims b ++ openPrims ++ setSeqNumPrims sync .sender (S : Int)
      ++ setSeqNumPrims sync .target (T : Int))).all (harmless S T)) = true := by
    intro a b
    rw [List.all_append, List.all_append, List.all_append, List.all_append, (harmless_setSeq sync S T).1, (harmless_setSeq sync S T).2]
    cases a <;> cases b <;> rfl
  cases o with
  | setS n => exact ⟨Or.inl rfl, rfl⟩
  | setT n => exact ⟨Or.inr rfl, rfl⟩
  | incS => refine ⟨Or.inl rfl, ?_⟩; show setSeqNumPrims sync .sender (c.nextS + 1) = _; rw [hcs, Int.natCast_add_one]
  | incT => refine ⟨Or.inr rfl, ?_⟩; show setSeqNumPrims sync .target (c.nextT + 1) = _; rw [hct, Int.natCast_add_one]
  | save n m => exact (List.append_nil _).symm
  | saveIncr n m =>
    show saveMessagePrims _ _ _ _ ++ setSeqNumPrims sync .sender (c.nextS + 1) = _
    rw [hcs, Int.natCast_add_one]; rfl
  | get _ _ | iter _ _ _ => rfl
  | refresh =>
    simp only [Eff.Prims, effOf, fileOpPrims, refreshOp_prims_good _ H B c.ctime S T _ hS hT hH]
    exact hq false true
  | reopen =>
    simp only [Eff.Prims, effOf, fileOpPrims, refreshOp_prims_good _ H B c.ctime S T _ hS hT hH]
    exact hq true false
  | reset =>
    show (resetOp _ _ _).2 = _
    simp only [resetOp, apply_remove_all, refreshOp_prims_fresh, List.append_assoc]

/-- the abstract store after an effect (a save goes behind every stored number, see `effOf_save_lt`) -/
def AStore.eff (s : AStore) : Eff → AStore
  | .quiet => s
  | .ctr f n => if f = .sender then { s with sender := n } else { s with target := n }
  | .save n m incr => { s with msgs := s.msgs ++ [(n, m)], sender := if incr then s.sender + 1 else s.sender }
  | .reset => { sender := 1, target := 1, epoch := s.epoch + 1, msgs := [] }

theorem effOf_save_lt (s : AStore) (hi : Option Nat) (o : Op) (hb : HiB hi s.msgs) (ha : ascendingOk hi o = true)
    (n : Nat) (m : Bytes) (i : Bool) (he : effOf s.sender s.target o = .save n m i) : ∀ p ∈ s.msgs, p.1 < n := by
  cases o <;> cases he
  · exact asc_keys_lt hi s.msgs n hb (asc_lt hi _ n m (Or.inl rfl) ha)
  · exact asc_keys_lt hi s.msgs n hb (asc_lt hi _ n m (Or.inr rfl) ha)

theorem step_eff (s : AStore) (hi : Option Nat) (o : Op) (hb : HiB hi s.msgs) (ha : ascendingOk hi o = true) :
    (s.step o).1 = s.eff (effOf s.sender s.target o) := by
  cases o
  case save n m | saveIncr n m =>
    simp only [AStore.step, AStore.eff, effOf, ainsert_asc n m s.msgs (effOf_save_lt s hi _ hb ha n m _ rfl)]; rfl
  all_goals rfl

end Qfx.Store
