/-
  Declarative side of the any-depth dictionary-guided parse: member-field sequences that are well nested w.r.t. the dictionary
  (`GroupWalk`, defined from the dictionary alone) over a dictionary tree whose levels do not share tags (`TreeOK`) are exactly walked
  by the fixed `parseGroup` (`groupWalk_walkN`).  `treeOKb` is a sufficient check of `TreeOK` for a concrete tree (`treeOKb_sound`).
-/
import Qfx.Lemmas.CodecDictStack
namespace Qfx
open Qfx.Spec

variable {d : Dicts}

/-- `C'` is the member list of a repeating group nested (at any depth) inside the member list `C` -/
inductive Below : List DNode → List DNode → Prop where
  | child {C C' : List DNode} {t : Tag} : groupOf C t = some C' → Below C C'
  | step {C C' C'' : List DNode} {t : Tag} : groupOf C t = some C' → Below C' C'' → Below C C''

theorem Below.trans {A B C : List DNode} (h1 : Below A B) (h2 : Below B C) : Below A C := by
  induction h1 with
  | child hg => exact .step hg h2
  | step hg _ ih => exact .step hg (ih h2)

/-- the dictionary's tree under `C`: no tag is listed both at a level and at a level nested inside it, and no listed tag is a
    header / trailer field or a top-level repeating group of the application dictionary -/
def TreeOK (d : Dicts) (C : List DNode) : Prop :=
  ∀ C1, (C1 = C ∨ Below C C1) → ∀ t, isGroupMember t C1 = true →
    (isHeaderField d t = false ∧ isTrailerField d t = false ∧ NoGroupTag d t) ∧ ∀ C2, Below C1 C2 → isGroupMember t C2 = false

theorem TreeOK.below {C C' : List DNode} (h : TreeOK d C) (hb : Below C C') : TreeOK d C' := by
  intro C1 h1 t ht
  rcases h1 with e | e
  · subst e; exact h _ (Or.inr hb) t ht
  · exact h C1 (Or.inr (hb.trans e)) t ht

mutual
  /-- the member lists of all repeating groups nested, at any depth, in a member list -/
  def belowNodes : List DNode → List (List DNode)
    | [] => []
    | n :: r => belowNode n ++ belowNodes r
  def belowNode : DNode → List (List DNode)
    | .mk _ c => if c.isEmpty then [] else c :: belowNodes c
end

theorem belowNode_sub {n : DNode} : ∀ {C : List DNode}, n ∈ C → ∀ x ∈ belowNode n, x ∈ belowNodes C
  | m :: r, h, x, hx => by
    rw [belowNodes]
    rcases List.mem_cons.1 h with e | e
    · subst e; exact List.mem_append_left _ hx
    · exact List.mem_append_right _ (belowNode_sub e x hx)

theorem groupOf_below {C C' : List DNode} {t : Tag} (h : groupOf C t = some C') :
    C' ∈ belowNodes C ∧ ∀ x ∈ belowNodes C', x ∈ belowNodes C := by
  obtain ⟨n, hn, hc, hne⟩ := groupOf_some h
  have hsub := belowNode_sub (dfind_mem C t n hn)
  obtain ⟨tg, c⟩ := n
  have e : belowNode (.mk tg c) = C' :: belowNodes C' := by
    have : c = C' := hc
    subst this
    rw [belowNode, hne]; rfl
  rw [e] at hsub
  exact ⟨hsub _ (by simp), fun x hx => hsub x (by simp [hx])⟩

theorem below_mem {C C' : List DNode} (h : Below C C') : C' ∈ belowNodes C := by
  induction h with
  | child hg => exact (groupOf_below hg).1
  | step hg _ ih => exact (groupOf_below hg).2 _ ih

def noGroupTagB (d : Dicts) (t : Tag) : Bool :=
  match d.app with
  | none => true
  | some msgs => msgs.all fun p => (pathWalk p.2 [t]).isNone

theorem noGroupTagB_sound {d : Dicts} {t : Tag} (h : noGroupTagB d t = true) : NoGroupTag d t := by
  intro msgs hap p hp
  simp only [noGroupTagB, hap, List.all_eq_true] at h
  simpa using h p hp

/-- a sufficient check of `TreeOK` for a concrete dictionary tree (`treeOKb_sound`): every level, every member, every level nested below it -/
def treeOKb (d : Dicts) (C : List DNode) : Bool :=
  (C :: belowNodes C).all fun C1 => C1.all fun n =>
    !isHeaderField d n.tag && !isTrailerField d n.tag && noGroupTagB d n.tag && (belowNodes C1).all fun C2 => !isGroupMember n.tag C2

theorem treeOKb_sound {d : Dicts} {C : List DNode} (h : treeOKb d C = true) : TreeOK d C := by
  intro C1 h1 t ht
  have hC1 : C1 ∈ C :: belowNodes C := by
    rcases h1 with e | e
    · simp [e]
    · exact List.mem_cons_of_mem _ (below_mem e)
  obtain ⟨n, hn, hnt⟩ := List.any_eq_true.1 ht
  have hnt' : n.tag = t := by simpa using hnt
  have := List.all_eq_true.1 (List.all_eq_true.1 h C1 hC1) n hn
  simp only [Bool.and_eq_true, Bool.not_eq_true', List.all_eq_true, hnt'] at this
  exact ⟨⟨this.1.1.1, this.1.1.2, noGroupTagB_sound this.1.2⟩, fun C2 hb => this.2 C2 (below_mem hb)⟩

/-- a well-nested member-field sequence for the member list `C`, described from the dictionary alone: leaf members of `C`, and count
    fields of groups nested in `C` each followed by a well-nested sequence for that group's member list -/
inductive GroupWalk : List DNode → List TagValue → Prop where
  | nil (C : List DNode) : GroupWalk C []
  | leaf {C : List DNode} {tv : TagValue} {r : List TagValue} : IsWire tv → isGroupMember tv.tag C = true → groupOf C tv.tag = none →
      GroupWalk C r → GroupWalk C (tv :: r)
  | nest {C CN : List DNode} {tv : TagValue} {MN r : List TagValue} : IsWire tv → groupOf C tv.tag = some CN →
      GroupWalk CN MN → GroupWalk C r → GroupWalk C (tv :: (MN ++ r))

/-- well-nested sequences are parsed along their nesting: from any stack `st0 ++ ext` (the extension left over from deeper levels)
    the fixed `parseGroup` walks a well-nested sequence for the last level of `st0` and ends in `st0 ++ ext'` -/
theorem groupWalk_walkN {C : List DNode} {M : List TagValue} (hw : GroupWalk C M) :
    ∀ (st0 ext : List Level), st0 ≠ [] → lastGf st0 = C → TreeOK d C → (∀ l ∈ ext, Below C l.2) →
    ∃ ext', (∀ l ∈ ext', Below C l.2) ∧ WalkN d (st0 ++ ext) M (st0 ++ ext') := by
  induction hw with
  | nil C => intro st0 ext _ _ _ hext; exact ⟨ext, hext, .nil _⟩
  | @leaf C tv r hwire hmem hleaf _ ih =>
    intro st0 ext h0 hl htree hext
    have hside := (htree C (Or.inl rfl) tv.tag hmem)
    have hstep : stepSpec (st0 ++ ext) tv.tag = some st0 := by
      rw [stepSpec_reenter tv.tag st0 ext h0 (by rw [hl]; exact hmem) (fun l hl' => hside.2 l.2 (hext l hl')), enterAt, hl, hleaf]
    obtain ⟨ext', he', hw'⟩ := ih st0 [] h0 hl htree (by intro l h; cases h)
    refine ⟨ext', he', .step hwire (fun _ => hside.1) hstep ?_⟩
    simpa using hw'
  | @nest C CN tv MN r hwire hg _ _ ih1 ih2 =>
    intro st0 ext h0 hl htree hext
    have hmem := groupOf_isMember hg
    have hside := (htree C (Or.inl rfl) tv.tag hmem)
    have hstep : stepSpec (st0 ++ ext) tv.tag = some (st0 ++ [(tv.tag, CN)]) := by
      rw [stepSpec_reenter tv.tag st0 ext h0 (by rw [hl]; exact hmem) (fun l hl' => hside.2 l.2 (hext l hl')), enterAt, hl, hg]
    have hbelow : Below C CN := .child hg
    obtain ⟨ext1, he1, hw1⟩ := ih1 (st0 ++ [(tv.tag, CN)]) [] (by simp) (lastGf_snoc st0 _) (htree.below hbelow) (by intro l h; cases h)
    obtain ⟨ext', he', hw2⟩ := ih2 st0 ([(tv.tag, CN)] ++ ext1) h0 hl htree
      (List.forall_mem_append.2 ⟨List.forall_mem_singleton.2 hbelow, fun l hl' => hbelow.trans (he1 l hl')⟩)
    refine ⟨ext', he', .step hwire (fun _ => hside.1) hstep ?_⟩
    have hw1' : WalkN d (st0 ++ [(tv.tag, CN)]) MN (st0 ++ ([(tv.tag, CN)] ++ ext1)) := by simpa [List.append_assoc] using hw1
    exact hw1'.trans hw2

/-- from the top of a group: the stack is the group's own level, and what is left on it lies below -/
theorem GroupWalk.walkN_top {C : List DNode} {M : List TagValue} (hw : GroupWalk C M) (G : Tag) (htree : TreeOK d C) :
    ∃ ext', (∀ l ∈ ext', Below C l.2) ∧ WalkN d [(G, C)] M ((G, C) :: ext') :=
  groupWalk_walkN (d := d) hw [(G, C)] [] (List.cons_ne_nil _ _) rfl htree nofun

end Qfx
