/-
  C20 beyond SessC04: timer events as whole steps (`finishDisc`: what `setState_disconnect` of SessModel leaves), the
  heartbeat interval after a Logon, and the pending wrapper.  For a tag `b` that inbound processing cannot tell from the current
  one (`Same b s`: same `loggedOn`, same `curResend`) every handler commutes with re-tagging, `f (s.setSt b) = mapSt b (f s)`
  (`c_*`).  Two runs are related, not a state and its successor: no instance of SessWalk.  `step_incoming_retag` lifts such an
  equation for `fixMsgInCore` to the whole event; Props/C20.lean supplies it per state.
-/
import Qfx.Lemmas.SessC04
import Qfx.Lemmas.SessC03
import Qfx.Spec.SessionTypedC20
namespace Qfx.Sess
open Qfx

theorem step_timeout_eq (s : Sess) (e : TimerEv) (hc : s.st.sessionTime = true) (r : Sess × SState)
    (hr : timeoutCore s.clearLog e = r) (hnx : r.2.connected = true) :
    step s (.timeout e) = ((r.1.setSt r.2).clearLog, r.1.log.reverse, "ok") := by
  subst hr
  unfold step stepCore
  simp only [checkSessionTime_noop _ s.clearLog hc]
  rw [setState_connected _ _ _ hnx]
  rfl

theorem discMid_loggedOn (s : Sess) (hl : s.st.loggedOn = true) :
    (discMid s).log.reverse = s.log.reverse ++ Obs.onLogout ::
        ((if s.cfg.resetOnDisconnect then [Obs.reset] else []) ++ (if s.out then [Obs.closed] else [])) ∧
    (discMid s).out = false := by
  unfold discMid
  simp only [hl, Bool.true_or, if_true]
  by_cases hr : s.cfg.resetOnDisconnect = true <;> by_cases ho : s.out = true <;>
    simp [hr, ho, Sess.emit, dropAndReset, Sess.storeReset, Sess.setToSend, Sess.setOut]

/-- what `setState` keeps of the record `d` left by the disconnect handling -/
def finishDisc (d : Sess) (nx : SState) : Sess :=
  (if d.closeInbox.pendingStop then d.closeInbox.setStopped else d.closeInbox).setSt nx

theorem finishDisc_log (d : Sess) (nx : SState) : (finishDisc d nx).log = d.log := by unfold finishDisc; split <;> rfl
theorem finishDisc_out (d : Sess) (nx : SState) : (finishDisc d nx).out = d.out := by unfold finishDisc; split <;> rfl
theorem finishDisc_st (d : Sess) (nx : SState) : (finishDisc d nx).st = nx := by unfold finishDisc; split <;> rfl

theorem step_timeout_latent (s : Sess) (e : TimerEv) (hl : s.st.loggedOn = true) (hi : s.inbox = [])
    (hr : timeoutCore s.clearLog e = (s.clearLog, .latent)) :
    (step s (.timeout e)).1.st = .latent ∧ (step s (.timeout e)).1.out = false ∧
    (step s (.timeout e)).2.1 = Obs.onLogout ::
        ((if s.cfg.resetOnDisconnect then [Obs.reset] else []) ++ (if s.out then [Obs.closed] else [])) := by
  have hc : s.clearLog.st.connected = true := loggedOn_connected _ hl
  have hd := discMid_loggedOn s.clearLog hl
  have hstep : step s (.timeout e) =
      ((finishDisc (discMid s.clearLog) .latent).clearLog, (finishDisc (discMid s.clearLog) .latent).log.reverse, "ok") := by
    unfold step stepCore
    simp only [checkSessionTime_noop _ s.clearLog (connected_sessionTime _ hc), hr, fuelOf_succ]
    rw [setState_disconnect _ _ _ rfl hc hi]
    rfl
  rw [hstep]
  refine ⟨finishDisc_st (discMid s.clearLog) .latent, ?_, ?_⟩
  · show (finishDisc (discMid s.clearLog) .latent).out = false
    rw [finishDisc_out]; exact hd.2
  · show (finishDisc (discMid s.clearLog) .latent).log.reverse = _
    rw [finishDisc_log, hd.1]; rfl

/-- `b` is indistinguishable from the current state tag for inbound processing -/
structure Same (b : SState) (s : Sess) : Prop where
  lo : b.loggedOn = s.st.loggedOn
  cr : curResend (s.setSt b) = curResend s

theorem Same.congr {b : SState} {s s' : Sess} (h : Same b s) (hst : s'.st = s.st) (hcfg : s'.cfg = s.cfg) : Same b s' := by
  refine ⟨by rw [hst]; exact h.lo, ?_⟩
  rw [curResend_congr hst hcfg, ← h.cr]
  exact curResend_congr rfl hcfg

theorem Same.of_Q {b : SState} {k : Nat} {s s' : Sess} (h : Same b s) (hq : Q k s s') : Same b s' := h.congr hq.st hq.cfg

def mapSt {α : Type} (b : SState) (r : Sess × α) : Sess × α := (r.1.setSt b, r.2)

theorem ite_eq_setSt {b : SState} {c : Prop} [Decidable c] {x y x' y' : Sess} (hx : x = x'.setSt b) (hy : y = y'.setSt b) :
    (if c then x else y) = (if c then x' else y').setSt b := by
  split <;> assumption

theorem ite_eq_mapSt_of {α : Type} {b : SState} {c : Prop} [Decidable c] {x y x' y' : Sess × α} (hx : c → x = mapSt b x')
    (hy : y = mapSt b y') : (if c then x else y) = mapSt b (if c then x' else y') := by
  split
  · exact hx ‹_›
  · exact hy

theorem ite_eq_mapSt {α : Type} {b : SState} {c : Prop} [Decidable c] {x y x' y' : Sess × α} (hx : x = mapSt b x')
    (hy : y = mapSt b y') : (if c then x else y) = mapSt b (if c then x' else y') := by
  split <;> assumption

section reads
variable (b : SState) (s : Sess)
theorem setSt_cfg : (s.setSt b).cfg = s.cfg := rfl
theorem setSt_store : (s.setSt b).store = s.store := rfl
theorem setSt_toSend : (s.setSt b).toSend = s.toSend := rfl
theorem setSt_out : (s.setSt b).out = s.out := rfl
theorem setSt_hb : (s.setSt b).hb = s.hb := rfl
theorem setSt_sentReset : (s.setSt b).sentReset = s.sentReset := rfl
theorem setSt_log : (s.setSt b).log = s.log := rfl
theorem setSt_st : (s.setSt b).st = b := rfl
theorem setSt_storeReset : (s.setSt b).storeReset = s.storeReset.setSt b := rfl
theorem setSt_setSentReset (x : Bool) : (s.setSt b).setSentReset x = (s.setSentReset x).setSt b := rfl
theorem setSt_emit (o : Obs) : (s.setSt b).emit o = (s.emit o).setSt b := rfl
theorem setSt_setToSend (q : List OutMsg) : (s.setSt b).setToSend q = (s.setToSend q).setSt b := rfl
theorem setSt_setTarget (n : Int) : (s.setSt b).setTarget n = (s.setTarget n).setSt b := rfl
theorem setSt_setHb (n : Int) : (s.setSt b).setHb n = (s.setHb n).setSt b := rfl
end reads

/-- projections and setters move outward past `setSt` -/
macro "push_setSt" : tactic => `(tactic| simp only [setSt_storeReset, setSt_setSentReset, setSt_emit, setSt_setToSend, setSt_setTarget, setSt_setHb, setSt_cfg, setSt_store, setSt_toSend, setSt_out, setSt_hb, setSt_sentReset, setSt_log])

theorem c_persistOut (b : SState) (s : Sess) (q : Int) (m : OutMsg) : (s.setSt b).persistOut q m = (s.persistOut q m).setSt b := by
  unfold Sess.persistOut; exact ite_eq_setSt rfl rfl

theorem c_sendQueued (b : SState) (s : Sess) : sendQueued (s.setSt b) = (sendQueued s).setSt b := by
  unfold sendQueued; exact ite_eq_setSt rfl rfl

theorem replyLastOf_setSt (b : SState) (s : Sess) (m : InMsg) : replyLastOf (s.setSt b) m = replyLastOf s m := rfl

/-- what all three senders do after the application has agreed: filing commutes with re-tagging -/
theorem c_filed (b : SState) (s : Sess) (m : OutMsg) (q : List OutMsg) :
    (prepBase (s.setSt b) m).filed q (outgoing (s.setSt b) m) = ((prepBase s m).filed q (outgoing s m)).setSt b := by
  have hb : prepBase (s.setSt b) m = (prepBase s m).setSt b := by unfold prepBase; exact ite_eq_setSt rfl rfl
  have ho : outgoing (s.setSt b) m = outgoing s m := by unfold outgoing; rw [hb]; rfl
  unfold Sess.filed
  rw [ho, hb, setSt_store, c_persistOut]
  rfl

theorem c_queueForSend (b : SState) (s : Sess) (m : OutMsg) : queueForSend (s.setSt b) m = (queueForSend s m).setSt b := by
  rw [queueForSend_eq, queueForSend_eq, c_filed]
  exact ite_eq_setSt rfl rfl

theorem c_dropAndSend (b : SState) (s : Sess) (m : OutMsg) : dropAndSend (s.setSt b) m = (dropAndSend s m).setSt b := by
  rw [dropAndSend_eq, dropAndSend_eq, c_filed, c_sendQueued]
  exact ite_eq_setSt rfl rfl

theorem c_sendInReplyTo (b : SState) (s : Sess) (m : OutMsg) (h : Same b s) :
    sendInReplyTo (s.setSt b) m = (sendInReplyTo s m).setSt b := by
  rw [sendInReplyTo_eq, sendInReplyTo_eq, c_filed, c_sendQueued, c_queueForSend, show (s.setSt b).st.loggedOn = s.st.loggedOn from h.lo]
  exact ite_eq_setSt rfl (ite_eq_setSt rfl rfl)

theorem c_enqueueAndSend (b : SState) (s : Sess) (m : OutMsg) (h : Same b s) :
    enqueueAndSend (s.setSt b) m = (enqueueAndSend s m).setSt b := by
  unfold enqueueAndSend
  have : (s.setSt b).st.loggedOn = s.st.loggedOn := h.lo
  rw [this]
  by_cases hl : s.st.loggedOn = true <;> simp only [hl, Bool.not_true, Bool.not_false, Bool.false_eq_true, ↓reduceIte] <;> push_setSt <;>
    rw [c_sendQueued]

theorem c_dropAndReset (b : SState) (s : Sess) : dropAndReset (s.setSt b) = (dropAndReset s).setSt b := rfl

theorem c_sendLogonInReplyTo (b : SState) (s : Sess) (r : Bool) :
    sendLogonInReplyTo (s.setSt b) r = (sendLogonInReplyTo s r).setSt b := by
  unfold sendLogonInReplyTo
  have : logonMsg (s.setSt b) r = logonMsg s r := rfl
  rw [this, c_dropAndSend]

theorem c_sendLogonRe (b : SState) (s : Sess) (r : Bool) (m : InMsg) :
    sendLogonRe (s.setSt b) r m = (sendLogonRe s r m).setSt b := by
  unfold sendLogonRe
  have : logonMsgRe (s.setSt b) r m = logonMsgRe s r m := rfl
  rw [this, c_dropAndSend]

theorem c_sendLogout (b : SState) (s : Sess) (h : Same b s) : sendLogout (s.setSt b) = (sendLogout s).setSt b :=
  c_sendInReplyTo b s _ h

theorem c_initiateLogout (b : SState) (s : Sess) (h : Same b s) : initiateLogout (s.setSt b) = (initiateLogout s).setSt b :=
  c_sendLogout b s h

theorem c_sendResendRequest (b : SState) (s : Sess) (x y : Int) (h : Same b s) :
    sendResendRequest (s.setSt b) x y = ((sendResendRequest s x y).1.setSt b, (sendResendRequest s x y).2) := by
  simp only [sendResendRequest_eq, setSt_cfg, c_sendInReplyTo b s _ h]

theorem c_doReject (b : SState) (s : Sess) (m : InMsg) (r : Nat) (t : Option Nat) (bz : Bool) (h : Same b s) :
    doReject (s.setSt b) m r t bz = (doReject s m r t bz).setSt b := by
  unfold doReject
  rw [setSt_cfg, c_sendInReplyTo b s _ h]

theorem c_incrTarget (b : SState) (s : Sess) : incrTarget (s.setSt b) = (incrTarget s).setSt b := rfl

theorem c_verifyAppImpl (b : SState) (s : Sess) (m : InMsg) : verifyAppImpl (s.setSt b) m = mapSt b (verifyAppImpl s m) := by
  unfold verifyAppImpl mapSt
  rw [setSt_cfg]
  split
  · rfl
  · push_setSt
    split <;> rfl

theorem c_verifySelect (b : SState) (s : Sess) (m : InMsg) (th tl ai : Bool) (h : Same b s) :
    verifySelect (s.setSt b) m th tl ai = mapSt b (verifySelect s m th tl ai) := by
  have e : firstReject (s.setSt b) m th tl = firstReject s m th tl := by
    unfold firstReject earlyCheck
    rw [h.cr]; rfl
  rw [verifySelect_eq, verifySelect_eq, e, c_verifyAppImpl]
  cases firstReject s m th tl
  · cases ai <;> rfl
  · rfl

theorem c_doTargetTooLow (b : SState) (s : Sess) (m : InMsg) (h : Same b s) :
    doTargetTooLow (s.setSt b) m = mapSt b (doTargetTooLow s m) := by
  have hr : ∀ r t z, (doReject (s.setSt b) m r t z, SState.inSession) = mapSt b (doReject s m r t z, .inSession) :=
    fun r t z => by rw [c_doReject b s m r t z h]; rfl
  have hi : ∀ r t z, (incrTarget (doReject (s.setSt b) m r t z), SState.inSession) = mapSt b (incrTarget (doReject s m r t z), .inSession) :=
    fun r t z => by rw [c_doReject b s m r t z h]; rfl
  unfold doTargetTooLow
  split
  · exact hr _ _ _
  · refine ite_eq_mapSt (by rw [c_initiateLogout b s h]; rfl) ?_
    split
    · exact hr _ _ _
    · exact hr _ _ _
    · split
      · exact hi _ _ _
      · exact hi _ _ _
      · refine ite_eq_mapSt ?_ rfl
        rw [c_doReject b s m _ _ _ h, c_initiateLogout b _ (h.of_Q (q_doReject s m 10 none false))]; rfl
theorem c_processReject (b : SState) (s : Sess) (m : InMsg) (r : Rej) (h : Same b s) :
    processReject (s.setSt b) m r = mapSt b (processReject s m r) := by
  cases r with
  | tooHigh recv exp =>
    simp only [processReject, h.cr, c_sendResendRequest b s _ _ h]
    split <;> rfl
  | tooLow x y => exact c_doTargetTooLow b s m h
  | badBeginString => simp only [processReject, c_initiateLogout b s h]; rfl
  | rejectLogon => simp only [processReject, c_doReject b s m _ _ _ h, c_incrTarget]; rfl
  | plain x y z =>
    simp only [processReject, c_doReject b s m _ _ _ h, c_incrTarget, c_initiateLogout b _ (h.of_Q (q_doReject s m x y z))]
    split <;> rfl

theorem c_enqAll (b : SState) (l : List OutMsg) : ∀ s : Sess, Same b s → enqAll (s.setSt b) l = (enqAll s l).setSt b := by
  induction l with
  | nil => intro s _; rfl
  | cons o l ih =>
    intro s h
    show enqAll (enqueueAndSend (s.setSt b) o) l = _
    rw [c_enqueueAndSend b s o h]
    exact ih _ (h.of_Q (q_enqueueAndSend s o))

theorem c_resendMessages (b : SState) (s : Sess) (x y : Int) (h : Same b s) :
    resendMessages (s.setSt b) x y = (resendMessages s x y).setSt b := by
  rw [resendMessages_eq, resendMessages_eq]
  exact c_enqAll b _ s h

/-- a handler that verifies first: re-tagging commutes with it when it commutes with the continuation `F` -/
theorem c_verified (b : SState) (s : Sess) (m : InMsg) (th tl ai : Bool) (h : Same b s) (F : Sess → Sess × SState)
    (hF : ∀ x, Same b x → F (x.setSt b) = mapSt b (F x)) :
    (match verifySelect (s.setSt b) m th tl ai with | (x, some r) => processReject x m r | (x, none) => F x) =
      mapSt b (match verifySelect s m th tl ai with | (x, some r) => processReject x m r | (x, none) => F x) := by
  rw [c_verifySelect b s m _ _ _ h]
  have h' := h.of_Q (q_verifySelect s m th tl ai)
  generalize verifySelect s m th tl ai = r at h'
  obtain ⟨s', o⟩ := r
  cases o with
  | some r => exact c_processReject b s' m r h'
  | none => exact hF s' h'

theorem c_handleLogout (b : SState) (s : Sess) (m : InMsg) (h : Same b s) :
    handleLogout (s.setSt b) m = mapSt b (handleLogout s m) := by
  refine c_verified b s m _ _ _ h _ fun s' h' => ?_
  have e1 : (if (s'.setSt b).st.loggedOn = true then sendInReplyTo (s'.setSt b) ((mkOut "5" []).inReplyTo m) else s'.setSt b)
      = (if s'.st.loggedOn = true then sendInReplyTo s' ((mkOut "5" []).inReplyTo m) else s').setSt b := by
    rw [show (s'.setSt b).st.loggedOn = s'.st.loggedOn from h'.lo]
    exact ite_eq_setSt (c_sendInReplyTo b s' _ h') rfl
  dsimp only
  rw [e1]
  generalize (if s'.st.loggedOn = true then sendInReplyTo s' ((mkOut "5" []).inReplyTo m) else s') = s2
  exact ite_eq_mapSt rfl (ite_eq_mapSt rfl (ite_eq_mapSt rfl rfl))
theorem c_handleTestRequest (b : SState) (s : Sess) (m : InMsg) (h : Same b s) :
    handleTestRequest (s.setSt b) m = mapSt b (handleTestRequest s m) := by
  refine c_verified b s m _ _ _ h _ fun s' h' => ?_
  cases m.f.get? 112 with
  | none => rfl
  | some id => simp only [c_sendInReplyTo b s' _ h', c_incrTarget]; rfl

theorem c_seqResetCore (b : SState) (s : Sess) (m : InMsg) (gf : Bool) (h : Same b s) :
    seqResetCore (s.setSt b) m gf = mapSt b (seqResetCore s m gf) := by
  refine c_verified b s m _ _ _ h _ fun s' h' => ?_
  split
  · exact ite_eq_mapSt rfl (ite_eq_mapSt (by rw [c_doReject b s' m _ _ _ h']; rfl) rfl)
  · rfl

theorem c_handleSequenceReset (b : SState) (s : Sess) (m : InMsg) (h : Same b s) :
    handleSequenceReset (s.setSt b) m = mapSt b (handleSequenceReset s m) := by
  unfold handleSequenceReset
  split
  · exact c_processReject b s m _ h
  · exact c_seqResetCore b s m _ h

theorem c_rrTail (b : SState) (s2 : Sess) (m : InMsg) :
    (if (checkTooLow (s2.setSt b) m).isSome = true then (s2.setSt b, SState.inSession)
     else if (checkTooHigh (s2.setSt b) m).isSome = true then (s2.setSt b, SState.inSession)
     else (incrTarget (s2.setSt b), SState.inSession)) =
    mapSt b (if (checkTooLow s2 m).isSome = true then (s2, SState.inSession)
     else if (checkTooHigh s2 m).isSome = true then (s2, SState.inSession)
     else (incrTarget s2, SState.inSession)) :=
  ite_eq_mapSt rfl (ite_eq_mapSt rfl rfl)

theorem c_handleResendRequest (b : SState) (s : Sess) (m : InMsg) (h : Same b s) :
    handleResendRequest (s.setSt b) m = mapSt b (handleResendRequest s m) := by
  refine c_verified b s m _ _ _ h _ fun s' h' => ?_
  cases getInt m 7 with
  | missing => exact c_processReject b s' m _ h'
  | garbled => exact c_processReject b s' m _ h'
  | val x =>
    cases getInt m 16 with
    | missing => exact c_processReject b s' m _ h'
    | garbled => exact c_processReject b s' m _ h'
    | val y =>
      have hrl : (s'.setSt b).setReplyLast (replyLastOf (s'.setSt b) m) = (s'.setReplyLast (replyLastOf s' m)).setSt b := rfl
      have h'' : Same b (s'.setReplyLast (replyLastOf s' m)) := h'.of_Q (Q.of_eq rfl rfl rfl rfl rfl rfl rfl)
      simp only [setSt_store, setSt_cfg, hrl, c_resendMessages b _ _ _ h'', c_rrTail, mapSt]
      rfl

theorem replyBase_setSt (b : SState) (s : Sess) (m : InMsg) : replyBase (s.setSt b) m = (replyBase s m).setSt b := by
  unfold replyBase
  by_cases h2 : s.cfg.hbOverride = true
  · have h2' : (s.setSt b).cfg.hbOverride = true := h2
    simp only [h2, h2', Bool.not_true, Bool.false_eq_true, if_false]
  · have h2' : ¬ (s.setSt b).cfg.hbOverride = true := h2
    simp only [h2, h2', Bool.not_false, if_true]
    cases getInt m 108 <;> rfl

theorem c_logonReply (b : SState) (s : Sess) (m : InMsg) (flag : Bool) (h : Same b s) :
    logonReply (s.setSt b) m flag = (logonReply s m flag).setSt b := by
  rw [logonReply_base, logonReply_base, replyBase_setSt]
  by_cases h1 : s.cfg.initiator = true
  · have h1' : (s.setSt b).cfg.initiator = true := h1
    simp only [h1, h1', Bool.not_true, Bool.false_eq_true, if_false]
  · have h1' : ¬ (s.setSt b).cfg.initiator = true := h1
    simp only [h1, h1', Bool.not_false, if_true]
    have e : (flag && ((replyBase s m).setSt b).sentReset && ((replyBase s m).setSt b).st.loggedOn)
        = (flag && (replyBase s m).sentReset && (replyBase s m).st.loggedOn) := by
      show (flag && (replyBase s m).sentReset && b.loggedOn) = _
      rw [h.lo, (replyBase_frame s m).2.1]
    rw [e]
    split
    · rfl
    · exact c_sendLogonRe b _ flag m

theorem c_nxEval (b : SState) (s : Sess) (m : InMsg) (ns : Int) (h : Same b s) :
    nxEval (s.setSt b) m ns = mapSt b (nxEval s m ns) := by
  unfold nxEval mapSt
  push_setSt
  by_cases h1 : (s.cfg.nextExpected && !(m.f.has 141)) = true
  · simp only [h1, ↓reduceIte]
    cases peerNext m with
    | none => rfl
    | some n =>
      simp only []
      by_cases h2 : (n != ns) = true
      · simp only [h2, ↓reduceIte]
        by_cases h3 : s.cfg.persist = true
        · simp only [h3, ↓reduceIte]
          rw [c_enqueueAndSend b s _ h]; rfl
        · simp only [h3, ↓reduceIte, Bool.false_eq_true]
      · simp only [h2, ↓reduceIte, Bool.false_eq_true]
  · simp only [h1, ↓reduceIte, Bool.false_eq_true]

theorem c_logonFinish (b : SState) (s : Sess) (m : InMsg) (ns : Int) (h : Same b s) :
    logonFinish (s.setSt b) m ns = mapSt b (logonFinish s m ns) := by
  unfold logonFinish
  have c2 : ∀ x : Sess, checkTooHigh (x.setSt b) m = checkTooHigh x m := fun _ => rfl
  dsimp only [setSt_setSentReset, setSt_emit, setSt_hb]
  have h' : Same b (((s.setSentReset false).emit (Obs.armPeer (1200 * s.hb))).emit Obs.onLogon) :=
    h.of_Q (((Q.of_eq (s := s) (s' := s.setSentReset false) rfl rfl rfl rfl rfl rfl rfl).trans0 (q_emit _ _ rfl)).trans0 (q_emit _ _ rfl))
  rw [c_nxEval b _ m ns h']
  generalize nxEval (((s.setSentReset false).emit (Obs.armPeer (1200 * s.hb))).emit Obs.onLogon) m ns = r
  obtain ⟨x, o⟩ := r
  cases o with
  | some r => rfl
  | none =>
    simp only [mapSt, c2]
    split <;> rfl

theorem logonRefuses_setSt (b : SState) (s : Sess) (m : InMsg) (flag : Bool) (h : Same b s) :
    logonRefuses (s.setSt b) m flag = logonRefuses s m flag := by
  have e1 : nxRefuses (s.setSt b) m = nxRefuses s m := rfl
  unfold logonRefuses
  rw [e1]
  show (!s.cfg.initiator && !(flag && s.sentReset && b.loggedOn) && nxRefuses s m) = _
  rw [h.lo]

theorem c_logonRefused (b : SState) (s : Sess) (m : InMsg) : logonRefused (s.setSt b) m = (logonRefused s m).setSt b := by
  unfold logonRefused
  push_setSt
  by_cases h1 : (!s.cfg.initiator && !s.cfg.hbOverride) = true
  · simp only [h1, ↓reduceIte]
    cases getInt m 108 <;> rfl
  · simp only [h1, ↓reduceIte, Bool.false_eq_true]

theorem c_logonTail (b : SState) (s : Sess) (m : InMsg) (ns : Int) (h : Same b s) :
    logonTail (s.setSt b) m ns = mapSt b (logonTail s m ns) := by
  unfold logonTail
  rw [logonRefuses_setSt b s m _ h]
  by_cases h1 : logonRefuses s m (logonResetFlag m) = true
  · simp only [h1, ↓reduceIte, c_logonRefused, mapSt]
  · simp only [h1, ↓reduceIte, Bool.false_eq_true]
    rw [c_logonReply b s m _ h]
    exact c_logonFinish b _ m _ (h.of_Q (q_logonReply s m _))

theorem c_handleLogon (b : SState) (s : Sess) (m : InMsg) (h : Same b s) :
    handleLogon (s.setSt b) m = mapSt b (handleLogon s m) := by
  have e1 : logonS1 (s.setSt b) = (logonS1 s).setSt b := by unfold logonS1; exact ite_eq_setSt rfl rfl
  have e2 : logonS2 (s.setSt b) m = (logonS2 s m).setSt b := by unfold logonS2; rw [e1]; rfl
  have e3 : logonS3 (s.setSt b) m = (logonS3 s m).setSt b := by unfold logonS3; rw [e2]; exact ite_eq_setSt rfl rfl
  obtain ⟨c1, c2, _⟩ := logonS3_frame s m
  have h3 : Same b (logonS3 s m) := h.congr c2 c1
  rw [handleLogon_eq, handleLogon_eq, e1, e2, e3, c_verifySelect b _ m _ _ _ h3]
  refine ite_eq_mapSt rfl ?_
  show (match validate s.cfg m with
    | some r => ((logonS1 s).setSt b, some (LogonErr.rej r))
    | none => _) = _
  cases validate s.cfg m with
  | some r => rfl
  | none =>
    cases callbackVerdict m with
    | some r => rfl
    | none =>
      show (match (verifySelect (logonS3 s m) m false true false).2 with
        | some r => ((logonS3 s m).setSt b, some (LogonErr.rej r))
        | none => logonTail ((logonS3 s m).setSt b) m s.store.sender) = _
      cases (verifySelect (logonS3 s m) m false true false).2 with
      | some r => rfl
      | none => exact c_logonTail b _ m _ h3

theorem c_inSessionFixMsgIn (b : SState) (s : Sess) (m : InMsg) (h : Same b s) :
    inSessionFixMsgIn (s.setSt b) m = mapSt b (inSessionFixMsgIn s m) := by
  unfold inSessionFixMsgIn
  refine ite_eq_mapSt_of (fun hk => ?_) (ite_eq_mapSt (c_handleLogout b s m h) (ite_eq_mapSt (c_handleResendRequest b s m h)
    (ite_eq_mapSt (c_handleSequenceReset b s m h) (ite_eq_mapSt (c_handleTestRequest b s m h)
      (c_verified b s m _ _ _ h _ fun _ _ => rfl)))))
  rw [c_handleLogon b s m h]
  have hq := q_handleLogon s m (eq_of_beq hk)
  generalize handleLogon s m = r at hq
  obtain ⟨s', o⟩ := r
  cases o with
  | some e => simp only [mapSt, c_sendInReplyTo b s' _ (h.of_Q hq)]
  | none => rfl

theorem c_drainStash (b : SState) (fuel : Nat) (s : Sess) (stash : List (Int × InMsg)) (last : SState) (h : Same b s) :
    drainStash fuel (s.setSt b) stash last = mapSt b (drainStash fuel s stash last) := by
  induction fuel generalizing s stash last with
  | zero => rfl
  | succ n ih =>
    unfold drainStash
    push_setSt
    split
    · rfl
    · rename_i nn mm _
      rw [c_inSessionFixMsgIn b s mm h]
      have hq := q_inSessionFixMsgIn s mm
      generalize inSessionFixMsgIn s mm = r at hq
      obtain ⟨s', nx⟩ := r
      simp only [] at hq
      show (if (!nx.loggedOn) = true then (s'.setSt b, nx, stash.filter (·.1 != nn))
            else drainStash n (s'.setSt b) (stash.filter (·.1 != nn)) nx) =
          mapSt b (if (!nx.loggedOn) = true then (s', nx, stash.filter (·.1 != nn))
            else drainStash n s' (stash.filter (·.1 != nn)) nx)
      by_cases hl : (!nx.loggedOn) = true
      · rw [if_pos hl, if_pos hl]; rfl
      · rw [if_neg hl, if_neg hl]
        exact ih _ _ _ (h.of_Q hq)

theorem c_chunkPart (b : SState) (s : Sess) (stash : List (Int × InMsg)) (fin : Int) (h : Same b s) :
    chunkPart (s.setSt b) stash fin = mapSt b (chunkPart s stash fin) := by
  simp only [chunkPart_eq, setSt_cfg, setSt_store, c_sendInReplyTo b s _ h, mapSt]

theorem c_drainPart (b : SState) (s : Sess) (nx : SState) (stash : List (Int × InMsg)) (h : Same b s) :
    drainPart (s.setSt b) nx stash = mapSt b (drainPart s nx stash) := by
  unfold drainPart
  rw [c_drainStash b _ s stash nx h, h.cr]
  generalize drainStash (stash.length + 1) s stash nx = r
  obtain ⟨s', nx', rest⟩ := r
  simp only [mapSt]
  cases nx' <;> rfl

theorem c_resendBook (b : SState) (s : Sess) (nx : SState) (stash : List (Int × InMsg)) (cur fin : Int) (m : InMsg) (h : Same b s) :
    resendBook (s.setSt b) nx stash cur fin m = mapSt b (resendBook s nx stash cur fin m) := by
  unfold resendBook
  by_cases h1 : (cur != 0 && decide (cur < s.store.target)) = true
  · have h1' : (cur != 0 && decide (cur < (s.setSt b).store.target)) = true := h1
    rw [if_pos h1', if_pos h1]; exact c_chunkPart b s stash fin h
  · have h1' : ¬ (cur != 0 && decide (cur < (s.setSt b).store.target)) = true := h1
    rw [if_neg h1', if_neg h1]
    have key : (if (gapFillFlag m && cur != 0 && cur == (s.setSt b).store.target) = true then chunkPart (s.setSt b) stash fin
          else if fin ≥ (s.setSt b).store.target then (s.setSt b, SState.resend stash cur fin) else drainPart (s.setSt b) nx stash) =
        mapSt b (if (gapFillFlag m && cur != 0 && cur == s.store.target) = true then chunkPart s stash fin
          else if fin ≥ s.store.target then (s, SState.resend stash cur fin) else drainPart s nx stash) := by
      by_cases h2 : (gapFillFlag m && cur != 0 && cur == s.store.target) = true
      · have h2' : (gapFillFlag m && cur != 0 && cur == (s.setSt b).store.target) = true := h2
        rw [if_pos h2', if_pos h2]; exact c_chunkPart b s stash fin h
      · have h2' : ¬ (gapFillFlag m && cur != 0 && cur == (s.setSt b).store.target) = true := h2
        rw [if_neg h2', if_neg h2]
        by_cases h3 : fin ≥ s.store.target
        · have h3' : fin ≥ (s.setSt b).store.target := h3
          rw [if_pos h3', if_pos h3]; rfl
        · have h3' : ¬ fin ≥ (s.setSt b).store.target := h3
          rw [if_neg h3', if_neg h3]; exact c_drainPart b s nx stash h
    cases getBool m 123 with
    | garbled => rfl
    | missing => exact key
    | val v => exact key

theorem c_sharedStash (b : SState) (s : Sess) (nx : SState) (stash : List (Int × InMsg)) (h : Same b s) :
    sharedStash (s.setSt b) nx stash = sharedStash s nx stash := by
  unfold sharedStash; rw [h.cr]

theorem c_resendFixMsgIn (b : SState) (s : Sess) (stash : List (Int × InMsg)) (cur fin : Int) (m : InMsg) (h : Same b s) :
    resendFixMsgIn (s.setSt b) stash cur fin m = mapSt b (resendFixMsgIn s stash cur fin m) := by
  rw [resendFixMsgIn_eq, resendFixMsgIn_eq, c_inSessionFixMsgIn b s m h]
  have hq := q_inSessionFixMsgIn s m
  generalize inSessionFixMsgIn s m = r at hq
  obtain ⟨s', nx⟩ := r
  simp only [] at hq
  have h' := h.of_Q hq
  show (if (!nx.loggedOn) = true then (s'.setSt b, nx)
        else resendBook (s'.setSt b) nx (sharedStash (s'.setSt b) nx stash) cur fin m) =
      mapSt b (if (!nx.loggedOn) = true then (s', nx) else resendBook s' nx (sharedStash s' nx stash) cur fin m)
  by_cases hl : (!nx.loggedOn) = true
  · rw [if_pos hl, if_pos hl]; rfl
  · rw [if_neg hl, if_neg hl, c_sharedStash b s' nx stash h', c_resendBook b s' nx _ cur fin m h']

def SState.isPending : SState → Bool
  | .pendingIn | .pendingResend .. => true
  | _ => false

theorem np_fixMsgInCore (s : Sess) (m : InMsg) : (fixMsgInCore s m).2.isPending = false :=
  next_fixMsgInCore (P := fun st => st.isPending = false) ⟨rfl, rfl, rfl, fun _ _ _ => rfl⟩ s m fun _ => rfl

theorem step_incoming_arm (s : Sess) (m : Option InMsg) (hc : s.st.connected = true) :
    ∃ pre, (step s (.incomingMsg m)).2.1 = pre ++ [.armPeer (1200 * (step s (.incomingMsg m)).1.hb)] := by
  unfold step stepCore
  simp only [fuelOf_succ, incoming_live _ s.clearLog m hc]
  generalize afterMsg _ s.clearLog m = x
  exact ⟨x.log.reverse, by simp [Sess.emit, Sess.clearLog]⟩

/-- the log only grows -/
def LogExt (s s' : Sess) : Prop := ∃ pre, s'.log = pre ++ s.log

theorem logonFinish_arms (s : Sess) (m : InMsg) (ns : Int) :
    LogExt (s.emit (.armPeer (1200 * s.hb))) (logonFinish s m ns).1 := by
  unfold logonFinish
  obtain ⟨pre, hx⟩ := nxEval_log (((s.setSentReset false).emit (.armPeer (1200 * s.hb))).emit .onLogon) m ns
  generalize nxEval _ m ns = r at hx
  obtain ⟨x, o⟩ := r
  have h1 : LogExt (s.emit (.armPeer (1200 * s.hb))) x := ⟨pre ++ [.onLogon], by rw [hx]; simp [Sess.emit, Sess.setSentReset]⟩
  cases o with
  | some _ => exact h1
  | none =>
    dsimp only
    split
    · exact h1
    · obtain ⟨p, hp⟩ := h1
      exact ⟨.incT :: p, by show Obs.incT :: x.log = _; rw [hp]; rfl⟩

theorem hb_dropAndSend (s : Sess) (m : OutMsg) (hk : isAdminKind m.kind = true) : (dropAndSend s m).hb = s.hb := by
  rw [dropAndSend_admin s m hk]
  unfold prepBase
  split <;> rfl

theorem hb_nxEval (s : Sess) (m : InMsg) (ns : Int) : (nxEval s m ns).1.hb = s.hb := (nxEval_frame s m ns).2.2.2.2.2

theorem hb_logonFinish (s : Sess) (m : InMsg) (ns : Int) : (logonFinish s m ns).1.hb = s.hb := by
  unfold logonFinish
  have h := hb_nxEval (((s.setSentReset false).emit (.armPeer (1200 * s.hb))).emit .onLogon) m ns
  generalize nxEval _ m ns = r at h
  obtain ⟨x, o⟩ := r
  cases o with
  | some r => exact h
  | none =>
    simp only [] at h ⊢
    split <;> exact h

/-- the interval in force after the Logon reply -/
def hbAfterLogon (s : Sess) (m : InMsg) : Int :=
  if s.cfg.initiator then s.hb
  else if s.cfg.hbOverride then s.hb
  else match getInt m 108 with | .val h => h | _ => s.hb

theorem hb_logonReply (s : Sess) (m : InMsg) (flag : Bool) : (logonReply s m flag).hb = hbAfterLogon s m := by
  rw [logonReply_base]
  unfold hbAfterLogon
  by_cases hi : s.cfg.initiator = true
  · simp [hi]
  · simp only [hi, Bool.not_false, Bool.false_eq_true, if_true, if_false]
    have hb : (replyBase s m).hb = if s.cfg.hbOverride = true then s.hb else (match getInt m 108 with | .val h => h | _ => s.hb) := by
      unfold replyBase
      by_cases ho : s.cfg.hbOverride = true
      · simp [ho]
      · simp only [ho, Bool.not_false, if_true, Bool.false_eq_true, if_false]
        cases getInt m 108 <;> rfl
    split
    · exact hb
    · unfold sendLogonRe; rw [hb_dropAndSend _ _ rfl]; exact hb

theorem hb_handleLogon (s s' : Sess) (m : InMsg) (r : Option LogonErr) (h : handleLogon s m = (s', r))
    (hok : r = none ∨ ∃ n t, r = some (.rej (.tooHigh n t))) : s'.hb = hbAfterLogon s m := by
  have ht := (handleLogon_inv h (hok.imp id fun ⟨_, _, h⟩ => ⟨_, h, rfl⟩)).2.2.2
  obtain ⟨c1, _, _, _, c5, _⟩ := logonS3_frame s m
  unfold logonTail at ht
  split at ht
  · simp only [Prod.mk.injEq] at ht
    rcases hok with rfl | ⟨n, t, rfl⟩ <;> simp at ht
  · have hfin := hb_logonFinish (logonReply (logonS3 s m) m (logonResetFlag m)) m s.store.sender
    rw [ht] at hfin
    rw [hfin, hb_logonReply]
    unfold hbAfterLogon
    rw [c1, c5]

theorem C20Active.loggedOn {st : SState} (h : C20Active st) : st.loggedOn = true := by
  rcases h with h | ⟨a, b, c, h⟩ <;> rw [h] <;> rfl
theorem C20Pending.loggedOn {st : SState} (h : C20Pending st) : st.loggedOn = true := by
  rcases h with h | ⟨a, b, c, h⟩ <;> rw [h] <;> rfl

theorem pendingOf_connected (st : SState) (h : C20Active st) : (pendingOf st).connected = true := by
  rcases h with h | ⟨a, b, c, h⟩ <;> rw [h] <;> rfl

theorem finishDisc_setSt (d : Sess) (b nx : SState) : finishDisc (d.setSt b) nx = finishDisc d nx := by
  unfold finishDisc
  show (if d.closeInbox.pendingStop = true then (d.closeInbox.setSt b).setStopped else d.closeInbox.setSt b).setSt nx = _
  split <;> rfl

/-- for the logout notification only `loggedOn` matters when neither tag is `logout` / `logon` -/
theorem discMid_setSt (s : Sess) (b : SState) (hl : b.loggedOn = true) (hs : s.st.loggedOn = true) :
    discMid (s.setSt b) = (discMid s).setSt b := by
  have h1 : (s.setSt b).st.loggedOn = true := hl
  unfold discMid
  simp only [h1, hs, Bool.true_or, if_true]
  have e : (if ((s.setSt b).emit Obs.onLogout).cfg.resetOnDisconnect = true then dropAndReset ((s.setSt b).emit Obs.onLogout)
        else (s.setSt b).emit Obs.onLogout) =
      (if (s.emit Obs.onLogout).cfg.resetOnDisconnect = true then dropAndReset (s.emit Obs.onLogout) else s.emit Obs.onLogout).setSt b :=
    ite_eq_setSt rfl rfl
  rw [e]
  generalize (if (s.emit Obs.onLogout).cfg.resetOnDisconnect = true then dropAndReset (s.emit Obs.onLogout) else s.emit Obs.onLogout) = d
  exact ite_eq_setSt rfl rfl

theorem fuelOf_setSt (s : Sess) (b : SState) : fuelOf (s.setSt b) = fuelOf s := rfl

/-- `key`: the handler commutes with the re-tagging (from `c_inSessionFixMsgIn` / `c_resendFixMsgIn`, which need the state in hand);
    `hfr`: it leaves state tag and buffer alone.  `4 * … + 7` is the fuel `stepCore` hands to `incoming` (`fuelOf_succ`), one less
    reaches `setState` (`incoming_some`) -/
theorem step_incoming_retag (s : Sess) (m : InMsg) (b : SState) (hl : s.st.loggedOn = true) (hb : b.loggedOn = true)
    (key : fixMsgInCore (s.clearLog.setSt b) m = ((fixMsgInCore s.clearLog m).1.setSt b, (fixMsgInCore s.clearLog m).2))
    (hfr : (fixMsgInCore s.clearLog m).1.st = s.st ∧ (fixMsgInCore s.clearLog m).1.inbox = s.inbox)
    (hnx : (fixMsgInCore s.clearLog m).2.connected = true ∨ s.inbox = []) :
    step (s.setSt b) (.incomingMsg (some m)) = step s (.incomingMsg (some m)) := by
  have hc : s.clearLog.st.connected = true := loggedOn_connected _ hl
  have hcb : (s.clearLog.setSt b).st.connected = true := loggedOn_connected _ hb
  unfold step stepCore
  have e0 : (s.setSt b).clearLog = s.clearLog.setSt b := rfl
  rw [e0, fuelOf_setSt]
  simp only [fuelOf_succ]
  rw [incoming_some _ _ _ hc, incoming_some _ _ _ hcb, key]
  generalize fixMsgInCore s.clearLog m = r at hfr hnx
  obtain ⟨s1, nx⟩ := r
  dsimp only at hfr hnx ⊢
  have hset : setState (4 * s.clearLog.inbox.length + 6 + 1) (s1.setSt b) nx = setState (4 * s.clearLog.inbox.length + 6 + 1) s1 nx := by
    by_cases hn : nx.connected = true
    · rw [setState_connected _ _ _ hn, setState_connected _ _ _ hn]; rfl
    · have hn' : nx.connected = false := by simpa using hn
      have hi : s.inbox = [] := by rcases hnx with h | h; exact absurd h hn; exact h
      have hl1 : s1.st.loggedOn = true := by rw [hfr.1]; exact hl
      rw [setState_disconnect _ _ _ hn' (loggedOn_connected _ hb) (by show s1.inbox = []; rw [hfr.2]; exact hi),
        setState_disconnect _ _ _ hn' (loggedOn_connected _ hl1) (by rw [hfr.2]; exact hi), discMid_setSt s1 b hb hl1]
      exact finishDisc_setSt _ b nx
  have e7 : 4 * s.clearLog.inbox.length + 7 = 4 * s.clearLog.inbox.length + 6 + 1 := rfl
  rw [e7, hset]

end Qfx.Sess
