/-
  Sequential layer of C02, per-epoch clauses (wire order; saved since the last reset): invariant `E` over
  Qfx.Model.Session, instance of SessWalk like Lemmas/SessC02.lean.  The clauses need one hypothesis on histories: the
  application does not itself submit a Logon carrying ResetSeqNumFlag=Y through SendToTarget (that would reset the
  store inside `prepMessageForSend` without dropping the queue); the engine never does (its Logons go through
  `dropAndSendInReplyTo`).
-/
import Qfx.Lemmas.SessC02
namespace Qfx.Sess.C02b
open Qfx Qfx.Sess Qfx.Sess.C02

def g3Of (p : Bool) (g0 : G3) (s : Sess) : G3 := s.log.reverse.foldl (g3Step p) g0

/-- the first-time numbers in the queue increase strictly from `lo` and stay below `b` -/
def QSeq : Int → List OutMsg → Int → Prop
  | lo, [], b => lo < b
  | lo, m :: q, b => if firstTime m = true then lo < m.seq ∧ QSeq m.seq q b else QSeq lo q b

theorem QSeq.lt {lo b : Int} {q : List OutMsg} (h : QSeq lo q b) : lo < b := by
  induction q generalizing lo with
  | nil => exact h
  | cons m q ih =>
    unfold QSeq at h
    split at h
    · exact Int.lt_trans h.1 (ih h.2)
    · exact ih h

/-- the queue goes on with `r`, judged from whatever first-time number `q` ends on -/
theorem QSeq.append {lo b b' : Int} {q r : List OutMsg} (h : QSeq lo q b) (hr : ∀ l, l < b → QSeq l r b') : QSeq lo (q ++ r) b' := by
  induction q generalizing lo with
  | nil => exact hr lo h
  | cons x q ih =>
    simp only [List.cons_append]
    unfold QSeq at h ⊢
    split at h
    · rename_i hf; rw [if_pos hf]; exact ⟨h.1, ih h.2⟩
    · rename_i hf; rw [if_neg hf]; exact ih h

theorem QSeq.mono {lo b b' : Int} {q : List OutMsg} (h : QSeq lo q b) (hb : b ≤ b') : QSeq lo q b' := by
  have := h.append (r := []) fun l hl => Int.lt_of_lt_of_le hl hb
  rwa [List.append_nil] at this

theorem QSeq.snoc {lo b : Int} {q : List OutMsg} {m : OutMsg} (h : QSeq lo q m.seq) (hb : m.seq < b) :
    QSeq lo (q ++ [m]) b :=
  h.append fun l hl => by
    simp only [QSeq]
    split
    · exact ⟨hl, hb⟩
    · exact Int.lt_trans hl hb

theorem QSeq.snoc_dup {lo b : Int} {q : List OutMsg} {m : OutMsg} (h : QSeq lo q b) (hd : firstTime m = false) :
    QSeq lo (q ++ [m]) b :=
  h.append fun l hl => by simp only [QSeq, hd]; exact hl

def triple (m : OutMsg) : Int × String × Bool := (m.seq, m.kind, resendable m)

/-- invariant: the per-epoch monitor is happy, persistence as configured, the queue is ordered between the last
    first-time write and the store's next number, and (with persistence) every queued first-time message has been saved
    since the last reset -/
def E (p : Bool) (g0 : G3) (s : Sess) : Prop :=
  (g3Of p g0 s).ok = true ∧ s.cfg.persist = p ∧ QSeq (g3Of p g0 s).lastFirst s.toSend s.store.sender ∧
  (p = true → ∀ m ∈ s.toSend, firstTime m = true → triple m ∈ (g3Of p g0 s).savedE)

theorem g3Of_emit (p : Bool) (g0 : G3) (s : Sess) (o : Obs) : g3Of p g0 (s.emit o) = g3Step p (g3Of p g0 s) o :=
  foldLog_emit (g3Step p) g0 s o

theorem g3Step_neutral (p : Bool) (g : G3) (o : Obs) (h : neutral o = true) : g3Step p g o = g := by
  cases o <;> simp_all [g3Step, neutral]

theorem Ext.g3 {s s' : Sess} (h : Ext s s') (p : Bool) (g0 : G3) : g3Of p g0 s' = g3Of p g0 s :=
  LogBy.fold (g3Step_neutral p) h.log g0

def Pres (p : Bool) (g0 : G3) (s s' : Sess) : Prop := E p g0 s → E p g0 s'

theorem Pres.refl (p : Bool) (g0 : G3) (s : Sess) : Pres p g0 s s := id
theorem Pres.trans {p : Bool} {g0 : G3} {a b c : Sess} (h1 : Pres p g0 a b) (h2 : Pres p g0 b c) : Pres p g0 a c :=
  fun h => h2 (h1 h)

theorem _root_.Qfx.Sess.C02.Ext.pres3 {s s' : Sess} (h : Ext s s') (p : Bool) (g0 : G3) : Pres p g0 s s' := by
  intro hk
  unfold E at *
  rw [Ext.g3 h p g0, h.snd, h.q, h.cfg]; exact hk

theorem E_setToSend_nil {p : Bool} {g0 : G3} {s : Sess} (h : E p g0 s) : E p g0 (s.setToSend []) := by
  obtain ⟨hok, hc, hq, hs⟩ := h
  exact ⟨hok, hc, hq.lt, fun _ m hm => by simp [Sess.setToSend] at hm⟩

/-- dropAndReset: the queue is emptied first, so nothing of the old epoch can be written later -/
theorem pres_dropAndReset (p : Bool) (g0 : G3) (s : Sess) : Pres p g0 s (dropAndReset s) := by
  intro ⟨hok, hc, _, _⟩
  unfold dropAndReset E Sess.storeReset
  rw [g3Of_emit]
  have hg : g3Of p g0 { s.setToSend [] with store := (s.setToSend []).store.reset } = g3Of p g0 s := rfl
  rw [hg]
  refine ⟨by simpa [g3Step] using hok, hc, ?_, ?_⟩
  · simp [g3Step, Sess.emit, Sess.setToSend, Store.reset, QSeq]
  · intro _ m hm; simp [Sess.emit, Sess.setToSend] at hm

theorem persistOut_view (p : Bool) (g0 : G3) (s : Sess) (n : Int) (m : OutMsg) :
    (g3Of p g0 (s.persistOut n m)).ok = (g3Of p g0 s).ok ∧
    (g3Of p g0 (s.persistOut n m)).lastFirst = (g3Of p g0 s).lastFirst ∧
    (∀ x ∈ (g3Of p g0 s).savedE, x ∈ (g3Of p g0 (s.persistOut n m)).savedE) ∧
    (s.cfg.persist = true → (n, m.kind, resendable m) ∈ (g3Of p g0 (s.persistOut n m)).savedE) := by
  have hg : g3Of p g0 (s.persistOut n m) = g3Step p (g3Of p g0 s) (savedObs s n m) := foldLog_persistOut _ _ _ _ _
  rw [hg]
  unfold savedObs
  split
  · exact ⟨rfl, rfl, fun x hx => List.mem_cons_of_mem _ hx, fun _ => List.mem_cons_self⟩
  · rename_i hp
    exact ⟨rfl, rfl, fun _ hx => hx, fun h => absurd h hp⟩

theorem E_persistOut (p : Bool) (g0 : G3) (s : Sess) (m : OutMsg) (h : E p g0 s) :
    E p g0 (s.persistOut s.store.sender m) ∧
    (g3Of p g0 (s.persistOut s.store.sender m)).lastFirst = (g3Of p g0 s).lastFirst ∧
    (s.persistOut s.store.sender m).toSend = s.toSend ∧
    (s.persistOut s.store.sender m).store.sender = s.store.sender + 1 ∧
    (p = true → (s.store.sender, m.kind, resendable m) ∈ (g3Of p g0 (s.persistOut s.store.sender m)).savedE) := by
  obtain ⟨hok, hc, hq, hs⟩ := h
  obtain ⟨v1, v2, v3, v4⟩ := persistOut_view p g0 s s.store.sender m
  obtain ⟨v5, v6, v7⟩ := persistOut_frame s s.store.sender m
  refine ⟨⟨v1.trans hok, (by rw [v7]; exact hc), ?_, ?_⟩, v2, v5, v6, fun hp => v4 (hc.trans hp)⟩
  · rw [v2, v5, v6]; exact hq.mono (by omega)
  · intro hp x hx hf
    rw [v5] at hx
    exact v3 _ (hs hp x hx hf)

theorem foldl_wire3 (p : Bool) (b : Int) :
    ∀ (l : List OutMsg) (g : G3), g.ok = true → QSeq g.lastFirst l b →
      (p = true → ∀ m ∈ l, firstTime m = true → triple m ∈ g.savedE) →
      ((l.map Obs.wire).foldl (g3Step p) g).ok = true ∧ ((l.map Obs.wire).foldl (g3Step p) g).lastFirst < b ∧
      ((l.map Obs.wire).foldl (g3Step p) g).savedE = g.savedE := by
  intro l
  induction l with
  | nil => intro g hok hq _; exact ⟨hok, hq, rfl⟩
  | cons m l ih =>
    intro g hok hq hs
    simp only [List.map_cons, List.foldl_cons]
    unfold QSeq at hq
    by_cases hf : firstTime m = true
    · rw [if_pos hf] at hq
      have hstep : g3Step p g (.wire m) = { g with lastFirst := m.seq } := by
        simp only [g3Step, hf, if_true]
        have h1 : decide (g.lastFirst < m.seq) = true := by simpa using hq.1
        have h2 : (!p || g.savedE.contains (m.seq, m.kind, resendable m)) = true := by
          cases hpp : p with
          | false => simp
          | true =>
            have := hs hpp m (by simp) hf
            simp [triple] at this
            simp [this]
        rw [hok, h1, h2]; rfl
      rw [hstep]
      exact ih _ hok hq.2 (fun hpp x hx hxf => hs hpp x (by simp [hx]) hxf)
    · rw [if_neg hf] at hq
      have hstep : g3Step p g (.wire m) = g := by simp [g3Step, hf]
      rw [hstep]
      exact ih _ hok hq (fun hpp x hx hxf => hs hpp x (by simp [hx]) hxf)

theorem pres_sendQueued (p : Bool) (g0 : G3) (s : Sess) : Pres p g0 s (sendQueued s) := by
  intro ⟨hok, hc, hq, hs⟩
  unfold sendQueued
  split
  · unfold E
    have hg : g3Of p g0 { s with log := (s.toSend.map Obs.wire).reverse ++ s.log, toSend := [] }
        = (s.toSend.map Obs.wire).foldl (g3Step p) (g3Of p g0 s) := by
      unfold g3Of
      simp only [List.reverse_append, List.reverse_reverse, List.foldl_append]
    rw [hg]
    obtain ⟨a, b, c⟩ := foldl_wire3 p s.store.sender s.toSend (g3Of p g0 s) hok hq hs
    exact ⟨a, hc, b, fun _ m hm => by simp at hm⟩
  · exact ⟨hok, hc, hq, hs⟩

theorem E_setToSend_snoc {p : Bool} {g0 : G3} {s : Sess} {m : OutMsg} (h : E p g0 s)
    (hq : QSeq (g3Of p g0 s).lastFirst (s.toSend ++ [m]) s.store.sender)
    (hm : p = true → firstTime m = true → triple m ∈ (g3Of p g0 s).savedE) :
    E p g0 (s.setToSend (s.toSend ++ [m])) := by
  obtain ⟨hok, hc, _, hs⟩ := h
  refine ⟨hok, hc, hq, fun hp x hx hf => ?_⟩
  simp only [Sess.setToSend, List.mem_append, List.mem_singleton] at hx
  rcases hx with hx | hx
  · exact hs hp x hx hf
  · subst hx; exact hm hp hf

/-- the ResetSeqNumFlag branch of prepMessageForSend is not taken -/
def noResetLogon (m : OutMsg) : Bool := !(m.kind == "A" && m.f.get? 141 == some "Y")

/-- not a Logon with ResetSeqNumFlag: the numbered message is saved and goes behind the queue, above everything in it -/
theorem E_filed (p : Bool) (g0 : G3) (s : Sess) (m : OutMsg) (hn : noResetLogon m = true) (h : E p g0 s) :
    E p g0 ((prepBase s m).filed s.toSend (outgoing s m)) := by
  have hr : resetLogon m = false := (Bool.not_eq_true' _).mp hn
  rw [prepBase_plain hr, outgoing_plain hr]
  obtain ⟨a, b, c, d, e⟩ := E_persistOut p g0 s { stamp s m with seq := s.store.sender } h
  unfold Sess.filed
  rw [← c]
  exact E_setToSend_snoc a (by rw [b, c, d]; exact QSeq.snoc h.2.2.1 (by show s.store.sender < _; omega)) (fun hp _ => e hp)

theorem pres_queueForSend (p : Bool) (g0 : G3) (s : Sess) (m : OutMsg) (hn : noResetLogon m = true) :
    Pres p g0 s (queueForSend s m) := by
  intro h
  rw [queueForSend_eq]
  split
  · exact h
  · exact E_filed p g0 s m hn h

theorem pres_sendInReplyTo (p : Bool) (g0 : G3) (s : Sess) (m : OutMsg) (hn : noResetLogon m = true) :
    Pres p g0 s (sendInReplyTo s m) := by
  intro h
  rw [sendInReplyTo_eq]
  split
  · exact pres_queueForSend p g0 s _ hn h
  · split
    · exact h
    · exact pres_sendQueued p g0 _ (E_filed p g0 s m hn h)

/-! ### dropAndSendInReplyTo: the queue is replaced, so the Logon-reset branch is harmless there -/

/-- the part of `E` that does not speak about the queue -/
def E0 (p : Bool) (g0 : G3) (s : Sess) : Prop :=
  (g3Of p g0 s).ok = true ∧ s.cfg.persist = p ∧ (g3Of p g0 s).lastFirst < s.store.sender

theorem E.toE0 {p : Bool} {g0 : G3} {s : Sess} (h : E p g0 s) : E0 p g0 s := ⟨h.1, h.2.1, h.2.2.1.lt⟩

theorem E0_storeReset {p : Bool} {g0 : G3} {s : Sess} (h : E0 p g0 s) : E0 p g0 s.storeReset := by
  obtain ⟨hok, hc, _⟩ := h
  unfold E0 Sess.storeReset
  rw [g3Of_emit]
  have hg : g3Of p g0 { s with store := s.store.reset } = g3Of p g0 s := rfl
  rw [hg]
  exact ⟨by simpa [g3Step] using hok, hc, by simp [g3Step, Sess.emit, Store.reset]⟩

theorem E0_persistOut (p : Bool) (g0 : G3) (s : Sess) (m : OutMsg) (h : E0 p g0 s) :
    E0 p g0 (s.persistOut s.store.sender m) ∧
    (g3Of p g0 (s.persistOut s.store.sender m)).lastFirst < s.store.sender ∧
    (s.persistOut s.store.sender m).store.sender = s.store.sender + 1 ∧
    (p = true → (s.store.sender, m.kind, resendable m) ∈ (g3Of p g0 (s.persistOut s.store.sender m)).savedE) := by
  obtain ⟨hok, hc, hl⟩ := h
  obtain ⟨v1, v2, _, v4⟩ := persistOut_view p g0 s s.store.sender m
  obtain ⟨_, v6, v7⟩ := persistOut_frame s s.store.sender m
  exact ⟨⟨v1.trans hok, (by rw [v7]; exact hc), by rw [v2, v6]; omega⟩, by rw [v2]; exact hl, v6, fun hp => v4 (hc.trans hp)⟩

theorem E_setToSend_single {p : Bool} {g0 : G3} {s : Sess} {m : OutMsg} (h : E0 p g0 s)
    (h1 : (g3Of p g0 s).lastFirst < m.seq) (h2 : m.seq < s.store.sender)
    (h3 : p = true → triple m ∈ (g3Of p g0 s).savedE) : E p g0 (s.setToSend [m]) := by
  obtain ⟨hok, hc, hl⟩ := h
  refine ⟨hok, hc, ?_, fun hp x hx _ => ?_⟩
  · show QSeq (g3Of p g0 s).lastFirst [m] s.store.sender
    simp only [QSeq]
    split
    · exact ⟨h1, h2⟩
    · exact hl
  · simp only [Sess.setToSend, List.mem_singleton] at hx
    subst hx; exact h3 hp

/-- any message, in place of the queue: it lies strictly between the last first-time write and the store's next number, and
    has been saved in the current epoch -/
theorem E_filed_single (p : Bool) (g0 : G3) (s : Sess) (m : OutMsg) (h : E0 p g0 s) :
    E p g0 ((prepBase s m).filed [] (outgoing s m)) := by
  have h1 : E0 p g0 (prepBase s m) := by
    unfold prepBase
    split
    · exact E0_storeReset h
    · exact h
  obtain ⟨a, b, c, d⟩ := E0_persistOut p g0 (prepBase s m) (outgoing s m) h1
  exact E_setToSend_single a b (by show (prepBase s m).store.sender < _; rw [c]; omega) d

theorem pres_dropAndSend (p : Bool) (g0 : G3) (s : Sess) (m : OutMsg) : Pres p g0 s (dropAndSend s m) := by
  intro h
  rw [dropAndSend_eq]
  split
  · exact h
  · exact pres_sendQueued p g0 _ (E_filed_single p g0 s m h.toE0)

theorem pres_enqueueAndSend (p : Bool) (g0 : G3) (s : Sess) (m : OutMsg) (hd : firstTime m = false) :
    Pres p g0 s (enqueueAndSend s m) := by
  intro h
  unfold enqueueAndSend
  simp only []
  have snoc : ∀ s1 : Sess, E p g0 s1 → E p g0 (s1.setToSend (s1.toSend ++ [m])) := fun s1 h1 =>
    E_setToSend_snoc h1 (QSeq.snoc_dup h1.2.2.1 hd) (fun _ hf => by rw [hd] at hf; cases hf)
  split
  · exact pres_sendQueued p g0 _ (snoc _ (E_setToSend_nil h))
  · exact pres_sendQueued p g0 _ (snoc _ h)

theorem noResetLogon_of_kind {m : OutMsg} (h : (m.kind == "A") = false) : noResetLogon m = true := by
  simp [noResetLogon, h]

theorem noResetLogon_of_reply {m : OutMsg} (h : m.kind ∈ replyKinds) : noResetLogon m = true :=
  noResetLogon_of_kind (replyKinds_ne_logon h)

theorem eSend (p : Bool) (g0 : G3) : SendRel (Pres p g0) where
  refl := Pres.refl p g0
  trans := Pres.trans
  quiet := fun _ _ _ _ => (C02.Ext.of_eq rfl rfl rfl rfl).pres3 p g0
  arm := fun s n => (C02.Ext.emit s (.armPeer n) rfl).pres3 p g0
  incrTarget := fun s => (ext_incrTarget s).pres3 p g0
  sendInReplyTo := fun s m hm => pres_sendInReplyTo p g0 s m (noResetLogon_of_reply hm)
  enqueueAndSend := fun s m hm => pres_enqueueAndSend p g0 s m (firstTime_of_possDup hm.possDup)

theorem pres_sendResendRequest (p : Bool) (g0 : G3) (s : Sess) (b e : Int) : Pres p g0 s (sendResendRequest s b e).1 :=
  sendResendRequest_of_sendInReplyTo (fun s _ =>
    pres_sendInReplyTo p g0 s _ (noResetLogon_of_kind (show ("2" == "A") = false by decide))) s b e

theorem eStep (p : Bool) (g0 : G3) : StepRel (Pres p g0) where
  toSendRel := eSend p g0
  sendResendRequest := pres_sendResendRequest p g0
  notice := fun s o ho => (C02.Ext.emit s o (neutral_of_notice ho)).pres3 p g0
  dropAndSend := pres_dropAndSend p g0
  dropAndReset := pres_dropAndReset p g0
  setT := fun s n _ => (ext_setT s n).pres3 p g0
  plain := (eSend p g0).plain_of_verify (pres_sendResendRequest p g0) fun s m => (ext_verifyAppImpl s m).pres3 p g0
  frame := fun _ _ _ _ _ _ _ _ => (C02.Ext.of_eq rfl rfl rfl rfl).pres3 p g0
  dropQueue := fun _ => E_setToSend_nil
  sendQueued := pres_sendQueued p g0

section peel
variable {p : Bool} {g0 : G3} {s x : Sess}
theorem peel_sendQueued (h : Pres p g0 s x) : Pres p g0 s (sendQueued x) := h.trans (pres_sendQueued p g0 x)
theorem peel_setToSend_nil (h : Pres p g0 s x) : Pres p g0 s (x.setToSend []) := fun hk => E_setToSend_nil (h hk)
theorem peel_sendResendRequest (b e : Int) (h : Pres p g0 s x) : Pres p g0 s (sendResendRequest x b e).1 :=
  h.trans (pres_sendResendRequest p g0 x b e)
end peel

/-- events the per-epoch clauses are stated for: the application does not submit a Logon with ResetSeqNumFlag=Y -/
def benign : Ev → Bool
  | .send m => noResetLogon m
  | _ => true

theorem E_stepCore (p : Bool) (g0 : G3) (s : Sess) (e : Ev) (hb : benign e = true) (h : E p g0 s) : E p g0 (stepCore s e).1 :=
  (eStep p g0).stepCore s e (fun m he => pres_queueForSend p g0 s m (by subst he; exact hb)) h

end Qfx.Sess.C02b
