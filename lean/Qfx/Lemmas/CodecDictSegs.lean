/-
  Messages made of runs (`Seg`: plain fields, a repeating group, the plain body field behind it), the group described at the level of the
  parser's tag stack at any depth (`SegOKN`, `parse_dict_segsN`: suffix `N` as in `WalkN`, n levels), by two nesting levels (`SegOK`), or
  from the dictionary alone (`SegNested`).  A run is three kinds of items (`Seg.itms`), so every statement here is `parse_dict_found`
  read on the item sequence of the runs.
-/
import Qfx.Lemmas.CodecDictItems
import Qfx.Lemmas.CodecDictWalk
namespace Qfx
open Qfx.Spec

variable {d : Dicts}

/-- a run of the message: plain fields, a group (count field and member fields), the plain body field behind it -/
structure Seg where
  pre : List TagValue
  g0 : TagValue
  M : List TagValue
  z0 : TagValue

def Seg.flat (s : Seg) : List TagValue := s.pre ++ s.g0 :: (s.M ++ [s.z0])

/-- the TagValues of a run that are entered into the section maps: the group's members are not -/
def Seg.adds (s : Seg) : List TagValue := s.pre ++ [s.g0, s.z0]

structure SegOK (d : Dicts) (mt : Bytes) (s : Seg) : Prop where
  pre : PlainFields d s.pre
  grp : ∃ C s', OuterGroup d mt s.g0.tag C ∧ Walk2 d mt s.g0.tag C .outer s.M s' ∧ isGroupMember s.z0.tag C = false ∧
          isGroupMember s.z0.tag (s'.members C) = false
  wg0 : IsWire s.g0
  gh : isHeaderField d s.g0.tag = false
  gt : isTrailerField d s.g0.tag = false
  z : PlainFields d [s.z0]
  zh : isHeaderField d s.z0.tag = false
  zt : isTrailerField d s.z0.tag = false

/-- a run with a group of any nesting depth -/
structure SegOKN (d : Dicts) (mt : Bytes) (fs : List DNode) (s : Seg) : Prop where
  pre : PlainFields d s.pre
  grp : ∃ C st', groupOf fs s.g0.tag = some C ∧ WalkN d [(s.g0.tag, C)] s.M st' ∧ stepSpec st' s.z0.tag = none
  wg0 : IsWire s.g0
  gh : isHeaderField d s.g0.tag = false
  gt : isTrailerField d s.g0.tag = false
  z : PlainFields d [s.z0]
  zh : isHeaderField d s.z0.tag = false
  zt : isTrailerField d s.z0.tag = false

/-- a run described from the dictionary alone: plain fields, the count field of a group `G` of the message type's field list `fs`, a
    well-nested member sequence for `G`'s member list over a tag-disjoint tree, and a plain body field listed nowhere in that tree -/
structure SegNested (d : Dicts) (fs : List DNode) (s : Seg) : Prop where
  pre : PlainFields d s.pre
  grp : ∃ C, groupOf fs s.g0.tag = some C ∧ GroupWalk C s.M ∧ TreeOK d C ∧ isGroupMember s.z0.tag C = false ∧
          ∀ C', Below C C' → isGroupMember s.z0.tag C' = false
  wg0 : IsWire s.g0
  gh : isHeaderField d s.g0.tag = false
  gt : isTrailerField d s.g0.tag = false
  z : PlainFields d [s.z0]
  zh : isHeaderField d s.z0.tag = false
  zt : isTrailerField d s.z0.tag = false

/-- well-nested member fields are walked along their nesting (`groupWalk_walkN`); a field listed nowhere in the tree ends the group -/
theorem SegNested.ok {mt : Bytes} {fs : List DNode} {s : Seg} (h : SegNested d fs s) : SegOKN d mt fs s := by
  obtain ⟨C, hgC, hM, htree, hzC, hzB⟩ := h.grp
  obtain ⟨ext', he', hw⟩ := hM.walkN_top (d := d) s.g0.tag htree
  exact ⟨h.pre, ⟨C, (s.g0.tag, C) :: ext', hgC, hw, stepSpec_exit _ _
    (List.forall_mem_cons.2 ⟨hzC, fun l hl => hzB l.2 (he' l hl)⟩)⟩, h.wg0, h.gh, h.gt, h.z, h.zh, h.zt⟩

/-- two levels are a tag stack of one or two levels (`walk2_walkN`) -/
theorem walk2_segOKN {mt : Bytes} {G : Tag} {C : List DNode} (hg : OuterGroup d mt G C) {s : Seg} {s' : GState}
    (hG : s.g0.tag = G) (hW : Walk2 d mt G C .outer s.M s') (hpre : PlainFields d s.pre) (wg0 : IsWire s.g0)
    (gh : isHeaderField d G = false) (gt : isTrailerField d G = false) (z : PlainFields d [s.z0])
    (hzC : isGroupMember s.z0.tag C = false) (hzS : isGroupMember s.z0.tag (s'.members C) = false)
    (zh : isHeaderField d s.z0.tag = false) (zt : isTrailerField d s.z0.tag = false) :
    ∃ fs, AppMsg d mt fs ∧ groupOf fs G = some C ∧ SegOKN d mt fs s := by
  obtain ⟨fs, ha, hgC⟩ := hg.app
  subst hG
  exact ⟨fs, ha, hgC, hpre, ⟨C, s'.stack s.g0.tag C, hgC, (walk2_walkN hW hg).1, GState.stepSpec_exit _ C s' _ hzC hzS⟩, wg0, gh, gt, z, zh, zt⟩

theorem SegOK.toN {mt : Bytes} {s : Seg} (h : SegOK d mt s) : ∃ fs, AppMsg d mt fs ∧ SegOKN d mt fs s := by
  obtain ⟨C, s', hg, hW, hzC, hzS⟩ := h.grp
  obtain ⟨fs, ha, _, hs⟩ := walk2_segOKN hg rfl hW h.pre h.wg0 h.gh h.gt h.z hzC hzS h.zh h.zt
  exact ⟨fs, ha, hs⟩

def Seg.itms (s : Seg) : List Itm := s.pre.map .plain ++ [.group s.g0 s.M, .plain s.z0]

theorem flatItms_segs (segs : List Seg) : flatItms (segs.flatMap Seg.itms) = segs.flatMap Seg.flat := by
  induction segs with
  | nil => rfl
  | cons s r ih =>
    rw [List.flatMap_cons, List.flatMap_cons, flatItms_append, ih, Seg.itms, flatItms_append, flatItms_map_plain]
    rfl

theorem heads_segs (segs : List Seg) (post : List TagValue) :
    (segs.flatMap Seg.itms ++ post.map Itm.plain).map Itm.head = segs.flatMap Seg.adds ++ post := by
  induction segs with
  | nil => exact heads_plain post
  | cons s r ih =>
    rw [List.flatMap_cons, List.flatMap_cons, List.append_assoc, List.map_append, ih, Seg.itms, List.map_append, heads_plain]
    simp [Seg.adds, Itm.head]

theorem stepSpec_none_notMember {st : List Level} {t : Tag} (h : stepSpec st t = none) : isGroupMember t (lastGf st) = false := by
  cases hm : isGroupMember t (lastGf st) with
  | false => rfl
  | true => rw [stepSpec_eq, hm] at h; cases h

theorem SegOKN.items {mt : Bytes} {fs : List DNode} {s : Seg} (hs : SegOKN d mt fs s) {r : List Itm} {s' : Option (List Level)}
    (hr : ItemsOK d fs none r s') : ItemsOK d fs none (s.itms ++ r) s' := by
  obtain ⟨C, st', hgC, hW, hstep⟩ := hs.grp
  obtain ⟨zw, z10, z212, z9, z35, zng⟩ := hs.z s.z0 (by simp)
  rw [Seg.itms, List.append_assoc]
  exact itemsOK_plains s.pre hs.pre (.groupMain hs.wg0 hs.gh hs.gt hgC hW
    (.close ⟨stepSpec_none_notMember hstep, Or.inr (Or.inr (Or.inr ⟨zng, hstep⟩))⟩ (.plainMain zw z10 z212 z9 z35 (Or.inr (Or.inr zng)) hr)))

theorem itemsOK_segs {mt : Bytes} {fs : List DNode} {r : List Itm} {s' : Option (List Level)} (hr : ItemsOK d fs none r s') :
    ∀ (segs : List Seg), (∀ s ∈ segs, SegOKN d mt fs s) → ItemsOK d fs none (segs.flatMap Seg.itms ++ r) s'
  | [], _ => hr
  | s :: l, h => by
    rw [List.flatMap_cons, List.append_assoc]
    exact (h s (by simp)).items (itemsOK_segs hr l fun x hx => h x (by simp [hx]))

theorem secOf_body {t : Tag} (hh : isHeaderField d t = false) (ht : isTrailerField d t = false) : secOf d t = .b := by
  simp [secOf, hh, ht]

/-- parse with the dictionary, any number of groups of any nesting depth: `8, 9, 35, (plain…, G=<n>, <members>, z)…, plain…, 10` -/
theorem parse_dict_segsN {mt : Bytes} {fs : List DNode} (ha : AppMsg d mt fs) (t8 t9 t35 t10 : TagValue) (segs : List Seg) (post : List TagValue)
    (hw8 : IsWire t8) (hw9 : IsWire t9) (hw35 : IsWire t35) (hw10 : IsWire t10)
    (h8 : t8.tag = 8) (h9 : t9.tag = 9) (h35 : t35.tag = 35) (h10 : t10.tag = 10) (hv : t35.value = mt)
    (hsegs : ∀ s ∈ segs, SegOKN d mt fs s) (hpost : PlainFields d post) (hh10 : isHeaderField d 10 = false)
    (hbl : atoi t9.value = .ok ((fieldsLength (t8 :: t9 :: t35 :: (segs.flatMap Seg.flat ++ (post ++ [t10]))) : Nat) : Int)) :
    ∃ m, parseMessage Fixes.cur d (wireOf (t8 :: t9 :: t35 :: (segs.flatMap Seg.flat ++ (post ++ [t10])))) = .ok m ∧
      m.fields = t8 :: t9 :: t35 :: (segs.flatMap Seg.flat ++ (post ++ [t10])) ∧
      m.raw = some (wireOf (t8 :: t9 :: t35 :: (segs.flatMap Seg.flat ++ (post ++ [t10])))) ∧
      (∀ (A : List Seg) (s : Seg) (B : List Seg), segs = A ++ s :: B →
        (∀ tv ∈ s.z0 :: (B.flatMap Seg.adds ++ post), tv.tag ≠ s.g0.tag) →
        ∃ f, alFind m.body.lookup s.g0.tag = some f ∧ f.items m.fields = s.g0 :: s.M) ∧
      (∀ (A : List Seg) (s : Seg) (B : List Seg), segs = A ++ s :: B →
        (∀ tv ∈ B.flatMap Seg.adds ++ post, tv.tag ≠ s.z0.tag) → m.body.getBytes m.fields s.z0.tag = .ok s.z0.value) := by
  have hok : ItemsOK d fs none (segs.flatMap Seg.itms ++ post.map Itm.plain) none :=
    itemsOK_segs (by simpa using itemsOK_plains post hpost (.nil none)) segs hsegs
  have hflat : flatItms (segs.flatMap Seg.itms ++ post.map Itm.plain) ++ [t10] = segs.flatMap Seg.flat ++ (post ++ [t10]) := by
    rw [flatItms_append, flatItms_segs, flatItms_map_plain, List.append_assoc]
  obtain ⟨m, h1, h2, h3, hp, hg⟩ := parse_dict_found ha t8 t9 t35 t10 _ none hw8 hw9 hw35 hw10 h8 h9 h35 h10 hv hok trivial hh10
    (by rw [hflat]; exact hbl)
  rw [hflat] at h1 h2 h3
  refine ⟨m, h1, h2, h3, ?_, ?_⟩
  · intro A s B hsplit huniq
    have hitems : segs.flatMap Seg.itms ++ post.map Itm.plain =
        (A.flatMap Seg.itms ++ s.pre.map Itm.plain) ++ .group s.g0 s.M :: (.plain s.z0 :: (B.flatMap Seg.itms ++ post.map Itm.plain)) := by
      rw [hsplit]; simp [Seg.itms, List.flatMap_append]
    obtain ⟨hf, hi, _⟩ := hg _ _ _ _ hitems (later_of_heads _ _ _ _ (by rw [List.map_cons, heads_segs]; exact huniq))
    exact ⟨_, hf, hi⟩
  · intro A s B hsplit huniq
    have hitems : segs.flatMap Seg.itms ++ post.map Itm.plain =
        (A.flatMap Seg.itms ++ (s.pre.map Itm.plain ++ [.group s.g0 s.M])) ++ .plain s.z0 :: (B.flatMap Seg.itms ++ post.map Itm.plain) := by
      rw [hsplit]; simp [Seg.itms, List.flatMap_append]
    have hs := hsegs s (by rw [hsplit]; simp)
    have hz := hp _ _ _ hitems (hs.z s.z0 (by simp)).2.1 (later_of_heads _ _ _ _ (by rw [heads_segs]; exact huniq))
    rwa [secOf_body hs.zh hs.zt] at hz

/-- one group followed by body fields, `8, 9, 35, plain…, G=<n>, <members>, z0, plain…, 10`: one run, with the full extent of the group's view -/
theorem parse_dict_group_mid {mt : Bytes} {fs : List DNode} (ha : AppMsg d mt fs) (t8 t9 t35 g0 z0 t10 : TagValue) (preA M postB : List TagValue)
    (hw8 : IsWire t8) (hw9 : IsWire t9) (hw35 : IsWire t35) (hw10 : IsWire t10)
    (h8 : t8.tag = 8) (h9 : t9.tag = 9) (h35 : t35.tag = 35) (h10 : t10.tag = 10) (hv : t35.value = mt)
    (hs : SegOKN d mt fs ⟨preA, g0, M, z0⟩) (hpost : PlainFields d postB) (hzG : ∀ tv ∈ z0 :: postB, tv.tag ≠ g0.tag)
    (hh10 : isHeaderField d 10 = false)
    (hbl : atoi t9.value = .ok ((fieldsLength (t8 :: t9 :: t35 :: ((preA ++ g0 :: M) ++ (z0 :: postB ++ [t10]))) : Nat) : Int)) :
    ∃ (m : Message) (f : Field),
      parseMessage Fixes.cur d (wireOf (t8 :: t9 :: t35 :: ((preA ++ g0 :: M) ++ (z0 :: postB ++ [t10])))) = .ok m ∧
      m.fields = t8 :: t9 :: t35 :: ((preA ++ g0 :: M) ++ (z0 :: postB ++ [t10])) ∧
      alFind m.body.lookup g0.tag = some f ∧ f.items m.fields = g0 :: M ∧ f.full m.fields = g0 :: (M ++ (z0 :: postB ++ [t10])) ∧
      ((∀ tv ∈ postB, tv.tag ≠ z0.tag) → m.body.getBytes m.fields z0.tag = .ok z0.value) := by
  have hzp := hs.z z0 (by simp)
  have hok : ItemsOK d fs none ((⟨preA, g0, M, z0⟩ : Seg).itms ++ postB.map Itm.plain) none :=
    hs.items (by simpa using itemsOK_plains postB hpost (.nil none))
  have e : flatItms ((⟨preA, g0, M, z0⟩ : Seg).itms ++ postB.map Itm.plain) ++ [t10] = (preA ++ g0 :: M) ++ (z0 :: postB ++ [t10]) := by
    rw [Seg.itms, flatItms_append, flatItms_append, flatItms_map_plain, flatItms_map_plain]; simp [flatItms, Itm.flat]
  obtain ⟨m, h1, h2, _, hp, hg⟩ := parse_dict_found ha t8 t9 t35 t10 _ none hw8 hw9 hw35 hw10 h8 h9 h35 h10 hv hok trivial hh10
    (by rw [e]; exact hbl)
  rw [e] at h1 h2
  obtain ⟨hf, hi, hfull⟩ := hg (preA.map Itm.plain) (.plain z0 :: postB.map Itm.plain) g0 M (by simp [Seg.itms])
    (later_of_heads _ _ _ _ (by rw [List.map_cons, heads_plain]; exact hzG))
  refine ⟨m, _, h1, h2, hf, hi, by rw [hfull]; simp [flatItms_cons, flatItms_map_plain, Itm.flat], fun hpz => ?_⟩
  have hz := hp (preA.map Itm.plain ++ [.group g0 M]) (postB.map Itm.plain) z0 (by simp [Seg.itms]) hzp.2.1
    (later_of_heads _ _ _ _ (by rw [heads_plain]; exact hpz))
  rwa [secOf_body hs.zh hs.zt] at hz

/-- one group last in the body, `8, 9, 35, plain…, G=<n>, <members>, 10`: CheckSum closes the group at whatever level the member
    fields end, provided that level does not list CheckSum -/
theorem parse_dict_group_last {mt : Bytes} {fs : List DNode} (ha : AppMsg d mt fs) (t8 t9 t35 g0 t10 : TagValue) (preA M : List TagValue)
    {C : List DNode} {st' : List Level}
    (hw8 : IsWire t8) (hw9 : IsWire t9) (hw35 : IsWire t35) (hw10 : IsWire t10)
    (h8 : t8.tag = 8) (h9 : t9.tag = 9) (h35 : t35.tag = 35) (h10 : t10.tag = 10) (hv : t35.value = mt)
    (hpre : PlainFields d preA) (hg0 : IsWire g0) (hGh : isHeaderField d g0.tag = false) (hGt : isTrailerField d g0.tag = false)
    (hgC : groupOf fs g0.tag = some C) (hW : WalkN d [(g0.tag, C)] M st') (h10m : isGroupMember 10 (lastGf st') = false)
    (hh10 : isHeaderField d 10 = false)
    (hbl : atoi t9.value = .ok ((fieldsLength (t8 :: t9 :: t35 :: ((preA ++ g0 :: M) ++ [t10])) : Nat) : Int)) :
    ∃ (m : Message) (f : Field),
      parseMessage Fixes.cur d (wireOf (t8 :: t9 :: t35 :: ((preA ++ g0 :: M) ++ [t10]))) = .ok m ∧
      m.fields = t8 :: t9 :: t35 :: ((preA ++ g0 :: M) ++ [t10]) ∧
      alFind m.body.lookup g0.tag = some f ∧ f.items m.fields = g0 :: M ∧ f.full m.fields = g0 :: (M ++ [t10]) := by
  have hok : ItemsOK d fs none (preA.map Itm.plain ++ [.group g0 M]) (some st') :=
    itemsOK_plains preA hpre (.groupMain hg0 hGh hGt hgC hW (.nil _))
  have e : flatItms (preA.map Itm.plain ++ [.group g0 M]) = preA ++ g0 :: M := by
    rw [flatItms_append, flatItms_map_plain]; simp [flatItms, Itm.flat]
  obtain ⟨m, h1, h2, _, _, hg⟩ := parse_dict_found ha t8 t9 t35 t10 _ (some st') hw8 hw9 hw35 hw10 h8 h9 h35 h10 hv hok h10m hh10
    (by rw [e]; exact hbl)
  rw [e] at h1 h2
  obtain ⟨hf, hi, hfull⟩ := hg (preA.map Itm.plain) [] g0 M rfl (fun a h => by cases h)
  exact ⟨m, _, h1, h2, hf, hi, by rw [hfull]; simp [flatItms]⟩

/-- the groups described by two nesting levels (`SegOK`): the parse, and where each group is found (the clause about the field behind a
    group is not restated); without a run there is no group to ask the dictionary about, and the message is one of plain fields
    (`parse_wire_plain`) -/
theorem parse_dict_segs {mt : Bytes} (t8 t9 t35 t10 : TagValue) (segs : List Seg) (post : List TagValue)
    (hw8 : IsWire t8) (hw9 : IsWire t9) (hw35 : IsWire t35) (hw10 : IsWire t10)
    (h8 : t8.tag = 8) (h9 : t9.tag = 9) (h35 : t35.tag = 35) (h10 : t10.tag = 10) (hv : t35.value = mt)
    (hsegs : ∀ s ∈ segs, SegOK d mt s) (hpost : PlainFields d post)
    (hng10 : NoGroupTag d 10) (hh10 : isHeaderField d 10 = false)
    (hbl : atoi t9.value = .ok ((fieldsLength (t8 :: t9 :: t35 :: (segs.flatMap Seg.flat ++ (post ++ [t10]))) : Nat) : Int)) :
    ∃ m, parseMessage Fixes.cur d (wireOf (t8 :: t9 :: t35 :: (segs.flatMap Seg.flat ++ (post ++ [t10])))) = .ok m ∧
      m.fields = t8 :: t9 :: t35 :: (segs.flatMap Seg.flat ++ (post ++ [t10])) ∧
      m.raw = some (wireOf (t8 :: t9 :: t35 :: (segs.flatMap Seg.flat ++ (post ++ [t10])))) ∧
      ∀ (A : List Seg) (s : Seg) (B : List Seg), segs = A ++ s :: B →
        (∀ tv ∈ s.z0 :: (B.flatMap Seg.adds ++ post), tv.tag ≠ s.g0.tag) →
        ∃ f, alFind m.body.lookup s.g0.tag = some f ∧ f.items m.fields = s.g0 :: s.M := by
  cases segs with
  | nil =>
    have hw : WireMsg t8 t9 t35 post t10 :=
      ⟨hw8, hw9, hw35, fun tv h => ⟨(hpost tv h).1, (hpost tv h).2.1, (hpost tv h).2.2.1⟩, hw10, h8, h9, h35, h10,
        fun tv h => (hpost tv h).2.2.2.1⟩
    exact ⟨_, parse_wire_plain Fixes.cur t8 t9 t35 post t10 hw hbl (fun tv h => (hpost tv h).2.2.2.2.2) hng10 hh10, rfl, rfl,
      fun A s B h => by cases A <;> cases h⟩
  | cons s0 l =>
    obtain ⟨fs, ha, _⟩ := (hsegs s0 (by simp)).toN
    obtain ⟨m, h1, h2, h3, h4, _⟩ := parse_dict_segsN ha t8 t9 t35 t10 (s0 :: l) post hw8 hw9 hw35 hw10 h8 h9 h35 h10 hv
      (fun s hs => by
        -- every run brings the same field list (`AppMsg` is functional)
        obtain ⟨fs', ⟨msgs', hap', hfs'⟩, hs'⟩ := (hsegs s hs).toN
        obtain ⟨msgs, hap, hfs⟩ := ha
        rw [hap] at hap'; injection hap' with e; subst e
        rw [hfs] at hfs'; injection hfs' with e; subst e
        exact hs') hpost hh10 hbl
    exact ⟨m, h1, h2, h3, h4⟩

end Qfx
