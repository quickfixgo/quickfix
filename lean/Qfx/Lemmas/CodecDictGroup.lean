/- C11/C13 with the application dictionary: what every level of description shares — the MsgType lookup that `parseGroup` repeats at every
   field (`MTInv`), plain fields around groups, the simplest descriptions of a group, and what the unchanged `parseGroup` does behind a nested
   group (D6).  The walk of `parseGroup` itself is in CodecDictStack, the loop in CodecLoop.
   `FlatGroup` and `NestedGroup` are the cases of `WalkN` on one and two levels; `C13_dict_flat_group_*` and
   `C13_dict_nested_group_mid` are stated in them. -/
import Qfx.Lemmas.CodecParseMsg
import Qfx.Lemmas.CodecWire
import Qfx.Lemmas.CodecGroupNested
namespace Qfx
open Qfx.Spec

variable {d : Dicts}

/-- `G` is a repeating group of message type `mt` whose member list `C` has no nested groups -/
structure FlatGroup (d : Dicts) (mt : Bytes) (G : Tag) (C : List DNode) : Prop where
  defd : ∃ msgs fs n, d.app = some msgs ∧ alFindB msgs mt = some fs ∧ dfind fs G = some n ∧ n.children = C
  ne : C.isEmpty = false
  leaves : ∀ n ∈ C, n.children.isEmpty = true

/-- the MsgType lookup is stable: header 35 is the third field of the array -/
def MTInv (fields : List TagValue) (hd : FieldMap) (t35 : TagValue) : Prop :=
  alFind hd.lookup 35 = some (.view 2 1) ∧ fields[2]? = some t35

theorem MTInv.getBytes {fields : List TagValue} {hd : FieldMap} {t35 : TagValue} (h : MTInv fields hd t35) :
    hd.getBytes fields 35 = .ok t35.value := getBytes_view hd fields 35 2 t35 h.1 h.2

theorem MTInv.set {fields : List TagValue} {hd : FieldMap} {t35 : TagValue} (h : MTInv fields hd t35) (i : Nat) (tv : TagValue)
    (hi : 3 ≤ i) : MTInv (fields.set i tv) hd t35 :=
  ⟨h.1, by rw [List.getElem?_set_ne (by omega)]; exact h.2⟩

theorem MTInv.add {fields : List TagValue} {hd : FieldMap} {t35 : TagValue} (h : MTInv fields hd t35) (t : Tag) (f : Field)
    (ht : t ≠ 35) : MTInv fields (hd.add t f) t35 :=
  ⟨(hd.find_add_other t f ht).trans h.1, h.2⟩

/-- what `dfind` finds is a node of the list that carries the tag -/
theorem dfind_some {C : List DNode} {t : Tag} {n : DNode} (h : dfind C t = some n) : n ∈ C ∧ n.tag = t := by
  -- `dfind` looks further on first: case2 found further on, case3 the head
  fun_induction dfind C t with
  | case1 => cases h
  | case2 x r _ y hr ih => cases h; exact ⟨List.mem_cons_of_mem _ (ih hr).1, (ih hr).2⟩
  | case3 x r => cases h; exact ⟨List.mem_cons_self .., rfl⟩
  | case4 => cases h

theorem dfind_mem (C : List DNode) (t : Tag) (n : DNode) (hf : dfind C t = some n) : n ∈ C := (dfind_some hf).1

theorem dfind_leaf_none (C : List DNode) (hl : ∀ n ∈ C, n.children.isEmpty = true) (t : Tag) : pathWalk C [t] = none := by
  unfold pathWalk
  cases hf : dfind C t with
  | none => rfl
  | some n => simp [hl n (dfind_mem C t n hf)]

theorem dfind_isMember (C : List DNode) (t : Tag) (n : DNode) (h : dfind C t = some n) : isGroupMember t C = true :=
  List.any_eq_true.2 ⟨n, (dfind_some h).1, by simp [(dfind_some h).2]⟩

/-- plain fields around groups: wire form, none of the tags the loop treats specially, not the count field of a group -/
def PlainFields (d : Dicts) (l : List TagValue) : Prop :=
  ∀ tv ∈ l, IsWire tv ∧ tv.tag ≠ 10 ∧ tv.tag ≠ 212 ∧ tv.tag ≠ 9 ∧ tv.tag ≠ 35 ∧ NoGroupTag d tv.tag

theorem PlainFields.cons {x : TagValue} {l : List TagValue} (h : PlainFields d (x :: l)) : PlainFields d [x] ∧ PlainFields d l :=
  ⟨fun tv hx => h tv (by rw [List.mem_singleton.1 hx]; simp), fun tv hx => h tv (by simp [hx])⟩

theorem isGroupMember_iff (t : Tag) (C : List DNode) : isGroupMember t C = true ↔ t ∈ C.map DNode.tag := by
  simp only [isGroupMember, List.any_eq_true, decide_eq_true_eq, List.mem_map]

theorem serEntry_canon (e : List (Tag × Bytes)) (h : ∀ p ∈ e, inInt64 p.1 ∧ ∀ c ∈ p.2, c ≠ SOH) : ∀ tv ∈ serEntry e, CanonTV tv := by
  intro tv htv
  simp only [serEntry, List.mem_map] at htv
  obtain ⟨p, hp, rfl⟩ := htv
  exact canon_init p.1 p.2 (h p hp).2 (h p hp).1

theorem not_isGroupMember {t : Tag} {C : List DNode} (h : t ∉ C.map DNode.tag) : isGroupMember t C = false := by
  cases hc : isGroupMember t C with
  | false => rfl
  | true => exact absurd ((isGroupMember_iff _ _).1 hc) h

theorem countTV_isWire (G : Tag) (n : Nat) (hGi : inInt64 G) : IsWire (countTV G n) :=
  canonTV_isWire _ (canon_init G _ (fun c hc => by
    have := (isDigit_iff c).1 (List.all_eq_true.1 (fmtNat_all_digits n) c hc)
    unfold SOH; omega) hGi)

theorem entries_members {C : List DNode} {d0 : Tag} {ts : List Tag} (hC : C.map DNode.tag = d0 :: ts) (es : List (List (Tag × Bytes)))
    (hes : ∀ e ∈ es, EntryOK d0 (d0 :: ts) e) (hval : ∀ e ∈ es, ∀ p ∈ e, inInt64 p.1 ∧ ∀ c ∈ p.2, c ≠ SOH) :
    ∀ tv ∈ es.flatMap serEntry, IsWire tv ∧ isGroupMember tv.tag C = true := by
  intro tv htv
  obtain ⟨e, he, hm⟩ := List.mem_flatMap.1 htv
  refine ⟨canonTV_isWire tv (serEntry_canon e (hval e he) tv hm), ?_⟩
  simp only [serEntry, List.mem_map] at hm
  obtain ⟨p, hp, rfl⟩ := hm
  rw [isGroupMember_iff, hC]
  obtain ⟨v0, e', hee, he'⟩ := hes e he
  subst hee
  show p.1 ∈ d0 :: ts
  rcases List.mem_cons.1 hp with h | h
  · subst h; simp
  · exact (he' p h).2

theorem read_back_flat (rest : List TagValue) (G d0 : Tag) (ts : List Tag) (es : List (List (Tag × Bytes)))
    (hes : ∀ e ∈ es, EntryOK d0 (d0 :: ts) e) (hn : es.length < 9223372036854775808) (hrest : FollowerOK (d0 :: ts) rest) :
    getGroup (flatTmpl (d0 :: ts)) (countTV G es.length :: (es.flatMap serEntry ++ rest)) = .ok (readSpec rest es) := by
  simp only [getGroup, readGroup_flat G d0 ts rest hrest es hes hn _ (readFuel_cons_append _ _ _)]

theorem view_items_eq {L A X R : List TagValue} {i n : Nat} (hL : L = A ++ (X ++ R)) (hi : i = A.length) (hn : n = X.length) :
    (Field.view i n).items L = X := by
  subst hL hi hn
  simp only [Field.items, List.drop_left, List.take_left]

theorem view_full_eq {L A R : List TagValue} {i n : Nat} (hL : L = A ++ R) (hi : i = A.length) : (Field.view i n).full L = R := by
  subst hL hi
  simp only [Field.full, List.drop_left]

theorem getElem?_eq_mid {L A R : List TagValue} {x : TagValue} {i : Nat} (hL : L = A ++ x :: R) (hi : i = A.length) : L[i]? = some x := by
  subst hL hi
  simp

/-- `G` is a repeating group of message type `mt` with member list `C`, one of whose members, `N`, is a nested repeating group
    with member list `CN` (no further nesting) -/
structure NestedGroup (d : Dicts) (mt : Bytes) (G N : Tag) (C CN : List DNode) : Prop where
  defd : ∃ msgs fs nG nN, d.app = some msgs ∧ alFindB msgs mt = some fs ∧ dfind fs G = some nG ∧ nG.children = C ∧
    dfind C N = some nN ∧ nN.children = CN
  neC : C.isEmpty = false
  neN : CN.isEmpty = false
  leavesN : ∀ n ∈ CN, n.children.isEmpty = true

theorem nested_walks {mt : Bytes} {G N : Tag} {C CN : List DNode} (hg : NestedGroup d mt G N C CN) (fields : List TagValue)
    (hd : FieldMap) (t35 : TagValue) (hmt : MTInv fields hd t35) (hv : t35.value = mt) :
    isNumInGroupField d fields hd [G] = true ∧ getGroupFields d fields hd [G] = C := by
  obtain ⟨msgs, fs, nG, nN, hap, hfs, hnG, hcG, hnN, hcN⟩ := hg.defd
  have hmf : msgFields d fields hd = some fs := by simp only [msgFields, hap, hmt.getBytes, hv, hfs]
  have hne : nG.children.isEmpty = false := by rw [hcG]; exact hg.neC
  have hCne : C ≠ [] := by intro e; rw [e] at hg; exact absurd hg.neC (by simp)
  exact ⟨by simp [isNumInGroupField, hmf, pathWalk, hnG, hne], by simp [getGroupFields, hmf, pathWalk, hnG, hcG, hCne]⟩

/-- the two-level case of `grpSwitch_stack`, as `C13_fixed_behind_nested_group` states it -/
theorem grpSwitch_fixed_exits {mt : Bytes} {G N : Tag} {C CN : List DNode} (hg : NestedGroup d mt G N C CN)
    (fields : List TagValue) (idx j : Nat) (c : PCore) (tv g0 t35 : TagValue)
    (hmt : MTInv fields c.header t35) (hv : t35.value = mt) (hj : fields[j]? = some g0)
    (hmN : isGroupMember tv.tag CN = false) (hmC : isGroupMember tv.tag C = false)
    (hh : isHeaderField d tv.tag = false) (ht : isTrailerField d tv.tag = false) (hng : NoGroupTag d tv.tag) :
    grpSwitch Fixes.cur d fields idx tv j [G, N] CN c =
      .ok ({ c with trailerBytes := c.rawBytes, body := (c.body.add g0.tag (.view j (idx - j))).add tv.tag (.view idx 1) }, none) := by
  have hidxR : idxR fields j = .ok g0 := by simp [idxR, hj]
  obtain ⟨_, hgf⟩ := nested_walks hg fields c.header t35 hmt hv
  simp only [grpSwitch, hmN, hh, ht, isNum_false d _ _ tv.tag hng, Fixes.cur, if_true, Bool.false_eq_true, if_false,
    List.reverse_cons, List.reverse_nil, List.nil_append, List.cons_append, popToMember, hgf, hmC, addDm, hidxR]

theorem grpSwitch_fixed_parent_member {mt : Bytes} {G N : Tag} {C CN : List DNode} (hg : NestedGroup d mt G N C CN)
    (fields : List TagValue) (idx j : Nat) (c : PCore) (tv t35 : TagValue)
    (hmt : MTInv fields c.header t35) (hv : t35.value = mt)
    (hmN : isGroupMember tv.tag CN = false) (hmC : isGroupMember tv.tag C = true)
    (hleaf : isNumInGroupField d fields c.header [G, tv.tag] = false)
    (hh : isHeaderField d tv.tag = false) (ht : isTrailerField d tv.tag = false) (hng : NoGroupTag d tv.tag) :
    grpSwitch Fixes.cur d fields idx tv j [G, N] CN c = .ok ({ c with trailerBytes := c.rawBytes }, some (.grp j [G] C)) := by
  obtain ⟨_, hgf⟩ := nested_walks hg fields c.header t35 hmt hv
  simp only [grpSwitch, hmN, hh, ht, isNum_false d _ _ tv.tag hng, Fixes.cur, if_true, Bool.false_eq_true, if_false,
    List.reverse_cons, List.reverse_nil, List.nil_append, List.cons_append, popToMember, hgf, hmC, hleaf]

/-- the unchanged code (D6): behind a nested group every body field — member of an enclosing group or not — is kept inside
    the group ("belongs to the parent" was decided by asking whether the parent is a group): `Body.Has` is false for it -/
theorem grpSwitch_orig_swallows {mt : Bytes} {G N : Tag} {C CN : List DNode} (hg : NestedGroup d mt G N C CN)
    (fields : List TagValue) (idx j : Nat) (c : PCore) (tv t35 : TagValue)
    (hmt : MTInv fields c.header t35) (hv : t35.value = mt)
    (hmN : isGroupMember tv.tag CN = false)
    (hh : isHeaderField d tv.tag = false) (ht : isTrailerField d tv.tag = false) (hng : NoGroupTag d tv.tag) :
    grpSwitch Fixes.orig d fields idx tv j [G, N] CN c = .ok ({ c with trailerBytes := c.rawBytes }, some (.grp j [G, N] C)) := by
  obtain ⟨hnum, hgf⟩ := nested_walks hg fields c.header t35 hmt hv
  simp [grpSwitch, hmN, hh, ht, isNum_false d _ _ tv.tag hng, Fixes.orig, hnum, hgf]

end Qfx
