/-
  C08, the trace automaton seen from the session: its state folded over the observation log (`g8Of`), the observations it
  ignores (`silent`), the steps it does not see (`Sil s s'`: frame and queue kept, the log grown by silent observations), and
  what each sending primitive does to the queue and to that state (`SendOut`).
-/
import Qfx.Spec.SessionTypedC08
import Qfx.Lemmas.SessPrim
namespace Qfx.Sess
open Qfx

/-- one observation -/
def c8o (g : G8) (o : Obs) : G8 := c8Step g (.obs o)
/-- the automaton state at a point inside an event: `g0` is its state at the start of the event (behind the marker of a
    successful connect, `g8Start`); `step` clears the log first, so the log holds what this event has observed so far -/
def g8Of (g0 : G8) (s : Sess) : G8 := s.log.reverse.foldl c8o g0
/-- after the queue `q` has been written -/
def wr (g : G8) (q : List OutMsg) : G8 := q.foldl (fun g m => c8o g (.wire m)) g

/-! `c8Step` on each observation it looks at (by `rfl`): a proof about a clause of the automaton rewrites with one of these -/

theorem c8Step_connected (g : G8) :
    c8Step g .connected = { conn := true, fresh := true, sentLogout := false, handshake := false, cb := g.cb, notified := false,
                            ok := g.ok && !g.conn && !g.cb } := rfl

theorem c8o_wire (g : G8) (m : OutMsg) :
    c8o g (.wire m) = { g with fresh := false, sentLogout := g.sentLogout || m.kind == "5",
                               ok := g.ok && g.conn && (!g.fresh || m.kind == "A" || m.kind == "5")
                                     && (!appFirst m || (g.handshake && !g.sentLogout)) } := rfl

theorem c8o_fromApp (g : G8) (a : String) (t : Int) : c8o g (.fromApp a t) = { g with ok := g.ok && g.cb } := rfl
theorem c8o_onLogon (g : G8) : c8o g .onLogon = { g with cb := true, handshake := true } := rfl
theorem c8o_onLogout (g : G8) : c8o g .onLogout = { g with cb := false, notified := true, ok := g.ok && !g.notified } := rfl
theorem c8o_closed (g : G8) : c8o g .closed = { g with conn := false, ok := g.ok && !g.cb } := rfl

theorem g8Of_emit (g0 : G8) (s : Sess) (o : Obs) : g8Of g0 (s.emit o) = c8o (g8Of g0 s) o := foldLog_emit c8o g0 s o

def silent : Obs → Bool
  | .wire _ | .fromApp _ _ | .onLogon | .onLogout | .closed => false
  | _ => true

theorem c8o_silent (g : G8) (o : Obs) (h : silent o = true) : c8o g o = g := by
  cases o <;> simp_all [c8o, c8Step, silent]

theorem wr_append (g : G8) (a b : List OutMsg) : wr g (a ++ b) = wr (wr g a) b := by simp [wr, List.foldl_append]
theorem wr_nil (g : G8) : wr g [] = g := rfl
theorem wr_single (g : G8) (m : OutMsg) : wr g [m] = c8o g (.wire m) := rfl

structure Sil (s s' : Sess) : Prop where
  fr : Fr s s'
  q : s'.toSend = s.toSend
  log : LogBy silent s s'

theorem Sil.refl (s : Sess) : Sil s s := ⟨Fr.refl s, rfl, LogBy.refl _ s⟩
theorem Sil.trans {a b c : Sess} (h1 : Sil a b) (h2 : Sil b c) : Sil a c := ⟨h1.fr.trans h2.fr, h2.q.trans h1.q, h1.log.trans h2.log⟩
theorem Sil.g8 {s s' : Sess} (h : Sil s s') (g0 : G8) : g8Of g0 s' = g8Of g0 s := LogBy.fold c8o_silent h.log g0
theorem Sil.emit (s : Sess) (o : Obs) (h : silent o = true) : Sil s (s.emit o) := ⟨⟨rfl, rfl, rfl, rfl, rfl⟩, rfl, LogBy.emit s o h⟩
theorem Sil.of_eq {s s' : Sess} (h1 : Fr s s') (h2 : s'.toSend = s.toSend) (h3 : s'.log = s.log) : Sil s s' := ⟨h1, h2, LogBy.of_eq h3⟩

theorem Fr.setSt {s r : Sess} (h : Fr s r) (c : SState) : Fr (s.setSt c) (r.setSt c) := ⟨rfl, h.cfg, h.out, h.inbox, h.inboxOpen⟩
theorem Sil.setSt {s r : Sess} (h : Sil s r) (c : SState) : Sil (s.setSt c) (r.setSt c) := ⟨h.fr.setSt c, h.q, h.log⟩

theorem sil_setSentReset (s : Sess) (v : Bool) : Sil s (s.setSentReset v) := Sil.of_eq ⟨rfl, rfl, rfl, rfl, rfl⟩ rfl rfl
theorem sil_storeReset (s : Sess) : Sil s s.storeReset := ⟨⟨rfl, rfl, rfl, rfl, rfl⟩, rfl, [.reset], rfl, rfl⟩
/-- not silent (the queue is dropped), but the automaton sees nothing -/
theorem g8Of_dropAndReset (g0 : G8) (s : Sess) : g8Of g0 (dropAndReset s) = g8Of g0 s := (sil_storeReset (s.setToSend [])).g8 g0
theorem sil_incrTarget (s : Sess) : Sil s (incrTarget s) := ⟨⟨rfl, rfl, rfl, rfl, rfl⟩, rfl, [.incT], rfl, rfl⟩
theorem sil_persistOut (s : Sess) (seq : Int) (m : OutMsg) : Sil s (s.persistOut seq m) := by
  unfold Sess.persistOut
  split
  · exact ⟨⟨rfl, rfl, rfl, rfl, rfl⟩, rfl, [.saved seq m.kind (resendable m)], rfl, rfl⟩
  · exact ⟨⟨rfl, rfl, rfl, rfl, rfl⟩, rfl, [.incS], rfl, rfl⟩
theorem sil_prepBase (s : Sess) (m : OutMsg) : Sil s (prepBase s m) := by
  unfold prepBase
  split
  · exact (sil_storeReset s).trans (sil_setSentReset _ true)
  · exact Sil.refl s

theorem sendQueued_spec (g0 : G8) (s : Sess) :
    Fr s (sendQueued s) ∧
    (if s.out = true then (sendQueued s).toSend = [] ∧ g8Of g0 (sendQueued s) = wr (g8Of g0 s) s.toSend
     else sendQueued s = s) := by
  unfold sendQueued
  split
  · rename_i h
    refine ⟨⟨rfl, rfl, rfl, rfl, rfl⟩, ?_⟩
    simp only [h, true_and]
    simp [g8Of, wr, List.foldl_append, List.foldl_map]
  · exact ⟨Fr.refl s, by simp⟩

/-- `s` is the session a send started from, `x` what silent steps have made of it -/
theorem sendQueued_after (g0 : G8) {s x : Sess} (hfr : Fr s x) (hg : g8Of g0 x = g8Of g0 s) :
    Fr s (sendQueued x) ∧
    (if s.out then (sendQueued x).toSend = [] ∧ g8Of g0 (sendQueued x) = wr (g8Of g0 s) x.toSend
     else (sendQueued x).toSend = x.toSend ∧ g8Of g0 (sendQueued x) = g8Of g0 s) := by
  obtain ⟨h1, h2⟩ := sendQueued_spec g0 x
  refine ⟨hfr.trans h1, ?_⟩
  rw [hfr.out] at h2
  cases hout : s.out
  · rw [hout] at h2
    simp only [Bool.false_eq_true, if_false] at h2 ⊢
    rw [h2]; exact ⟨rfl, hg⟩
  · rw [hout] at h2
    simp only [if_true] at h2 ⊢
    exact ⟨h2.1, by rw [h2.2, hg]⟩

/-- outcome of a send: `refused` by the application (nothing but silent observations), or `sent`: the message went through
    `prep` as `m'` (same kind and fields, numbered); a primitive that writes now (`writes`) leaves the queue empty and the
    automaton has seen `kept ++ [m']`, one that does not leaves `m'` queued behind `kept` and the automaton where it was -/
inductive SendOut (g0 : G8) (s r : Sess) (m : OutMsg) (kept : List OutMsg) (writes : Bool) : Prop
  | refused (h : Sil s r) (hna : isAdminKind m.kind = false)
  | sent (m' : OutMsg) (hk : m'.kind = m.kind) (hf : m'.f = m.f) (fr : Fr s r)
      (h : if writes then r.toSend = [] ∧ g8Of g0 r = wr (g8Of g0 s) (kept ++ [m'])
           else r.toSend = kept ++ [m'] ∧ g8Of g0 r = g8Of g0 s)

theorem SendOut.fr {g0 : G8} {s r : Sess} {m : OutMsg} {kept : List OutMsg} {w : Bool} (h : SendOut g0 s r m kept w) : Fr s r := by
  cases h with
  | refused h _ => exact h.fr
  | sent _ _ _ fr _ => exact fr

theorem SendOut.sent_of_admin {g0 : G8} {s r : Sess} {m : OutMsg} {kept : List OutMsg} {w : Bool} (h : SendOut g0 s r m kept w)
    (hadm : isAdminKind m.kind = true) :
    ∃ m', m'.kind = m.kind ∧ (if w then r.toSend = [] ∧ g8Of g0 r = wr (g8Of g0 s) (kept ++ [m'])
                               else r.toSend = kept ++ [m'] ∧ g8Of g0 r = g8Of g0 s) := by
  cases h with
  | refused _ hna => rw [hadm] at hna; cases hna
  | sent m' hk _ _ h => exact ⟨m', hk, h⟩

theorem SendOut.congr_msg {g0 : G8} {s r : Sess} {m1 m2 : OutMsg} {kept : List OutMsg} {w : Bool}
    (h : SendOut g0 s r m1 kept w) (hk : m1.kind = m2.kind) (hf : m1.f = m2.f) : SendOut g0 s r m2 kept w := by
  cases h with
  | refused h hna => exact .refused h (hk ▸ hna)
  | sent m' hk' hf' fr h => exact .sent m' (hk'.trans hk) (hf'.trans hf) fr h

/-- the right-hand sides of `queueForSend_eq` (`w = false`), `dropAndSend_eq` and `sendInReplyTo_eq` (`w = true`) at once -/
theorem SendOut.filed (g0 : G8) (s : Sess) (m : OutMsg) (q : List OutMsg) (w : Bool) :
    SendOut g0 s (if appRefuses m then s else
        bif w then sendQueued ((prepBase s m).filed q (outgoing s m)) else (prepBase s m).filed q (outgoing s m)) m q (w && s.out) := by
  split
  · rename_i h
    refine .refused (Sil.refl s) ?_
    cases hk : isAdminKind m.kind
    · rfl
    · unfold appRefuses at h; rw [hk] at h; cases h
  · unfold Sess.filed
    have hx := (sil_prepBase s m).trans (sil_persistOut _ (prepBase s m).store.sender (outgoing s m))
    generalize (prepBase s m).persistOut (prepBase s m).store.sender (outgoing s m) = x at hx
    have hfr : Fr s (x.setToSend (q ++ [outgoing s m])) := hx.fr.trans ⟨rfl, rfl, rfl, rfl, rfl⟩
    cases w
    · exact .sent (outgoing s m) rfl rfl hfr ⟨rfl, hx.g8 g0⟩
    · obtain ⟨f, hq⟩ := sendQueued_after g0 hfr (hx.g8 g0)
      exact .sent (outgoing s m) rfl rfl f hq

theorem queueForSend_spec (g0 : G8) (s : Sess) (m : OutMsg) : SendOut g0 s (queueForSend s m) m s.toSend false := by
  rw [queueForSend_eq]; exact SendOut.filed g0 s m s.toSend false

theorem dropAndSend_spec (g0 : G8) (s : Sess) (m : OutMsg) : SendOut g0 s (dropAndSend s m) m [] s.out := by
  rw [dropAndSend_eq]; exact SendOut.filed g0 s m [] true

theorem sendInReplyTo_spec (g0 : G8) (s : Sess) (m : OutMsg) :
    SendOut g0 s (sendInReplyTo s m) m s.toSend (s.st.loggedOn && s.out) := by
  rw [sendInReplyTo_eq]
  cases s.st.loggedOn
  · rw [if_pos (show (!false) = true from rfl)]
    exact (queueForSend_spec g0 s m.asNew).congr_msg rfl rfl
  · rw [if_neg (show ¬ (!true) = true from Bool.false_ne_true)]
    exact SendOut.filed g0 s m s.toSend true

theorem enqueueAndSend_spec (g0 : G8) (s : Sess) (m : OutMsg) :
    SendOut g0 s (enqueueAndSend s m) m s.keptQueue s.out := by
  have e : enqueueAndSend s m = sendQueued (s.setToSend (s.keptQueue ++ [m])) := by
    unfold enqueueAndSend Sess.keptQueue; cases s.st.loggedOn <;> rfl
  rw [e]
  obtain ⟨f, hq⟩ := sendQueued_after g0 (s := s) (x := s.setToSend (s.keptQueue ++ [m])) ⟨rfl, rfl, rfl, rfl, rfl⟩ rfl
  exact .sent m rfl rfl f hq

end Qfx.Sess
