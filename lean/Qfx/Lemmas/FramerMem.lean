/- C12_array_level: the buffer primitives of Qfx.Model.Framer (`grow`, `fill`, re-slicing) are the images under `M.toP` of the
   array-level primitives of Qfx.Model.FramerMem; then the whole array-level parser is simulated by the model stage by stage (`Sim`, composed by `Sim.bind`),
   by the inductions of `findIdxM` (`findIdxM_sim`) and `runGM` (`runGM_eq`) themselves. -/
import Qfx.Model.FramerMem
import Qfx.Lemmas.Framer
namespace Qfx.Framer
open Qfx

/-- the window lies inside the array (what `M.toP` needs to be an image: `spare` is then the room behind the window) -/
def M.Inv (m : M) : Prop := m.lo + m.len ≤ m.mem.length

theorem window_mk (mem : Bytes) (lo len : Nat) (rd : Reader) :
    M.window ⟨mem, lo, len, rd⟩ = (mem.drop lo).take len := rfl

theorem M.window_length (m : M) (h : m.Inv) : m.window.length = m.len := by
  unfold M.window M.Inv at *
  simp only [List.length_take, List.length_drop]; omega

/-- the bridge from the array-level invariant to the model's: whatever `Lemmas/Framer.lean` shows under `Framer.Inv` holds of `m.toP` -/
theorem M.toP_inv (m : M) (h : m.Inv) : Framer.Inv m.toP := by
  unfold Framer.Inv M.toP
  simp only [M.window_length m h]
  unfold M.Inv at h; omega

/-- a window `w` copied to the front of a new array `w ++ t` -/
theorem toP_front (w t : Bytes) (len : Nat) (rd : Reader) (hw : w.length = len) :
    M.toP ⟨w ++ t, 0, len, rd⟩ = ⟨len + t.length, w, t.length, rd⟩ ∧ M.Inv ⟨w ++ t, 0, len, rd⟩ := by
  subst hw
  refine ⟨?_, by simp only [M.Inv, List.length_append]; omega⟩
  simp only [M.toP, window_mk, List.drop_zero, List.take_left' rfl, List.length_append, P.mk.injEq, true_and, and_true]
  omega

/-- shifting to the front / reallocating keeps the bytes of the window -/
theorem growM_toP (m : M) (h : m.Inv) : (growM m).toP = grow m.toP ∧ (growM m).Inv := by
  have hw := M.window_length m h
  unfold M.Inv at h
  obtain ⟨mem, lo, len, rd⟩ := m
  unfold growM grow
  simp only [M.toP, hw] at h ⊢
  by_cases hs : mem.length - lo - len = 0
  · simp only [hs, if_true]
    by_cases hb : mem.length = 0
    · simp only [hb, if_true]
      refine ⟨?_, by simp [M.Inv]⟩
      simp only [window_mk, List.length_replicate, P.mk.injEq, List.take_zero, true_and]
      exact ⟨by omega, trivial⟩
    · simp only [hb, if_false]
      by_cases h2 : 2 * len ≤ mem.length
      · simp only [h2, if_true]
        obtain ⟨e, i⟩ := toP_front (M.window ⟨mem, lo, len, rd⟩) (mem.drop len) len rd hw
        refine ⟨e.trans ?_, i⟩
        rw [List.length_drop]
        simp only [P.mk.injEq, and_true]
        omega
      · simp only [h2, if_false]
        obtain ⟨e, i⟩ := toP_front (M.window ⟨mem, lo, len, rd⟩) (List.replicate len 0) len rd hw
        refine ⟨e.trans ?_, i⟩
        rw [List.length_replicate]
        simp only [P.mk.injEq, and_true]
        omega
  · simp only [hs, if_false]
    exact ⟨trivial, h⟩

theorem length_splice {α} (l x : List α) (k : Nat) (h : k + x.length ≤ l.length) :
    (l.take k ++ x ++ l.drop (k + x.length)).length = l.length := by
  simp only [List.length_append, List.length_take, List.length_drop]; omega

/-- the read lands behind the window (`buffer[len:cap]`) and extends it; the window's bytes are untouched -/
theorem fillM_toP (m : M) (h : m.Inv) :
    match fillM m with
    | .ok (n, e, m') => fill m.toP = .ok (n, e, m'.toP) ∧ m'.Inv
    | .err x => fill m.toP = .err x
    | .fault w => fill m.toP = .fault w := by
  have hw := M.window_length m h
  unfold M.Inv at h
  obtain ⟨mem, lo, len, rd⟩ := m
  unfold fillM fill
  simp only [M.toP] at h hw ⊢
  by_cases hr : mem.length - lo - len = 0
  · simp only [hr, if_true]
  · simp only [hr, if_false]
    obtain ⟨_, hle, _⟩ := read_spec rd (mem.length - lo - len) (Nat.pos_of_ne_zero hr)
    generalize rd.read (mem.length - lo - len) = r at hle
    have hfit : lo + len + r.1.length ≤ mem.length := by omega
    have hl := length_splice mem r.1 (lo + len) hfit
    refine ⟨?_, by simp only [M.Inv, hl]; omega⟩
    have hwin : (List.drop lo (mem.take (lo + len) ++ r.1 ++ mem.drop (lo + len + r.1.length))).take
        (len + r.1.length) = M.window ⟨mem, lo, len, rd⟩ ++ r.1 := by
      have e1 : mem.take (lo + len) = mem.take lo ++ M.window ⟨mem, lo, len, rd⟩ := by
        rw [List.take_add]; rfl
      rw [e1, List.append_assoc, List.append_assoc]
      have hlo : (mem.take lo).length = lo := by simp only [List.length_take]; omega
      rw [List.drop_left' hlo, ← List.append_assoc]
      exact List.take_left' (by simp only [List.length_append, hw])
    simp only [window_mk, hl, hwin, Res.ok.injEq, Prod.mk.injEq, P.mk.injEq, true_and]
    exact ⟨by omega, trivial⟩

theorem sliceM_toP (k : Nat) (m : M) (h : m.Inv) (hk : k ≤ m.len) :
    (sliceM k m).toP = { m.toP with buf := m.toP.buf.drop k } ∧ (sliceM k m).Inv := by
  unfold M.Inv at h
  refine ⟨?_, by simp only [sliceM, M.Inv]; omega⟩
  simp only [sliceM, M.toP, M.window, P.mk.injEq, true_and]
  refine ⟨?_, ?_⟩
  · rw [List.drop_take, List.drop_drop]
  · exact ⟨by omega, trivial⟩

theorem readMoreM_toP (m : M) (h : m.Inv) :
    match fillM (growM m) with
    | .ok (n, e, m') => readMore m.toP = .ok (n, e, m'.toP) ∧ m'.Inv
    | .err x => readMore m.toP = .err x
    | .fault w => readMore m.toP = .fault w := by
  obtain ⟨e, hi⟩ := growM_toP m h
  unfold readMore
  rw [← e]
  exact fillM_toP (growM m) hi

/-- `r` (array level) is matched by `q` (model level): same value / error / fault, states related by `toP` -/
def Sim {α : Type} (r : Res (α × M)) (q : Res (α × P)) : Prop :=
  match r with
  | .ok (a, m') => q = .ok (a, m'.toP) ∧ m'.Inv
  | .err x => q = .err x
  | .fault w => q = .fault w

theorem M.toP_len (m : M) (h : m.Inv) : m.toP.buf.length = m.len := M.window_length m h

/-- the refill step of `findIdx` on the image of `m`, by what `readMoreM m` returns -/
theorem moreThen_toP (off : Nat) (d : Bytes) (m : M) (h : m.Inv) :
    match readMoreM m with
    | .ok (n, e, m') => m'.Inv ∧ moreThen off d m.toP = if n = 0 ∧ e = true then .err m.rd.endErr else findIdx off d m'.toP
    | .err x => moreThen off d m.toP = .err x
    | .fault w => moreThen off d m.toP = .fault w := by
  have hs := readMoreM_toP m h
  unfold moreThen readMoreM
  cases hr : fillM (growM m) with
  | ok v => rw [hr] at hs; exact ⟨hs.2, by rw [hs.1]; rfl⟩
  | err x | fault x => rw [hr] at hs; rw [(hs : _ = _)]

theorem findIdxM_sim (off : Nat) (d : Bytes) (m : M) (h : m.Inv) :
    Sim (findIdxM off d m) (findIdx off d m.toP) := by
  have hm := moreThen_toP off d m h
  rw [findIdx_eq, M.toP_len m h, show m.toP.buf = m.window from rfl]
  -- the cases of `findIdxM` decide the same tests on the model side; `hm` says what its refill does there (leaves as at `findIdx_spec`)
  fun_induction findIdxM off d m with
  | case1 m hgt n e m' hrm hne => rw [hrm] at hm; rw [if_pos hgt, hm.2, if_pos hne]; rfl
  | case2 m hgt n e m' hrm hne ih =>
    rw [hrm] at hm; rw [if_pos hgt, hm.2, if_neg hne, findIdx_eq, M.toP_len m' hm.1]
    exact ih hm.1 (moreThen_toP off d m' hm.1)
  | case3 m hgt x hrm | case4 m hgt x hrm => rw [hrm] at hm; rw [if_pos hgt, (hm : _ = _)]; rfl
  | case5 m hle i hidx => rw [if_neg hle, hidx]; exact ⟨rfl, h⟩
  | case6 m hle hidx n e m' hrm hne => rw [hrm] at hm; rw [if_neg hle, hidx, hm.2, if_pos hne]; rfl
  | case7 m hle hidx n e m' hrm hne ih =>
    rw [hrm] at hm; rw [if_neg hle, hidx, hm.2, if_neg hne, findIdx_eq, M.toP_len m' hm.1]
    exact ih hm.1 (moreThen_toP off d m' hm.1)
  | case8 m hle hidx x hrm | case9 m hle hidx x hrm => rw [hrm] at hm; rw [if_neg hle, hidx, (hm : _ = _)]; rfl

theorem findIndexAfterOffsetM_sim (offset : Int) (d : Bytes) (m : M) (h : m.Inv) :
    Sim (findIndexAfterOffsetM offset d m) (findIndexAfterOffset offset d m.toP) := by
  unfold findIndexAfterOffsetM findIndexAfterOffset
  by_cases hneg : offset < 0
  · simp only [hneg, if_true]; rfl
  · simp only [hneg, if_false]; exact findIdxM_sim _ d m h

/-- A stage of either parser hands value and state on through `match r with | .ok (a, m') => … | .err x => .err x | .fault w => .fault w`:
    if the stages are related, and the continuations are on related states, so are the wholes.
    The rule names the parsers' own stage matchers instead of writing `match … with`: each parser has exactly two (this one for the stages that
    return an offset, the one of `Sim.bindI` for `jumpLength`, which returns an `Int`), shared by all its functions, and a `match` written here
    would be compiled to a matcher of its own, with which their unfolded bodies do not unify.
    Use: `refine Sim.bind (stage lemma) fun a m' i => ?_` against the goal `Sim (fM …) (f …)` as it stands: unfolded, the two functions are
    applications of the two matchers, and `refine` sees that by definitional unfolding; what remains is the continuation on related
    states (see `jumpLengthGM_sim`).
    A matcher is named after the first function of its file that matches on that type; reordering the model's definitions renames it. -/
theorem Sim.bind {β : Type} {r : Res (Nat × M)} {q : Res (Nat × P)} (s : Sim r q)
    {KM : Nat → M → Res (β × M)} {KP : Nat → P → Res (β × P)}
    (hk : ∀ (a : Nat) (m' : M), m'.Inv → Sim (KM a m') (KP a m'.toP)) :
    Sim (findEndAfterOffsetM.match_1 (fun _ => Res (β × M)) r KM (fun x => .err x) (fun w => .fault w))
        (findEndAfterOffset.match_1 (fun _ => Res (β × P)) q KP (fun x => .err x) (fun w => .fault w)) := by
  cases r with
  | ok v => obtain ⟨a, m'⟩ := v; obtain ⟨rfl, i⟩ := s; exact hk a m' i
  | err x | fault x => cases s; rfl

theorem Sim.bindI {β : Type} {r : Res (Int × M)} {q : Res (Int × P)} (s : Sim r q)
    {KM : Int → M → Res (β × M)} {KP : Int → P → Res (β × P)}
    (hk : ∀ (a : Int) (m' : M), m'.Inv → Sim (KM a m') (KP a m'.toP)) :
    Sim (readMessageGM.match_1 (fun _ => Res (β × M)) r KM (fun x => .err x) (fun w => .fault w))
        (readMessageG.match_1 (fun _ => Res (β × P)) q KP (fun x => .err x) (fun w => .fault w)) := by
  cases r with
  | ok v => obtain ⟨a, m'⟩ := v; obtain ⟨rfl, i⟩ := s; exact hk a m' i
  | err x | fault x => cases s; rfl

theorem Sim.ite {α : Type} {c : Prop} [Decidable c] {a b : Res (α × M)} {a' b' : Res (α × P)}
    (ha : c → Sim a a') (hb : ¬ c → Sim b b') : Sim (if c then a else b) (if c then a' else b') := by
  split
  · exact ha ‹_›
  · exact hb ‹_›

theorem findEndAfterOffsetM_sim (offset : Int) (m : M) (h : m.Inv) :
    Sim (findEndAfterOffsetM offset m) (findEndAfterOffset offset m.toP) :=
  Sim.bind (findIndexAfterOffsetM_sim offset dCk m h) fun _ m1 i1 =>
    Sim.bind (findIndexAfterOffsetM_sim _ dSOH m1 i1) fun _ _ i2 => ⟨rfl, i2⟩

theorem jumpLengthGM_sim (g : Bool) (m : M) (h : m.Inv) :
    Sim (jumpLengthGM g m) (jumpLengthG g m.toP) := by
  refine Sim.bind (findIndexAfterOffsetM_sim 0 dLen m h) fun li m1 i1 => ?_
  refine Sim.bind (findIndexAfterOffsetM_sim _ dSOH m1 i1) fun offset m2 i2 => ?_
  -- from here on both sides are the same decisions on the same bytes
  rw [M.toP_len m2 i2, show m2.toP.buf = m2.window from rfl]
  refine Sim.ite (fun _ => rfl) fun _ => Sim.ite (fun _ => rfl) fun _ => ?_
  cases atoi (List.drop (li + 3) (List.take offset m2.window)) with
  | ok n => exact Sim.ite (fun _ => rfl) fun _ => Sim.ite (fun _ => rfl) fun _ => ⟨rfl, i2⟩
  | err x | fault x => rfl

theorem readMessageGM_sim (g : Bool) (m : M) (h : m.Inv) :
    Sim (readMessageGM g m) (readMessageG g m.toP) := by
  refine Sim.bind (findIndexAfterOffsetM_sim 0 dBegin m h) fun start m1 i1 => ?_
  rw [M.toP_len m1 i1]
  refine Sim.ite (fun _ => rfl) fun hst => ?_
  obtain ⟨e2, i2⟩ := sliceM_toP start m1 i1 (by omega)
  rw [← e2]
  refine Sim.bindI (jumpLengthGM_sim g _ i2) fun index m3 i3 => ?_
  refine Sim.bind (findEndAfterOffsetM_sim index m3 i3) fun index' m4 i4 => ?_
  rw [M.toP_len m4 i4]
  refine Sim.ite (fun _ => rfl) fun hidx => ?_
  obtain ⟨e5, i5⟩ := sliceM_toP index' m4 i4 (by omega)
  rw [← e5]
  exact ⟨rfl, i5⟩

theorem M.toP_weight (m : M) (h : m.Inv) : m.toP.weight = m.weight := by
  unfold P.weight M.weight
  rw [M.toP_len m h]; rfl

theorem runGM_eq (g : Bool) (m : M) (h : m.Inv) : runGM g m = runG g m.toP := by
  have s := readMessageGM_sim g m h
  rw [runG_unfold]
  fun_induction runGM g m with
  | case1 m fr m' r hlt o ih =>
    rw [r] at s
    rw [s.1]
    simp only [o]
    rw [ih s.2 (readMessageGM_sim g m' s.2), ← runG_unfold]
  | case2 m fr m' r hnlt =>
    -- the `no progress` guard does not fire: the model's `ReadMessage` lowers the weight
    rw [r] at s
    have := readMessageG_weight s.1
    rw [M.toP_weight m h, M.toP_weight m' s.2] at this
    exact absurd this hnlt
  | case3 m c r | case4 m c r => rw [r] at s; rw [(s : _ = _)]

theorem M.init_toP (rd : Reader) : (M.init rd).toP = P.init rd := by
  simp [M.init, M.toP, P.init, M.window]

theorem framesReadM_eq (rd : Reader) : framesReadM rd = framesRead rd := by
  unfold framesReadM framesRead framesReadG
  rw [runGM_eq true _ (by simp [M.Inv, M.init]), M.init_toP]

end Qfx.Framer
