/- C10/C13: the TagValue-level view of `write`, canonical TagValues, the invariant `Wired` (every TagValue held is canonical) of API call
   sequences, and `Frame`: the framed TagValue list with the BodyLength and CheckSum fields as functions of the rest — what a clean frame is
   for the parser (`Frame.wireMsg`) and as bytes (`Frame.bytes`).  `9223372036854775808` = 2^63 bounds the lengths that Go holds in an `int`. -/
import Qfx.Lemmas.Values
import Qfx.Lemmas.CodecBuild
import Qfx.Lemmas.CodecParse
namespace Qfx

/-- the TagValues `write` emits, in the order it emits them -/
def FieldMap.tvs (arr : List TagValue) (m : FieldMap) : List TagValue :=
  ((sortTags m.ord m.tags).filterMap (alFind m.lookup)).flatMap (Field.items arr)

theorem wireOf_flatMap_items (arr : List TagValue) (fs : List Field) :
    wireOf (fs.flatMap (Field.items arr)) = fs.flatMap (fieldBytes arr) := by
  induction fs with
  | nil => rfl
  | cons f r ih =>
    rw [List.flatMap_cons, List.flatMap_cons, wireOf_append, ih]
    rfl

theorem write_eq_wireOf (arr : List TagValue) (m : FieldMap) : (m.write arr).1 = wireOf (m.tvs arr) := by
  simp only [FieldMap.write, writeTags_eq_flatMap, FieldMap.tvs, wireOf_flatMap_items]

theorem fieldsLength_append (a b : List TagValue) : fieldsLength (a ++ b) = fieldsLength a + fieldsLength b := keptSum_append _ _ a b

theorem fieldsLength_framed (u8 u9 u10 : TagValue) (mid : List TagValue) (h8 : u8.tag = 8) (h9 : u9.tag = 9) (h10 : u10.tag = 10) :
    fieldsLength (u8 :: u9 :: (mid ++ [u10])) = fieldsLength mid := by
  have e : u8 :: u9 :: (mid ++ [u10]) = [u8, u9] ++ mid ++ [u10] := by simp
  rw [e, fieldsLength_append, fieldsLength_append]
  simp [fieldsLength, h8, h9, h10]

theorem FieldMap.sumOf_tvs {m : FieldMap} (h : FMInv m) (p : TagValue → Bool) (g : TagValue → Nat) (arr : List TagValue) :
    m.sumOf p g arr = keptSum p g (m.tvs arr) := by
  rw [FieldMap.tvs, keptSum_flatMap, ((written_fields_perm h).map (fun f => keptSum p g (f.items arr))).sum_nat, List.map_map]
  rfl

theorem length_eq_fieldsLength {m : FieldMap} (h : FMInv m) (arr : List TagValue) : m.length arr = fieldsLength (m.tvs arr) :=
  FieldMap.sumOf_tvs h _ TagValue.length arr

def fieldsTotal (l : List TagValue) : Nat := ((l.filter (fun tv => tv.tag ≠ 10)).map TagValue.total).sum

theorem fieldsTotal_append (a b : List TagValue) : fieldsTotal (a ++ b) = fieldsTotal a + fieldsTotal b := keptSum_append _ _ a b

theorem total_eq_fieldsTotal {m : FieldMap} (h : FMInv m) (arr : List TagValue) : m.total arr = fieldsTotal (m.tvs arr) :=
  FieldMap.sumOf_tvs h _ TagValue.total arr

theorem fieldsTotal_eq_sum (l : List TagValue) (h : ∀ tv ∈ l, tv.tag ≠ 10) : fieldsTotal l = (wireOf l).sum := by
  rw [wireOf, sum_flatMap_nat]; exact keptSum_all _ TagValue.total l (fun tv htv => by simpa using h tv htv)

/-- the CheckSum counterpart of `fieldsLength_framed`: `total` gives the byte sum in front of the CheckSum field -/
theorem fieldsTotal_framed (front : List TagValue) (u10 : TagValue) (h10 : u10.tag = 10) (h : ∀ tv ∈ front, tv.tag ≠ 10) :
    fieldsTotal (front ++ [u10]) = (wireOf front).sum := by
  rw [fieldsTotal_append, fieldsTotal_eq_sum front h]; simp [fieldsTotal, h10]

theorem fieldsLength_eq_len (l : List TagValue) (h : ∀ tv ∈ l, tv.tag ≠ 8 ∧ tv.tag ≠ 9 ∧ tv.tag ≠ 10) :
    fieldsLength l = (wireOf l).length := by
  rw [wireOf, List.length_flatMap]; exact keptSum_all _ TagValue.length l (fun tv htv => by simpa using h tv htv)

/-- a TagValue made by `init` from an int64 tag and a SOH-free value -/
def CanonTV (tv : TagValue) : Prop := tv = TagValue.init tv.tag tv.value ∧ (∀ c ∈ tv.value, c ≠ SOH) ∧ inInt64 tv.tag

/-- the bytes of a canonical TagValue: `<tag>=<value>␁` -/
theorem CanonTV.bytes {tv : TagValue} (h : CanonTV tv) : tv.bytes = fmtInt tv.tag ++ cEq :: (tv.value ++ [SOH]) := by
  have : tv.bytes = (TagValue.init tv.tag tv.value).bytes := by rw [← h.1]
  rw [this]; simp [TagValue.init]

theorem canonTV_isWire (tv : TagValue) (h : CanonTV tv) : IsWire tv :=
  ⟨fmtInt tv.tag, fmtInt_ne_nil _, fmtInt_chars _, atoi_fmtInt _ h.2.2, h.bytes, h.2.1⟩

theorem mem_tvs (arr : List TagValue) (m : FieldMap) (tv : TagValue) (h : tv ∈ m.tvs arr) :
    ∃ k f, alFind m.lookup k = some f ∧ tv ∈ f.items arr := by
  simp only [FieldMap.tvs, List.mem_flatMap, List.mem_filterMap] at h
  obtain ⟨f, ⟨k, _, hk⟩, htv⟩ := h
  exact ⟨k, f, hk, htv⟩

theorem tvs_of_tags (arr : List TagValue) (l : List (Tag × Field)) (ts : List Tag) (P : TagValue → Prop)
    (h : ∀ t ∈ ts, ∀ f, alFind l t = some f → ∀ tv ∈ f.items arr, P tv) :
    ∀ tv ∈ (ts.filterMap (alFind l)).flatMap (Field.items arr), P tv := by
  intro tv htv
  simp only [List.mem_flatMap, List.mem_filterMap] at htv
  obtain ⟨f, ⟨k, hk, hf⟩, hm⟩ := htv
  exact h k hk f hf tv hm

theorem SecProper.tvs_clean {s : Sec} {fm : FieldMap} (hp : SecProper s fm) (arr : List TagValue) (ts : List Tag)
    (hts : ∀ t ∈ ts, ∀ f, alFind fm.lookup t = some f → ¬ isSpecialTag t) :
    ∀ tv ∈ (ts.filterMap (alFind fm.lookup)).flatMap (Field.items arr), ¬ isSpecialTag tv.tag :=
  tvs_of_tags arr fm.lookup ts _ (fun t ht f hf => hp.clean arr t f hf (hts t ht f hf))

theorem body_tvs_clean {fm : FieldMap} (hp : SecProper .b fm) (arr : List TagValue) :
    ∀ tv ∈ fm.tvs arr, ¬ isSpecialTag tv.tag :=
  hp.tvs_clean arr _ (fun k _ f hf hk => by
    have := hp.key_special k f hf hk
    by_cases e : k = 10
    · exact absurd (this.1 e) (by decide)
    · exact absurd (this.2 e) (by decide))

/-- the header as a TagValue list: BeginString, BodyLength, then the MsgType field `tv35 :: more`, then the TagValues `others` of the
    fields under the other keys in ascending order — none of them tagged 8 / 9 / 10 -/
theorem header_tvs {fm : FieldMap} (hi : FMInv fm) (ho : fm.ord = .header) (hp : SecProper .h fm) (arr : List TagValue)
    (tv8 tv9 : TagValue) (f35 : Field) (h8 : alFind fm.lookup 8 = some (.owned [tv8]))
    (h9 : alFind fm.lookup 9 = some (.owned [tv9])) (h35 : alFind fm.lookup 35 = some f35) :
    ∃ tv35 more others, f35 = .owned (tv35 :: more) ∧ fm.tvs arr = tv8 :: tv9 :: tv35 :: (more ++ others) ∧ tv35.tag = 35 ∧
      (∀ tv ∈ more ++ others, ¬ isSpecialTag tv.tag) ∧
      (∀ tv ∈ others, ∃ k f, k ≠ 35 ∧ k ≠ 9 ∧ alFind fm.lookup k = some f ∧ tv ∈ f.items arr) := by
  have mem : ∀ k f, alFind fm.lookup k = some f → k ∈ fm.tags := by
    intro k f hf; rw [hi.same, mem_alKeys_iff, hf]; rfl
  have hs := header_sorted_decomp fm.tags hi.tagsNodup (mem 8 _ h8) (mem 9 _ h9) (mem 35 _ h35)
  have hns : ∀ t ∈ sortTags .normal (fm.tags.filter nonSpecial), t ≠ 8 ∧ t ≠ 9 ∧ t ≠ 35 := fun t ht =>
    (nonSpecial_iff t).1 (List.mem_filter.1 ((sortTags_perm _ _).mem_iff.1 ht)).2
  obtain ⟨l35, hl35⟩ := hp.owned 35 f35 h35
  subst hl35
  obtain ⟨tv35, more, hl, ht35⟩ := hp.head 35 l35 h35
  subst hl
  have c35 := hp.clean arr 35 _ h35 (by intro h; rcases h with e | e | e <;> exact absurd e (by decide))
  refine ⟨tv35, more, ((sortTags .normal (fm.tags.filter nonSpecial)).filterMap (alFind fm.lookup)).flatMap (Field.items arr),
    rfl, ?_, ht35, ?_, ?_⟩
  · simp only [FieldMap.tvs, ho, hs, List.filterMap_cons, h8, h9, h35, List.flatMap_cons, Field.items, List.cons_append,
      List.nil_append]
  · intro tv htv
    rcases List.mem_append.1 htv with hm | hm
    · exact c35 tv (List.mem_cons_of_mem _ hm)
    · refine hp.tvs_clean arr _ (fun t ht f hf => ?_) tv hm
      rintro (e | e | e)
      · exact (hns t ht).1 e
      · exact (hns t ht).2.1 e
      · exact absurd ((hp.key_special t f hf (Or.inr (Or.inr e))).1 e) (by decide)
  · exact tvs_of_tags arr fm.lookup _ _ fun k hk f hf tv hx => ⟨k, f, (hns k hk).2.2, (hns k hk).2.1, hf, hx⟩

theorem trailer_tvs {fm : FieldMap} (hi : FMInv fm) (ho : fm.ord = .trailer) (hp : SecProper .t fm) (arr : List TagValue)
    (tv10 : TagValue) (h10 : alFind fm.lookup 10 = some (.owned [tv10])) :
    ∃ front, fm.tvs arr = front ++ [tv10] ∧ (∀ tv ∈ front, ¬ isSpecialTag tv.tag) ∧
      ∀ tv ∈ front, ∃ k f, k ≠ 10 ∧ alFind fm.lookup k = some f ∧ tv ∈ f.items arr := by
  have mem10 : (10 : Int) ∈ fm.tags := by rw [hi.same, mem_alKeys_iff, h10]; rfl
  have hs := trailer_sorted_decomp fm.tags hi.tagsNodup mem10
  have hne : ∀ t ∈ sortTags .trailer (fm.tags.filter (fun t => t != 10)), t ≠ 10 := fun t ht => by
    simpa using (List.mem_filter.1 ((sortTags_perm _ _).mem_iff.1 ht)).2
  refine ⟨((sortTags .trailer (fm.tags.filter (fun t => t != 10))).filterMap (alFind fm.lookup)).flatMap (Field.items arr), ?_, ?_,
    tvs_of_tags arr fm.lookup _ _ fun k hk f hf tv hx => ⟨k, f, hne k hk, hf, hx⟩⟩
  · simp only [FieldMap.tvs, ho, hs, List.filterMap_append, List.filterMap_cons, h10, List.filterMap_nil, List.flatMap_append,
      List.flatMap_cons, List.flatMap_nil, Field.items, List.append_nil]
  · exact hp.tvs_clean arr _ fun t ht f hf hk => absurd ((hp.key_special t f hf hk).2 (hne t ht)) (by decide)

/-- every TagValue held by the section is canonical and not XMLDataLen (212 makes parser and scanner read the next field by its announced
    length: hence the side condition beside `CanonTV` everywhere) -/
def SecCanon (fm : FieldMap) : Prop := ∀ k l, alFind fm.lookup k = some (.owned l) → ∀ tv ∈ l, CanonTV tv ∧ tv.tag ≠ 212

theorem SecCanon.setGroup {fm : FieldMap} (h : SecCanon fm) (t : Tag) (tvs : List TagValue)
    (hc : ∀ tv ∈ tvs, CanonTV tv ∧ tv.tag ≠ 212) : SecCanon (fm.setGroup t tvs) := by
  intro k l hf x hx
  rcases alFind_insert_inv hf with ⟨_, e⟩ | hf
  · cases e; exact hc x hx
  · exact h k l hf x hx

theorem SecCanon.put {fm : FieldMap} (h : SecCanon fm) (tv : TagValue) (hc : CanonTV tv) (hx : tv.tag ≠ 212) :
    SecCanon (fm.put tv.tag (.owned [tv])) :=
  SecCanon.setGroup h tv.tag [tv] fun _ hxm => List.mem_singleton.1 hxm ▸ ⟨hc, hx⟩

theorem SecCanon.tvs {fm : FieldMap} (h : SecCanon fm) (ho : fm.allOwned) (arr : List TagValue) :
    ∀ tv ∈ fm.tvs arr, CanonTV tv ∧ tv.tag ≠ 212 := by
  intro tv htv
  obtain ⟨k, f, hf, hm⟩ := mem_tvs arr fm tv htv
  obtain ⟨l, hl⟩ := ho k f hf
  subst hl
  exact h k l hf tv hm

theorem canon_init (t : Tag) (v : Bytes) (hv : ∀ c ∈ v, c ≠ SOH) (ht : inInt64 t) : CanonTV (TagValue.init t v) :=
  ⟨rfl, hv, ht⟩

theorem canonTV_bodyLength (N : Nat) : CanonTV (TagValue.init 9 (fmtInt (N : Int))) :=
  canon_init 9 _ (fun c hc => (fmtInt_chars _ c hc).2) (by unfold inInt64; omega)

theorem canonTV_checkSum (C : Nat) : CanonTV (TagValue.init 10 (digitsW 3 C)) :=
  canon_init 10 _ (fun c hc e => digitsW_no 3 C SOH (by decide) (e ▸ hc)) (by unfold inInt64; omega)

theorem fieldsLength_le (l : List TagValue) : fieldsLength l ≤ (wireOf l).length := by
  rw [wireOf, List.length_flatMap]; exact keptSum_le _ TagValue.length l

/-- every TagValue the message holds is canonical (`SecCanon` on the three sections), so each is written as a wire field (`IsWire`) -/
structure Wired (m : Message) : Prop where
  ch : SecCanon m.header
  cb : SecCanon m.body
  ct : SecCanon m.trailer

theorem SecCanon.empty (o : OrdKind) : SecCanon (FieldMap.empty o) := by
  intro k l hf; simp [FieldMap.empty, alFind] at hf

theorem SecCanon.of_sub {fm fm' : FieldMap} (h : SecCanon fm)
    (hsub : ∀ k f, alFind fm'.lookup k = some f → alFind fm.lookup k = some f) : SecCanon fm' :=
  fun k l hf => h k l (hsub k _ hf)

theorem SecCanon.remove {fm : FieldMap} (h : SecCanon fm) (t : Tag) : SecCanon (fm.remove t) :=
  h.of_sub (alFind_remove_sub fm t)

theorem SecCanon.clear {fm : FieldMap} : SecCanon fm.clear := by
  intro k l hf; cases hf

theorem SecCanon.copy {fm : FieldMap} (h : SecCanon fm) (ho : fm.allOwned) (arr : List TagValue) : SecCanon (fm.copy arr) :=
  h.of_sub (alFind_copy_sub ho arr)

theorem Wired.new : Wired Message.new := ⟨SecCanon.empty _, SecCanon.empty _, SecCanon.empty _⟩

theorem Wired.sec {m : Message} (hw : Wired m) (s : Sec) : SecCanon (m.sec s) := by
  cases s
  · exact hw.ch
  · exact hw.cb
  · exact hw.ct

theorem Wired.withSec {m : Message} (hw : Wired m) (s : Sec) (fm : FieldMap) (hc : SecCanon fm) : Wired (m.withSec s fm) := by
  cases s
  · exact ⟨hc, hw.cb, hw.ct⟩
  · exact ⟨hw.ch, hc, hw.ct⟩
  · exact ⟨hw.ch, hw.cb, hc⟩

/-- tags are int64 and not XMLDataLen, values are SOH-free (typed setters write SOH-free text by construction) -/
def MOp.wire : MOp → Prop
  | .set _ t v => inInt64 t ∧ t ≠ 212 ∧ ∀ c ∈ v, c ≠ SOH
  | .setInt _ t _ => inInt64 t ∧ t ≠ 212
  | .setBool _ t _ => inInt64 t ∧ t ≠ 212
  | .setGroup _ t tm es => ∀ tvs, writeGroup t tm es = .ok tvs → ∀ tv ∈ tvs, CanonTV tv ∧ tv.tag ≠ 212
  | _ => True

theorem Wired.setBytes {m m' : Message} (hb : Built m) (hw : Wired m) (s : Sec) (t : Tag) (v : Bytes)
    (ht : inInt64 t) (hx : t ≠ 212) (hv : ∀ c ∈ v, c ≠ SOH) (h : m.setBytes Fixes.cur s t v = .ok m') : Wired m' := by
  rw [setBytes_built_form hb s t v h]
  exact hw.withSec s _ ((hw.sec s).put (TagValue.init t v) (canon_init t v hv ht) hx)

theorem Wired.build {m m' : Message} (hb : Built m) (hw : Wired m) (bytes : Bytes) (h : m.build Fixes.cur = .ok (bytes, m')) : Wired m' := by
  obtain ⟨m2, hcook, _, hm'⟩ := build_cook h
  obtain ⟨H', T', C, eH, _, eT, e2, _⟩ := cook_built hb _ _ hcook
  rw [hm', e2]
  exact ⟨by rw [eH]; exact hw.ch.put _ (canonTV_bodyLength _) (show (9 : Tag) ≠ 212 by decide), hw.cb,
         by rw [eT]; exact hw.ct.put _ (canonTV_checkSum C) (show (10 : Tag) ≠ 212 by decide)⟩

theorem MOp.apply_wired {m m' : Message} (hb : Built m) (hw : Wired m) (op : MOp) (hp : op.wire) (h : op.apply m = .ok m') : Wired m' := by
  revert h
  -- cases as in `MOp.apply_built`
  fun_cases MOp.apply m op with
  | case1 s t v => exact hw.setBytes hb s t v hp.1 hp.2.1 hp.2.2
  | case2 s t v => exact hw.setBytes hb s t _ hp.1 hp.2 (fun c hc => (fmtInt_chars _ c hc).2)
  | case3 s t v => exact hw.setBytes hb s t _ hp.1 hp.2 (by intro c hc; cases v <;> simp at hc <;> subst hc <;> decide)
  | case4 s t tm es => intro h; obtain ⟨W, hwg, rfl⟩ := setGroup_form h; exact hw.withSec s _ ((hw.sec s).setGroup t _ (hp _ hwg))
  | case5 s t =>
    intro h; cases h
    simp only [Message.remove, Fixes.cur, if_true]
    exact hw.withSec s _ ((hw.sec s).remove t)
  | case6 s => intro h; cases h; exact hw.withSec s _ SecCanon.clear
  | case7 =>
    intro h; simp only [Message.copy, copyFM, Fixes.cur, if_true] at h; cases h
    exact ⟨hw.ch.copy hb.ph.owned _, hw.cb.copy hb.pb.owned _, hw.ct.copy hb.pt.owned _⟩
  | case8 r hr => intro h; cases h; exact hw.build hb r.1 hr
  | _ => nofun

theorem runMOps_wired (ops : List MOp) : ∀ (m m' : Message), Built m → Wired m → (∀ op ∈ ops, op.proper ∧ op.wire) →
    runMOps ops m = .ok m' → Built m' ∧ Wired m' :=
  fun m m' hb hw => runMOps_induct (I := fun m => Built m ∧ Wired m)
    (fun op h hp ha => ⟨MOp.apply_built h.1 op hp.1 ha, MOp.apply_wired h.1 h.2 op hp.2 ha⟩) ops m m' ⟨hb, hw⟩

/-- from a sequence of API calls to the hypotheses of the frame lemmas (`build_frame`, `build_around`, `parse_built`): the two invariants,
    BeginString as a single owned TagValue, MsgType present -/
theorem runMOps_leading (ops : List MOp) (hp : ∀ op ∈ ops, op.proper ∧ op.wire) (m : Message) (hrun : runMOps ops Message.new = .ok m)
    (h8 : (alFind m.header.lookup 8).isSome = true) (h35 : (alFind m.header.lookup 35).isSome = true) :
    Built m ∧ Wired m ∧ ∃ tv f35, alFind m.header.lookup 8 = some (.owned [tv]) ∧ alFind m.header.lookup 35 = some f35 := by
  obtain ⟨hb, hw⟩ := runMOps_wired ops _ m Built.new Wired.new hp hrun
  obtain ⟨tv, hf8, _⟩ := hb.header8 h8
  obtain ⟨f35, hf35⟩ := Option.isSome_iff_exists.1 h35
  exact ⟨hb, hw, tv, f35, hf8, hf35⟩

/-! ## the framed TagValue list

`Frame`: BeginString, MsgType and the fields between MsgType and CheckSum; the BodyLength field `t9` and the CheckSum field `t10` are
functions of these.  What `build` writes is a clean frame (`build_frame`, CodecBuildWire); what a frame is good for is said about
frames alone: the parser's `WireMsg` (`Frame.wireMsg`), the scanner (`Frame.scans`, CodecScan), the bytes (`Frame.bytes`). -/

structure Frame where
  t8 : TagValue
  t35 : TagValue
  mid : List TagValue

namespace Frame

/-- the bytes BodyLength counts: from the MsgType field up to CheckSum -/
def N (F : Frame) : Nat := (wireOf (F.t35 :: F.mid)).length
def t9 (F : Frame) : TagValue := TagValue.init 9 (fmtNat F.N)
/-- the CheckSum value: byte sum of everything in front of the CheckSum field, mod 256 -/
def C (F : Frame) : Nat := (wireOf (F.t8 :: F.t9 :: F.t35 :: F.mid)).sum % 256
def t10 (F : Frame) : TagValue := TagValue.init 10 (digitsW 3 F.C)
def tvs (F : Frame) : List TagValue := F.t8 :: F.t9 :: F.t35 :: (F.mid ++ [F.t10])

/-- 8, 9, 10 occur only as the three framing fields -/
structure Clean (F : Frame) : Prop where
  tag8 : F.t8.tag = 8
  tag35 : F.t35.tag = 35
  mid : ∀ tv ∈ F.mid, ¬ isSpecialTag tv.tag

theorem Clean.inner {F : Frame} (h : F.Clean) : ∀ tv ∈ F.t35 :: F.mid, tv.tag ≠ 8 ∧ tv.tag ≠ 9 ∧ tv.tag ≠ 10 := by
  intro tv htv
  rcases List.mem_cons.1 htv with e | e
  · subst e; rw [h.tag35]; decide
  · have := h.mid tv e; simpa only [isSpecialTag, not_or] using this

theorem canon9 (F : Frame) : CanonTV F.t9 := by rw [t9, ← fmtInt_ofNat]; exact canonTV_bodyLength _

theorem fieldsLength_tvs {F : Frame} (h : F.Clean) : fieldsLength F.tvs = F.N := by
  rw [tvs, ← List.cons_append, fieldsLength_framed _ _ _ _ h.tag8 rfl rfl, fieldsLength_eq_len _ h.inner]; rfl

theorem wireMsg {F : Frame} (h : F.Clean) (hc : ∀ tv ∈ F.t8 :: F.t35 :: F.mid, CanonTV tv ∧ tv.tag ≠ 212)
    (hs : (wireOf F.tvs).length < 9223372036854775808) :
    WireMsg F.t8 F.t9 F.t35 F.mid F.t10 ∧ atoi F.t9.value = .ok ((fieldsLength F.tvs : Nat) : Int) := by
  have inner := h.inner
  -- BodyLength counts a part of the bytes
  have hN : F.N < 9223372036854775808 := Nat.lt_of_le_of_lt (fieldsLength_tvs h ▸ fieldsLength_le F.tvs) hs
  refine ⟨⟨canonTV_isWire _ (hc _ (by simp)).1, canonTV_isWire _ F.canon9,
    canonTV_isWire _ (hc _ (by simp)).1,
    fun tv htv => ⟨canonTV_isWire _ (hc tv (by simp [htv])).1, (inner tv (by simp [htv])).2.2, (hc tv (by simp [htv])).2⟩,
    canonTV_isWire _ (canonTV_checkSum F.C), h.tag8, rfl, h.tag35, rfl, fun tv htv => (inner tv (by simp [htv])).2.1⟩, ?_⟩
  rw [fieldsLength_tvs h]; exact atoi_fmtNat F.N hN

theorem canon {F : Frame} (hc : ∀ tv ∈ F.t8 :: F.t35 :: F.mid, CanonTV tv ∧ tv.tag ≠ 212) :
    ∀ tv ∈ F.tvs, CanonTV tv ∧ tv.tag ≠ 212 := by
  intro tv htv
  simp only [tvs, List.mem_cons, List.mem_append, List.not_mem_nil, or_false] at htv
  rcases htv with e | e | e | e | e
  · exact hc tv (by simp [e])
  · subst e; exact ⟨F.canon9, show (9 : Tag) ≠ 212 by decide⟩
  · exact hc tv (by simp [e])
  · exact hc tv (by simp [e])
  · subst e; exact ⟨canonTV_checkSum F.C, show (10 : Tag) ≠ 212 by decide⟩

/-- byte level: BeginString field, `9=<N>`, the `N` bytes from MsgType on, `10=<ddd>` -/
theorem bytes (F : Frame) :
    wireOf F.tvs = (F.t8.bytes ++ (TagValue.init 9 (fmtNat (wireOf (F.t35 :: F.mid)).length)).bytes ++ wireOf (F.t35 :: F.mid)) ++
      (TagValue.init 10 (digitsW 3 ((F.t8.bytes ++ (TagValue.init 9 (fmtNat (wireOf (F.t35 :: F.mid)).length)).bytes ++
        wireOf (F.t35 :: F.mid)).sum % 256))).bytes := by
  simp [tvs, t10, C, t9, N, wireOf, List.flatMap_append, List.append_assoc]

end Frame

/-- where a TagValue of a written message comes from -/
def Message.Holds (m : Message) (s : Sec) (k : Tag) (tv : TagValue) : Prop :=
  ∃ f, alFind (m.sec s).lookup k = some f ∧ tv ∈ f.items m.fields

end Qfx
