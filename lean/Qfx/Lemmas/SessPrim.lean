/-
  Relations between the session before and after that every primitive update respects.  `PrimRel R`: a preorder that allows the store
  mutations of the outbound side (reset, persist) and every queue update; such a preorder allows everything the sending functions do
  (the expected number enters at `SendRel.incrTarget` and `HandlerRel.setT`) — by the sender equations of SessVerify one lemma,
  `PrimRel.filed`.  `Fr`: the frame (state tag, configuration, connection, inbound buffer).  `LogBy N`: the log grown by
  observations of a class `N`; a monitor (a fold over the log) whose step ignores `N` reads the same (`LogBy.fold`).
-/
import Qfx.Lemmas.SessVerify
namespace Qfx.Sess
open Qfx

variable {R : Sess → Sess → Prop}

theorem resendLoop_rel (refl : ∀ s, R s s) (trans : ∀ {a b c}, R a b → R b c → R a c)
    (enq : ∀ s (m : OutMsg), m.Replay → R s (enqueueAndSend s m)) (s : Sess) (a b : Int) (l : List (Int × OutMsg)) :
    R s (resendLoop s a b l).1 := by
  induction l generalizing s a b with
  | nil => exact refl s
  | cons p rest ih =>
    obtain ⟨n, m⟩ := p
    simp only [resendLoop]
    split
    · exact ih s a (n + 1)
    · split
      · exact ih s a (n + 1)
      · rename_i hadmin _
        exact trans (trans (ite_both (enq s _ (replay_gapFillR s a n)) (refl s))
          (enq _ _ (replay_resent (Bool.not_eq_true _ ▸ hadmin)))) (ih _ _ _)

theorem resendMessages_rel (refl : ∀ s, R s s) (trans : ∀ {a b c}, R a b → R b c → R a c)
    (enq : ∀ s (m : OutMsg), m.Replay → R s (enqueueAndSend s m)) (s : Sess) (b e : Int) : R s (resendMessages s b e) := by
  unfold resendMessages
  split
  · exact refl s
  · split
    · exact enq s _ (replay_gapFillR s _ _)
    · have hl := resendLoop_rel refl trans enq s b b (s.store.range b e)
      generalize resendLoop s b b (s.store.range b e) = r at hl
      obtain ⟨s', x, y⟩ := r
      exact trans hl (ite_both (enq s' _ (replay_gapFillR s' _ _)) (refl s'))


structure PrimRel (R : Sess → Sess → Prop) : Prop where
  refl : ∀ s, R s s
  trans : ∀ {a b c}, R a b → R b c → R a c
  /-- `hb`, `sentReset`, `replyLast` may change freely: they are set by `setHb`, `setSentReset` (also inside `prepCore` and
      `openConn`) and `setReplyLast`, and read only where Logons, timer observations and gap fills are built -/
  quiet : ∀ (s : Sess) (hb : Int) (sentReset : Bool) (replyLast : Option Int),
    R s { s with hb := hb, sentReset := sentReset, replyLast := replyLast }
  setToSend : ∀ s q, R s (s.setToSend q)
  persistOut : ∀ s (m : OutMsg), m.seq = s.store.sender → R s (s.persistOut s.store.sender m)
  storeReset : ∀ s, R s s.storeReset
  sendQueued : ∀ s, R s (sendQueued s)

namespace PrimRel
variable (h : PrimRel R)
include h

theorem prepBase (s : Sess) (m : OutMsg) : R s (prepBase s m) := by
  unfold Sess.prepBase
  split
  · exact h.trans (h.storeReset s) (h.quiet _ _ true _)
  · exact h.refl s

theorem filed (s : Sess) (m : OutMsg) (q : List OutMsg) : R s ((Sess.prepBase s m).filed q (outgoing s m)) :=
  h.trans (h.prepBase s m) (h.trans (h.persistOut _ _ rfl) (h.setToSend _ _))

theorem prep (s : Sess) (m : OutMsg) : R s (prep s m).2 := by
  rw [prep_eq]
  split
  · exact h.refl s
  · exact h.trans (h.prepBase s m) (h.persistOut _ _ rfl)

theorem queueForSend (s : Sess) (m : OutMsg) : R s (queueForSend s m) := by
  rw [queueForSend_eq]
  exact ite_both (h.refl s) (h.filed s m _)

theorem dropAndSend (s : Sess) (m : OutMsg) : R s (dropAndSend s m) := by
  rw [dropAndSend_eq]
  exact ite_both (h.refl s) (h.trans (h.filed s m _) (h.sendQueued _))

theorem sendInReplyTo (s : Sess) (m : OutMsg) : R s (sendInReplyTo s m) := by
  rw [sendInReplyTo_eq]
  exact ite_both (h.queueForSend s _) (ite_both (h.refl s) (h.trans (h.filed s m _) (h.sendQueued _)))

theorem enqueueAndSend (s : Sess) (m : OutMsg) : R s (enqueueAndSend s m) := by
  unfold Sess.enqueueAndSend
  dsimp only
  split
  · exact h.trans (h.setToSend s []) (h.trans (h.setToSend _ _) (h.sendQueued _))
  · exact h.trans (h.setToSend _ _) (h.sendQueued _)

theorem dropAndReset (s : Sess) : R s (dropAndReset s) := h.trans (h.setToSend s []) (h.storeReset _)

end PrimRel

theorem sendResendRequest_of_sendInReplyTo (hs : ∀ s f, R s (sendInReplyTo s (mkOut "2" f))) (s : Sess) (b e : Int) :
    R s (sendResendRequest s b e).1 := by
  obtain ⟨f, hf⟩ := sendResendRequest_fst s b e
  rw [hf]; exact hs s f

theorem PrimRel.sendResendRequest (h : PrimRel R) (s : Sess) (b e : Int) : R s (sendResendRequest s b e).1 :=
  sendResendRequest_of_sendInReplyTo (fun s _ => h.sendInReplyTo s _) s b e


/-- what no handler and no sending function writes -/
structure Fr (s s' : Sess) : Prop where
  st : s'.st = s.st
  cfg : s'.cfg = s.cfg
  out : s'.out = s.out
  inbox : s'.inbox = s.inbox
  inboxOpen : s'.inboxOpen = s.inboxOpen

theorem Fr.refl (s : Sess) : Fr s s := ⟨rfl, rfl, rfl, rfl, rfl⟩
theorem Fr.trans {a b c : Sess} (h1 : Fr a b) (h2 : Fr b c) : Fr a c :=
  ⟨h2.st.trans h1.st, h2.cfg.trans h1.cfg, h2.out.trans h1.out, h2.inbox.trans h1.inbox, h2.inboxOpen.trans h1.inboxOpen⟩

theorem frPrim : PrimRel Fr where
  refl := Fr.refl
  trans := Fr.trans
  quiet := fun _ _ _ _ => ⟨rfl, rfl, rfl, rfl, rfl⟩
  setToSend := fun _ _ => ⟨rfl, rfl, rfl, rfl, rfl⟩
  persistOut := fun _ _ _ => ite_both ⟨rfl, rfl, rfl, rfl, rfl⟩ ⟨rfl, rfl, rfl, rfl, rfl⟩
  storeReset := fun _ => ⟨rfl, rfl, rfl, rfl, rfl⟩
  sendQueued := fun s => ite_both ⟨rfl, rfl, rfl, rfl, rfl⟩ (Fr.refl s)

theorem fr_persistOut (s : Sess) (seq : Int) (m : OutMsg) : Fr s (s.persistOut seq m) :=
  ite_both ⟨rfl, rfl, rfl, rfl, rfl⟩ ⟨rfl, rfl, rfl, rfl, rfl⟩
theorem fr_sendQueued (s : Sess) : Fr s (sendQueued s) := frPrim.sendQueued s
theorem fr_prep (s : Sess) (m : OutMsg) : Fr s (prep s m).2 := frPrim.prep s m
theorem fr_dropAndSend (s : Sess) (m : OutMsg) : Fr s (dropAndSend s m) := frPrim.dropAndSend s m
theorem fr_enqueueAndSend (s : Sess) (m : OutMsg) : Fr s (enqueueAndSend s m) := frPrim.enqueueAndSend s m

theorem foldLog_emit {γ : Type} (f : γ → Obs → γ) (g0 : γ) (s : Sess) (o : Obs) :
    (s.emit o).log.reverse.foldl f g0 = f (s.log.reverse.foldl f g0) o := by
  simp [Sess.emit, List.foldl_append]

/-- what a monitor folded over the log sees of `persistOut`: one observation -/
theorem foldLog_persistOut {γ : Type} (f : γ → Obs → γ) (g0 : γ) (s : Sess) (n : Int) (m : OutMsg) :
    (s.persistOut n m).log.reverse.foldl f g0 = f (s.log.reverse.foldl f g0) (savedObs s n m) := by
  rw [persistOut_eq]; exact foldLog_emit f g0 s _

theorem persistOut_frame (s : Sess) (n : Int) (m : OutMsg) :
    (s.persistOut n m).toSend = s.toSend ∧ (s.persistOut n m).store.sender = s.store.sender + 1 ∧ (s.persistOut n m).cfg = s.cfg := by
  rw [persistOut_eq]; exact ⟨rfl, rfl, rfl⟩

def LogBy (N : Obs → Bool) (s s' : Sess) : Prop := ∃ extra : List Obs, s'.log = extra ++ s.log ∧ extra.all N = true

theorem LogBy.refl (N : Obs → Bool) (s : Sess) : LogBy N s s := ⟨[], rfl, rfl⟩

theorem LogBy.trans {N : Obs → Bool} {a b c : Sess} (h1 : LogBy N a b) (h2 : LogBy N b c) : LogBy N a c := by
  obtain ⟨e1, l1, n1⟩ := h1
  obtain ⟨e2, l2, n2⟩ := h2
  exact ⟨e2 ++ e1, by rw [l2, l1, List.append_assoc], by simp [List.all_append, n1, n2]⟩

theorem LogBy.emit {N : Obs → Bool} (s : Sess) (o : Obs) (h : N o = true) : LogBy N s (s.emit o) := ⟨[o], rfl, by simp [h]⟩

theorem LogBy.of_eq {N : Obs → Bool} {s s' : Sess} (h : s'.log = s.log) : LogBy N s s' := ⟨[], by simp [h], rfl⟩

theorem LogBy.fold {γ : Type} {f : γ → Obs → γ} {N : Obs → Bool} (hf : ∀ g o, N o = true → f g o = g) {s s' : Sess}
    (h : LogBy N s s') (g0 : γ) : s'.log.reverse.foldl f g0 = s.log.reverse.foldl f g0 := by
  obtain ⟨e, l, n⟩ := h
  rw [l, List.reverse_append, List.foldl_append]
  generalize s.log.reverse.foldl f g0 = g
  have n' : e.reverse.all N = true := by simpa using n
  generalize e.reverse = r at n'
  induction r generalizing g with
  | nil => rfl
  | cons o r ih =>
    simp only [List.all_cons, Bool.and_eq_true] at n'
    rw [List.foldl_cons, hf g o n'.1]; exact ih g n'.2

end Qfx.Sess
