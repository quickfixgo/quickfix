/- C13: `build_around`, where a body field sits in the written frame (the start of both round trips); the trip of a group field through build
   and parse without dictionaries; GetGroup on the result for a flat template -/
import Qfx.Lemmas.CodecBuildWire
import Qfx.Lemmas.CodecGroupNested
namespace Qfx
open Qfx.Spec

theorem tvs_split {fm : FieldMap} (hi : FMInv fm) (arr : List TagValue) (g : Tag) (f : Field)
    (hf : alFind fm.lookup g = some f) :
    ∃ a b : List Tag, g ∉ a ∧ g ∉ b ∧
      fm.tvs arr = (a.filterMap (alFind fm.lookup)).flatMap (Field.items arr) ++ f.items arr ++
        (b.filterMap (alFind fm.lookup)).flatMap (Field.items arr) := by
  have hmem : g ∈ sortTags fm.ord fm.tags := by
    rw [(sortTags_perm _ _).mem_iff, hi.same, mem_alKeys_iff, hf]; rfl
  obtain ⟨a, b, hab⟩ := List.append_of_mem hmem
  have hnd : (sortTags fm.ord fm.tags).Nodup := (sortTags_perm _ _).nodup_iff.2 hi.tagsNodup
  rw [hab, List.nodup_append, List.nodup_cons] at hnd
  refine ⟨a, b, fun hm => hnd.2.2 g hm g (List.mem_cons_self ..) rfl, hnd.2.1.1, ?_⟩
  simp only [FieldMap.tvs, hab, List.filterMap_append, List.filterMap_cons, hf, List.flatMap_append, List.flatMap_cons,
    List.append_assoc]

theorem getElem?_append_cons_ne {α} (A Z : List α) (x y : α) (j : Nat) (h : (A ++ x :: Z)[j]? = some y) (hj : j ≠ A.length) :
    y ∈ A ∨ y ∈ Z := by
  rcases Nat.lt_or_ge j A.length with hlt | hge
  · rw [List.getElem?_append_left hlt] at h
    exact Or.inl (List.mem_of_getElem? h)
  · rw [List.getElem?_append_right hge] at h
    have : j - A.length ≠ 0 := by omega
    cases hk : j - A.length with
    | zero => exact absurd hk this
    | succ k =>
      rw [hk] at h
      simp only [List.getElem?_cons_succ] at h
      exact Or.inr (List.mem_of_getElem? h)

/-- a message whose body holds what `Write` emits for a group with a flat template, and no other TagValue of the message
    carries the group tag or a template tag -/
structure GroupIn (m : Message) (gtag d : Tag) (ts : List Tag) (es : List (List (Tag × Bytes))) : Prop where
  hg : alFind m.body.lookup gtag =
    some (.owned (countTV gtag es.length :: es.flatMap (fun e => serEntry (canon (d :: ts) e))))
  nodup : (d :: ts).Nodup
  entries : ∀ e ∈ es, (∀ p ∈ e, p.1 ∈ d :: ts) ∧ (latest e d).isSome = true
  small : es.length < 9223372036854775808
  gnot : gtag ∉ d :: ts
  gbody : secND gtag = .b
  no10 : (10 : Tag) ∉ d :: ts
  no9 : (9 : Tag) ∉ d :: ts
  others : ∀ s k l, alFind (m.sec s).lookup k = some (.owned l) → ¬ (s = .b ∧ k = gtag) →
    ∀ tv ∈ l, tv.tag ≠ gtag ∧ tv.tag ∉ d :: ts

theorem serEntry_tags (e : List (Tag × Bytes)) : ∀ tv ∈ serEntry e, ∃ p ∈ e, tv.tag = p.1 := by
  intro tv htv
  simp only [serEntry, List.mem_map] at htv
  obtain ⟨p, hp, rfl⟩ := htv
  exact ⟨p, hp, rfl⟩

/-- `SetGroup` of a group built by plain setter calls stores exactly what `Write` emits: count, then per entry the template
    tags that were set, in template order, with their latest values -/
theorem setGroup_stores (m m' : Message) (gtag d : Tag) (ts : List Tag) (hts : (d :: ts).Nodup) (es : List (List (Tag × Bytes)))
    (hes : ∀ e ∈ es, ∀ p ∈ e, p.1 ∈ d :: ts)
    (h : m.setGroup .b gtag (flatTmpl (d :: ts)) (es.map fldsOf) = .ok m') :
    alFind m'.body.lookup gtag = some (.owned (countTV gtag es.length :: es.flatMap (fun e => serEntry (canon (d :: ts) e)))) := by
  have hw := writeEntries_flat (d :: ts) hts es hes
  simp only [Message.setGroup, writeGroup, hw, List.length_map] at h
  injection h with h
  subst h
  simp only [Message.withSec, Message.sec, FieldMap.setGroup]
  exact alFind_insert_self _ _ _

/-- `tv` is held by a field of `m` other than the body field `G` and the MsgType field -/
def Elsewhere (m : Message) (G : Tag) (tv : TagValue) : Prop :=
  ∃ s k l, alFind (m.sec s).lookup k = some (.owned l) ∧ ¬ (s = .b ∧ k = G) ∧ ¬ (s = .h ∧ k = 35) ∧ tv ∈ l

/-- where a body field sits in the frame `build` writes: between MsgType and CheckSum stand `A`, the field's TagValues, `Z`, and every
    TagValue of `A` and `Z` belongs to the MsgType field (`more`) or is held by another field of the message -/
theorem build_around (m : Message) (hb : Built m) (hw : Wired m) (tv8 : TagValue) (f35 : Field)
    (h8 : alFind m.header.lookup 8 = some (.owned [tv8])) (h35 : alFind m.header.lookup 35 = some f35)
    (G : Tag) (g : List TagValue) (hg : alFind m.body.lookup G = some (.owned g))
    (bytes : Bytes) (m' : Message) (h : m.build Fixes.cur = .ok (bytes, m')) (hsmall : bytes.length < 9223372036854775808) :
    ∃ (t9 t35 t10 : TagValue) (A Z more : List TagValue),
      bytes = wireOf (tv8 :: t9 :: t35 :: ((A ++ g ++ Z) ++ [t10])) ∧ WireMsg tv8 t9 t35 (A ++ g ++ Z) t10 ∧
      atoi t9.value = .ok ((fieldsLength (tv8 :: t9 :: t35 :: ((A ++ g ++ Z) ++ [t10])) : Nat) : Int) ∧
      f35 = .owned (t35 :: more) ∧ ∀ tv ∈ A ++ Z, tv ∈ more ∨ Elsewhere m G tv := by
  obtain ⟨F, more, others, frontT, hcl, hbytes, e8, hhead, hmid, pO, pT⟩ := build_frame m hb tv8 f35 h8 h35 bytes m' h
  subst e8
  obtain ⟨hwm, hbl⟩ := Frame.wireMsg hcl (build_frame_canon m hb hw F more others frontT f35 h8 h35 hhead hmid pO pT) (hbytes ▸ hsmall)
  obtain ⟨a, b, hna, hnb, hsplit⟩ := tvs_split hb.inv.b m.fields G _ hg
  have src : ∀ (s : Sec) (k : Tag) (tv : TagValue), m.Holds s k tv → ¬ (s = .b ∧ k = G) → ¬ (s = .h ∧ k = 35) → Elsewhere m G tv := by
    intro s k tv ⟨f, hf, hm⟩ hne h35
    obtain ⟨l, rfl⟩ := hb.secOwned s k f hf
    exact ⟨s, k, l, hf, hne, h35, hm⟩
  have seg : ∀ ks : List Tag, G ∉ ks → ∀ tv ∈ (ks.filterMap (alFind m.body.lookup)).flatMap (Field.items m.fields), Elsewhere m G tv :=
    fun ks hks => tvs_of_tags m.fields m.body.lookup ks _ (fun t ht f hf tv htv =>
      src .b t tv ⟨f, hf, htv⟩ (fun hc => hks (hc.2 ▸ ht)) (fun hc => nomatch hc.1))
  have hmid' : F.mid = ((more ++ others) ++ (a.filterMap (alFind m.body.lookup)).flatMap (Field.items m.fields)) ++ g ++
      ((b.filterMap (alFind m.body.lookup)).flatMap (Field.items m.fields) ++ frontT) := by
    rw [hmid, hsplit]; simp [Field.items, List.append_assoc]
  refine ⟨F.t9, F.t35, F.t10, _, _, more, by rw [← hmid']; exact hbytes, by rw [← hmid']; exact hwm, by rw [← hmid']; exact hbl, hhead, ?_⟩
  intro tv htv
  simp only [List.mem_append] at htv
  rcases htv with ((e | e) | e) | e | e
  · exact Or.inl e
  · obtain ⟨k, hk35, hk⟩ := pO tv e; exact Or.inr (src .h k tv hk (fun hc => nomatch hc.1) (fun hc => hk35 hc.2))
  · exact Or.inr (seg a hna tv e)
  · exact Or.inr (seg b hnb tv e)
  · obtain ⟨k, _, hk⟩ := pT tv e; exact Or.inr (src .t k tv hk (fun hc => nomatch hc.1) (fun hc => nomatch hc.1))

/-- the trip through the wire for any group field (no dictionary): whatever TagValues `count :: M` the body holds under a
    body tag `gtag` that no other TagValue of the message carries — after `build` and `ParseMessage` the parsed body maps
    `gtag` to a field whose full extent is `count :: M ++ Z`, where every TagValue of `Z` is the CheckSum or comes from
    another field of the message -/
theorem trip_nodict_group_field (fx : Fixes) (m : Message) (hb : Built m) (hw : Wired m) (tv8 : TagValue) (f35 : Field)
    (h8 : alFind m.header.lookup 8 = some (.owned [tv8])) (h35 : alFind m.header.lookup 35 = some f35)
    (gtag : Tag) (g0 : TagValue) (M : List TagValue)
    (hg : alFind m.body.lookup gtag = some (.owned (g0 :: M))) (hg0 : g0.tag = gtag) (gbody : secND gtag = .b)
    (hMg : ∀ tv ∈ M, tv.tag ≠ gtag)
    (others : ∀ s k l, alFind (m.sec s).lookup k = some (.owned l) → ¬ (s = .b ∧ k = gtag) → ∀ tv ∈ l, tv.tag ≠ gtag)
    (bytes : Bytes) (m' : Message) (h : m.build Fixes.cur = .ok (bytes, m')) (hsmall : bytes.length < 9223372036854775808) :
    ∃ (p : Message) (f : Field) (Z : List TagValue),
      parseMessage fx Dicts.none bytes = .ok p ∧ alFind p.body.lookup gtag = some f ∧
      f.full p.fields = g0 :: (M ++ Z) ∧
      ∀ tv ∈ Z, tv.tag = 10 ∨ ∃ s k l, alFind (m.sec s).lookup k = some (.owned l) ∧ ¬ (s = .b ∧ k = gtag) ∧ tv ∈ l := by
  obtain ⟨t9, t35, t10, A, Z, more, hbytes, hwm, hbl, hhead, hAZ'⟩ := build_around m hb hw tv8 f35 h8 h35 gtag _ hg bytes m' h hsmall
  have hAZ : ∀ tv ∈ A ++ Z, ∃ s k l, alFind (m.sec s).lookup k = some (.owned l) ∧ ¬ (s = .b ∧ k = gtag) ∧ tv ∈ l := fun tv htv =>
    (hAZ' tv htv).elim (fun hm => ⟨.h, 35, _, hhead ▸ h35, fun hc => (nomatch hc.1), List.mem_cons_of_mem _ hm⟩)
      (fun ⟨s, k, l, hl, hne, _, hm⟩ => ⟨s, k, l, hl, hne, hm⟩)
  have gns : ∀ t : Tag, secND t ≠ .b → t ≠ gtag := fun t ht e => ht (e ▸ gbody)
  have tagOf : ∀ tv ∈ A ++ Z, tv.tag ≠ gtag := fun tv htv =>
    let ⟨s, k, l, hl, hne, hm⟩ := hAZ tv htv; others s k l hl hne tv hm
  have hL : tv8 :: t9 :: t35 :: ((A ++ g0 :: M ++ Z) ++ [t10]) = (tv8 :: t9 :: t35 :: A) ++ g0 :: (M ++ (Z ++ [t10])) := by simp
  have hparse := parse_wire_nodict fx tv8 t9 t35 _ t10 hwm hbl
  rw [← hbytes] at hparse
  have hj : (tv8 :: t9 :: t35 :: ((A ++ g0 :: M ++ Z) ++ [t10]))[(tv8 :: t9 :: t35 :: A).length]? = some g0 := by
    rw [hL, List.getElem?_append_right (Nat.le_refl _)]; simp
  have huniq : ∀ j' tv', (tv8 :: t9 :: t35 :: ((A ++ g0 :: M ++ Z) ++ [t10]))[j']? = some tv' → j' ≠ (tv8 :: t9 :: t35 :: A).length →
      tv'.tag ≠ g0.tag := by
    intro j' tv' hj' hne
    rw [hL] at hj'
    rw [hg0]
    rcases getElem?_append_cons_ne _ _ _ tv' j' hj' hne with hm | hm
    · simp only [List.mem_cons] at hm
      rcases hm with e | e | e | e
      · rw [e, hwm.tag8]; exact gns 8 (by decide)
      · rw [e, hwm.tag9]; exact gns 9 (by decide)
      · rw [e, hwm.tag35]; exact gns 35 (by decide)
      · exact tagOf tv' (List.mem_append_left _ e)
    · simp only [List.mem_append, List.mem_singleton] at hm
      rcases hm with e | e | e
      · exact hMg tv' e
      · exact tagOf tv' (List.mem_append_right _ e)
      · rw [e, hwm.tag10]; exact gns 10 (by decide)
  have hfind := ndFinal_find tv8 t9 t35 _ t10 hwm _ g0 hj huniq
  rw [hg0, gbody] at hfind
  refine ⟨_, .view (tv8 :: t9 :: t35 :: A).length 1, Z ++ [t10], hparse, hfind, ?_, fun tv htv => ?_⟩
  · show (Field.view (tv8 :: t9 :: t35 :: A).length 1).full (tv8 :: t9 :: t35 :: ((A ++ g0 :: M ++ Z) ++ [t10])) = _
    rw [hL]; simp [Field.full]
  · rcases List.mem_append.1 htv with e | e
    · exact Or.inr (hAZ tv (List.mem_append_right _ e))
    · rw [List.mem_singleton.1 e]; exact Or.inl hwm.tag10

theorem roundtrip_nodict_flat (fx : Fixes) (m : Message) (hb : Built m) (hw : Wired m) (tv8 : TagValue) (f35 : Field)
    (h8 : alFind m.header.lookup 8 = some (.owned [tv8])) (h35 : alFind m.header.lookup 35 = some f35)
    (gtag d : Tag) (ts : List Tag) (es : List (List (Tag × Bytes))) (hG : GroupIn m gtag d ts es)
    (bytes : Bytes) (m' : Message) (h : m.build Fixes.cur = .ok (bytes, m')) (hsmall : bytes.length < 9223372036854775808) :
    ∃ (p : Message) (f : Field) (gs : List GEntry),
      parseMessage fx Dicts.none bytes = .ok p ∧ alFind p.body.lookup gtag = some f ∧
      getGroup (flatTmpl (d :: ts)) (f.full p.fields) = .ok gs ∧ gs.length = es.length ∧
      ∀ (i : Nat) (e : List (Tag × Bytes)), es[i]? = some e → ∃ g : GEntry, gs[i]? = some g ∧
        ∀ t v, latest e t = some v → ∃ tail, alFind g.lookup t = some (TagValue.init t v :: tail) := by
  have hMtags : ∀ tv ∈ es.flatMap (fun e => serEntry (canon (d :: ts) e)), tv.tag ∈ d :: ts := by
    intro tv htv
    obtain ⟨e, he, hm⟩ := List.mem_flatMap.1 htv
    obtain ⟨⟨t, v⟩, hp, hpt⟩ := serEntry_tags _ tv hm
    rw [hpt]; exact ((canon_mem (d :: ts) e t v).1 hp).1
  obtain ⟨p, f, Z, hparse, hfind, hfull, hZ⟩ := trip_nodict_group_field fx m hb hw tv8 f35 h8 h35 gtag _ _ hG.hg rfl hG.gbody
    (fun tv htv e => hG.gnot (e ▸ hMtags tv htv)) (fun s k l hl hne tv htv => (hG.others s k l hl hne tv htv).1) bytes m' h hsmall
  -- what follows the group on the wire carries no template tag
  have hfollow : FollowerOK (d :: ts) Z := by
    intro x r hxr
    rcases hZ x (by rw [hxr]; simp) with e | ⟨s, k, l, hl, hne, hm⟩
    · rw [e]; exact hG.no10
    · exact (hG.others s k l hl hne x hm).2
  obtain ⟨gs, hread, hlen, hent⟩ := read_canon_flat gtag d ts hG.nodup Z hfollow es hG.entries hG.small
  exact ⟨p, f, gs, hparse, hfind, by rw [getGroup, hfull, hread], hlen, hent⟩

end Qfx
