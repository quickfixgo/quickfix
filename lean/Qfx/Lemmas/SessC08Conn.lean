/-
  C08, connections: the inbound buffer (pending count; the first drain of a disconnect empties it when the fuel suffices),
  disconnecting (`discMid`, `setState`), the block setState / drainIn / incoming / checkSessionTime with the fuel bound,
  the application's sends, connect, and one whole event.
-/
import Qfx.Lemmas.SessMachine
import Qfx.Lemmas.SessC08Handlers
namespace Qfx.Sess
open Qfx

/-- buffered inbound messages that can still be processed -/
def pend (s : Sess) : Nat := if s.inboxOpen then s.inbox.length else 0

theorem Fr.pend {s s' : Sess} (h : Fr s s') : pend s' = pend s := by
  unfold Sess.pend; rw [h.inbox, h.inboxOpen]

theorem pend_discMid (s : Sess) : pend (discMid s) = pend s := by
  unfold pend; rw [(discMid_inbox s).1, (discMid_inbox s).2]

theorem pendMachine : Machine (fun _ => True) (fun s s' => pend s' ≤ pend s) (fun _ => True) (fun _ => True) where
  refl := fun _ => Nat.le_refl _
  trans := fun h1 h2 => Nat.le_trans h2 h1
  latent := trivial
  notSessionTime := trivial
  setSt := fun _ _ _ _ => ⟨Nat.le_refl _, trivial⟩
  closeInbox := fun _ _ => ⟨Nat.zero_le _, trivial⟩
  setStopped := fun _ _ => ⟨Nat.le_refl _, trivial⟩
  arm := fun _ _ _ => ⟨Nat.le_refl _, trivial⟩
  discMid := fun s _ => ⟨Nat.le_of_eq (pend_discMid s), trivial⟩
  sendLogout := fun s _ => ⟨Nat.le_of_eq (fpeel_sendLogout (Fr.refl s)).pend, trivial⟩
  dropAndReset := fun _ _ => ⟨Nat.le_refl _, trivial⟩
  pop := fun s m rest _ hib => ⟨trivial, by cases h : s.inboxOpen <;> simp [pend, Sess.setInbox, hib, h], trivial⟩
  fixMsgIn := fun s m _ _ => ⟨Nat.le_of_eq (fr_fixMsgInCore s m).pend, trivial, trivial⟩

theorem pend_mutual (fuel : Nat) :
    (∀ s next, pend (setState fuel s next) ≤ pend s) ∧
    (∀ s, pend (drainIn fuel s) ≤ pend s) ∧
    (∀ s m, pend (incoming fuel s m) ≤ pend s) ∧
    (∀ s a b, pend (checkSessionTime fuel s a b) ≤ pend s) :=
  have ⟨hS, hD, hI, hC⟩ := pendMachine.stateMachine fuel
  ⟨fun s next => (hS s next trivial trivial).1, fun s => (hD s trivial).1, fun s m => (hI s m trivial fun _ _ => trivial).1,
   fun s a b => (hC s a b trivial).1⟩

/-- one level of `drainIn`: nothing pending, or the first buffered message goes through `incoming` -/
theorem drainIn_succ (n : Nat) (s : Sess) :
    (pend s = 0 ∧ drainIn (n + 1) s = s) ∨
    ∃ m rest, pend (s.setInbox rest) + 1 = pend s ∧ drainIn (n + 1) s = drainIn n (incoming n (s.setInbox rest) (some m)) := by
  rw [drainIn]
  cases ho : s.inboxOpen
  · exact .inl ⟨by simp [pend, ho], rfl⟩
  · cases hib : s.inbox with
    | nil => exact .inl ⟨by simp [pend, hib], rfl⟩
    | cons m rest => exact .inr ⟨m, rest, by simp [pend, Sess.setInbox, hib, ho], rfl⟩

theorem drainIn_complete (fuel : Nat) (s : Sess) (h : pend s < fuel) : pend (drainIn fuel s) = 0 := by
  induction fuel generalizing s with
  | zero => omega
  | succ n ih =>
    rcases drainIn_succ n s with ⟨h0, e⟩ | ⟨m, rest, hp, e⟩ <;> rw [e]
    · exact h0
    · have h1 := (pend_mutual n).2.2.1 (s.setInbox rest) (some m)
      exact ih _ (by omega)

theorem drainIn_idle (fuel : Nat) (s : Sess) (h : pend s = 0) : drainIn fuel s = s := by
  cases fuel with
  | zero => rfl
  | succ n =>
    rcases drainIn_succ n s with ⟨_, e⟩ | ⟨m, rest, hp, _⟩
    · exact e
    · omega

theorem SState.down_cls {st : SState} (h : st.connected = false) : st.loggedOn = false ∧ st.isLogon = false ∧ st.isLogout = false := by
  cases st <;> first | exact ⟨rfl, rfl, rfl⟩ | cases h

theorem W.latent {g : G8} {d : Sess} (h1 : g.ok = true) (h2 : g.cb = false) (h3 : g.conn = false) (h4 : d.out = false) :
    W g (d.setSt .latent) :=
  { ok := h1, conn := h3.trans h4.symm, cb := h2, hs := fun hcb => absurd (h2.symm.trans hcb) Bool.false_ne_true,
    notif := fun hh => Bool.noConfusion (show false = true from hh), fresh := fun ho => absurd (h4.symm.trans ho) Bool.false_ne_true,
    queue := fun ho => absurd (h4.symm.trans ho) Bool.false_ne_true, noconn := fun _ => h4 }

/-- what `W` asks in the Logon state: no notification yet; an unwritten connection is an acceptor's; an initiator's queue may be written -/
theorem W.logon {g : G8} {y : Sess} (hok : g.ok = true) (hconn : g.conn = y.out) (hcb : g.cb = false) (hnot : g.notified = false)
    (hfresh : g.fresh = true → y.cfg.initiator = false ∧ g.handshake = false) (hq : y.cfg.initiator = true → Q g y.toSend) :
    W g (y.setSt .logon) :=
  { ok := hok, conn := hconn, cb := hcb, hs := fun h => absurd (hcb.symm.trans h) Bool.false_ne_true, notif := fun _ => hnot,
    fresh := fun _ hf => ⟨rfl, hfresh hf⟩, queue := fun _ h => h.elim (fun h => Bool.noConfusion h) fun h => hq h.2,
    noconn := fun h => Bool.noConfusion h }

/-- after the middle part of a disconnect the invariant holds judged without a connection (the state tag is still the old,
    connected one) -/
theorem discMid_down (g0 : G8) (s : Sess) (hW : WK g0 s) : WK g0 ((discMid s).setSt .latent) := by
  unfold WK
  rw [g8Of_setSt]
  suffices h : (g8Of g0 (discMid s)).ok = true ∧ (g8Of g0 (discMid s)).cb = false ∧ (g8Of g0 (discMid s)).conn = false ∧
      (discMid s).out = false from W.latent h.1 h.2.1 h.2.2.1 h.2.2.2
  unfold discMid
  dsimp only
  generalize hd : (s.st.loggedOn || match s.st with | SState.logout => true | SState.logon => s.cfg.initiator | x => false) = d
  generalize hs1 : (if d = true then s.emit Obs.onLogout else s) = s1
  have h1 : (g8Of g0 s1).ok = true ∧ (g8Of g0 s1).cb = false ∧ (g8Of g0 s1).conn = s1.out := by
    unfold WK at hW
    rw [← hs1]
    cases hdv : d
    · simp only [Bool.false_eq_true, if_false]
      refine ⟨hW.ok, ?_, hW.conn⟩
      rw [hW.cb]
      rw [hdv] at hd
      -- state by state: the claim computes, or `hd` is absurd
      generalize s.st = st at hd ⊢
      cases st <;> first | rfl | cases hd
    · simp only [if_true]
      rw [g8Of_emit, c8o_onLogout]
      have hn : (g8Of g0 s).notified = false := by
        apply hW.notif
        rw [hdv] at hd
        generalize s.st = st at hd ⊢
        cases st <;> first | rfl | cases hd
      refine ⟨by simp [hW.ok, hn], rfl, hW.conn⟩
  generalize hs2 : (if s1.cfg.resetOnDisconnect = true then dropAndReset s1 else s1) = s2
  have h2 : (g8Of g0 s2).ok = true ∧ (g8Of g0 s2).cb = false ∧ (g8Of g0 s2).conn = s2.out := by
    rw [← hs2]
    split
    · rw [g8Of_dropAndReset]; exact h1
    · exact h1
  split
  · rw [g8Of_emit, c8o_closed]
    have e : g8Of g0 (s2.setOut false) = g8Of g0 s2 := rfl
    rw [e]
    refine ⟨?_, h2.2.1, rfl, rfl⟩
    show ((g8Of g0 s2).ok && !(g8Of g0 s2).cb) = true
    rw [h2.1, h2.2.1]; rfl
  · rename_i ho
    have ho' : s2.out = false := by simpa using ho
    exact ⟨h2.1, h2.2.1, by rw [h2.2.2, ho'], ho'⟩

/-- judged at a state without a connection, weak is strong and every such state judges alike -/
theorem W.off {g : G8} {s r : Sess} {c c' : SState} (h : W g (s.setSt c)) (hc : c.connected = false) (hc' : c'.connected = false)
    (ho : r.out = s.out) (hcfg : r.cfg = s.cfg) (hq : r.toSend = s.toSend) : S g (r.setSt c') := by
  obtain ⟨a1, a2, a3⟩ := SState.down_cls hc
  obtain ⟨b1, b2, b3⟩ := SState.down_cls hc'
  refine ⟨h.congr (b1.trans a1.symm) (b2.trans a2.symm) (b3.trans a3.symm) ho hcfg hq, fun _ hl => ?_⟩
  have hl' : (c'.loggedOn || c'.isLogon) = true := hl
  rw [b1, b2] at hl'; cases hl'

theorem W.disconnected {g : G8} {s : Sess} (h : W g s) (hc : s.st.connected = false) :
    g.ok = true ∧ g.cb = false ∧ g.conn = false ∧ s.out = false := by
  obtain ⟨a1, a2, a3⟩ := SState.down_cls hc
  have ho := h.noconn (by rw [a1, a2, a3]; rfl)
  exact ⟨h.ok, by rw [h.cb, a1, a3]; rfl, by rw [h.conn, ho], ho⟩

theorem WK.congr {g0 : G8} {s r : Sess} (h : WK g0 s) (hlog : r.log = s.log) (h1 : r.st = s.st) (h4 : r.out = s.out)
    (h5 : r.cfg = s.cfg) (h6 : r.toSend = s.toSend) : WK g0 r := by
  unfold WK at *
  have : g8Of g0 r = g8Of g0 s := by unfold g8Of; rw [hlog]
  rw [this]
  exact W.congr h (by rw [h1]) (by rw [h1]) (by rw [h1]) h4 h5 h6
theorem SK.congr {g0 : G8} {s r : Sess} (h : SK g0 s) (hlog : r.log = s.log) (h1 : r.st = s.st) (h4 : r.out = s.out)
    (h5 : r.cfg = s.cfg) (h6 : r.toSend = s.toSend) : SK g0 r := by
  unfold SK at *
  have : g8Of g0 r = g8Of g0 s := by unfold g8Of; rw [hlog]
  rw [this]
  exact S.congr h (by rw [h1]) (by rw [h1]) (by rw [h1]) h4 h5 h6

theorem setState_down (g0 : G8) (n : Nat) (s : Sess) (next : SState) (hn : next.connected = false) (hc : s.st.connected = true)
    (hD : WK g0 (drainIn n s)) (hp : pend (drainIn n s) = 0) : SK g0 (setState (n + 1) s next) := by
  unfold setState
  simp only [hn, Bool.not_false, if_true, hc]
  have hd := discMid_down g0 _ hD
  have hp2 : pend (discMid (drainIn n s)) = 0 := by rw [pend_discMid]; exact hp
  rw [drainIn_idle n _ hp2]
  generalize discMid (drainIn n s) = d at hd
  unfold SK
  split
  · exact W.off (r := d.closeInbox.setStopped) hd rfl hn rfl rfl rfl
  · exact W.off (r := d.closeInbox) hd rfl hn rfl rfl rfl

theorem setState_idle (g0 : G8) (n : Nat) (s : Sess) (next : SState) (hn : next.connected = false) (hc : s.st.connected = false)
    (hW : WK g0 s) : SK g0 (setState (n + 1) s next) := by
  unfold setState
  simp only [hn, Bool.not_false, if_true, hc, Bool.false_eq_true, if_false]
  unfold SK
  split
  · exact W.off (s := s) (r := s.setStopped) (WK.setSt_self hW) hc hn rfl rfl rfl
  · exact W.off (s := s) (r := s) (WK.setSt_self hW) hc hn rfl rfl rfl

/-- The idea is in the first clause: under the bound the first drain of a disconnect leaves nothing pending, so the second one,
    which runs with the invariant broken, does nothing (`setState_down`).  The bounds `4 * pend s + k ≤ fuel` come from
    `fuelOf s = 4 * s.inbox.length + 8`: a buffered message costs four levels (drainIn → incoming → checkSessionTime, setState). -/
theorem c8_mutual (g0 : G8) : ∀ fuel : Nat,
    (∀ s next, next.connected = false → 4 * pend s + 2 ≤ fuel → WK g0 s → SK g0 (setState fuel s next)) ∧
    (∀ s, 4 * pend s + 1 ≤ fuel → WK g0 s → WK g0 (drainIn fuel s)) ∧
    (∀ s m, 4 * pend s + 4 ≤ fuel → Keeps g0 s (incoming fuel s m)) ∧
    (∀ s a b, 4 * pend s + 3 ≤ fuel → Keeps g0 s (checkSessionTime fuel s a b)) := by
  intro fuel
  induction fuel with
  | zero =>
    refine ⟨?_, ?_, ?_, ?_⟩
    · intro s next _ hf; exact absurd hf (Nat.not_succ_le_zero _)
    · intro s _ h; unfold drainIn; exact h
    · intro s m hf; exact absurd hf (Nat.not_succ_le_zero _)
    · intro s a b hf; exact absurd hf (Nat.not_succ_le_zero _)
  | succ n ih =>
    obtain ⟨ihS, ihD, ihI, ihC⟩ := ih
    have hPM := pend_mutual n
    refine ⟨?_, ?_, ?_, ?_⟩
    · intro s next hn hf hW
      cases hc : s.st.connected
      · exact setState_idle g0 n s next hn hc hW
      · exact setState_down g0 n s next hn hc (ihD s (Nat.le_of_succ_le_succ hf) hW) (drainIn_complete n s (by omega))
    · intro s hf hW
      rcases drainIn_succ n s with ⟨_, e⟩ | ⟨m, rest, hp, e⟩ <;> rw [e]
      · exact hW
      · have h2 := hPM.2.2.1 (s.setInbox rest) (some m)
        exact ihD _ (by omega) ((ihI _ (some m) (by omega)).w (hW.congr rfl rfl rfl rfl rfl))
    · intro s m hf
      unfold incoming
      dsimp only
      have hC := ihC s true true (Nat.le_of_succ_le_succ hf)
      have hpC := hPM.2.2.2 s true true
      generalize checkSessionTime n s true true = s1 at hC hpC
      split
      · exact hC
      · refine (hC.trans ?_).trans ((Sil.emit _ _ rfl).keeps g0)
        cases m with
        | none => exact Keeps.refl g0 s1
        | some m =>
          have hT := t8_fixMsgInCore g0 s1 m
          exact hT.setState n fun hc => ihS _ _ hc (by rw [hT.fr.pend]; omega)
    · intro s a b hf
      unfold checkSessionTime
      dsimp only
      have hlogout : ∀ x : Sess, P false g0 x (if x.st.loggedOn = true then sendLogout x else x) := by
        intro x
        split
        · rename_i hl
          exact qpeel_sendLogout (SState.loggedOn_not_logon _ hl) (P.refl _ _ _)
        · exact P.refl _ _ _
      -- a Logout may have gone out (weak invariant); the disconnect that follows restores the strong one
      have down : ∀ {x y : Sess} (nx : SState), P false g0 x y → nx.connected = false → 4 * pend x + 2 ≤ n →
          Keeps g0 x (setState n y nx) :=
        fun nx hp hn hf => .of_restore fun h => ihS _ nx hn (by rw [hp.fr.pend]; exact hf) (hp.w h)
      by_cases ha : (!a) = true
      · rw [if_pos ha]
        exact down _ (hlogout s) rfl (Nat.le_of_succ_le_succ hf)
      · rw [if_neg ha]
        have hx : Keeps g0 s (if (!s.st.sessionTime) = true then setState n s .latent else s) ∧
            pend (if (!s.st.sessionTime) = true then setState n s .latent else s) ≤ pend s := by
          split
          · exact ⟨down _ (P.refl false g0 s) rfl (Nat.le_of_succ_le_succ hf), hPM.1 s _⟩
          · exact ⟨Keeps.refl g0 s, Nat.le_refl _⟩
        generalize (if (!s.st.sessionTime) = true then setState n s SState.latent else s) = x at hx
        split
        · exact hx.1.trans (down _ ((hlogout x).seq (p_dropAndReset true g0 _)) rfl (by omega))
        · exact hx.1

theorem pend_le_inbox (s : Sess) : pend s ≤ s.inbox.length := by unfold pend; split <;> omega

/-- `SendAppMessages` while logged on -/
theorem p_flush (g0 : G8) (s : Sess) (hl : s.st.loggedOn = true) : P true g0 s (sendQueued s) := by
  have hq := sendQueued_spec g0 s
  cases ho : s.out
  · rw [ho] at hq
    simp only [Bool.false_eq_true, if_false] at hq
    rw [hq.2]; exact P.refl true g0 s
  · rw [ho] at hq
    simp only [if_true] at hq
    have hg : WK g0 s → g8Of g0 (sendQueued s) = g8Of g0 s := by
      intro hW
      rw [hq.2.2]
      unfold WK at hW
      refine wr_quiet _ _ hW.ok (by rw [hW.conn]; exact ho) ?_ (hW.queued ho hl).1 (hW.queued ho hl).2
      cases hf : (g8Of g0 s).fresh
      · rfl
      · have := (hW.fresh ho hf).1
        rw [SState.loggedOn_not_logon _ hl] at this; cases this
    have hw : WK g0 s → WK g0 (sendQueued s) := fun hW =>
      WK_queue hW hq.1 (hg hW) (fun _ _ => by rw [hq.2.1]; exact Q_nil _)
    exact ⟨hq.1, hw, fun _ hS => SK_of hS hq.1 (hw hS.1) (by rw [hg hS.1])⟩

/-- `SendToTarget`: an application message joins the queue — the one step that needs the strong invariant (no Logout has
    been written while the queue may still be written) -/
theorem SK_queueForSend (g0 : G8) (s : Sess) (m : OutMsg) (hadm : isAdminKind m.kind = false) (hS : SK g0 s) :
    SK g0 (queueForSend s m) := by
  have h5 : (m.kind == "5") = false := by
    cases h : m.kind == "5"
    · rfl
    · rw [eq_of_beq h] at hadm; revert hadm; decide
  have h := queueForSend_spec g0 s m
  have key := h.wk s.st (fun hw => by cases hw) (fun hw => by cases hw) (fun hw => by cases hw) (fun hw => by cases hw)
    (fun _ ho hc => ⟨rfl, h5, fun hsl => by
      rw [hS.2 ho (by rcases hc with hc | hc <;> simp [hc])] at hsl; cases hsl⟩) (WK.setSt_self hS.1)
  exact SK_of hS h.fr (key.1.unsetSt h.fr.st) (key.2 h5)

/-- the automaton sees nothing of the refresh and the ResetOnLogon reset before an initiator's Logon -/
theorem g8Of_connectBase (g0 : G8) (s : Sess) : g8Of g0 (connectBase s) = g8Of g0 s := by
  have h1 : g8Of g0 (if s.openConn.cfg.refreshOnLogon = true then s.openConn.emit .refresh else s.openConn) = g8Of g0 s :=
    ite_both (P := fun x => g8Of g0 x = g8Of g0 s) ((Sil.emit s.openConn _ rfl).g8 g0) rfl
  unfold connectBase
  exact ite_both (P := fun x => g8Of g0 x = g8Of g0 s) ((g8Of_dropAndReset g0 _).trans h1) h1

/-- a successful connect: the marker, then (initiator) the Logon -/
theorem SK_connect (g : G8) (s : Sess) (hlog : s.log = []) (hS : S g s) :
    SK (if (connect s).2 == "ok" then c8Step g .connected else g) (connect s).1 := by
  have hg0 : ∀ g', g8Of g' s = g' := by intro g'; unfold g8Of; rw [hlog]; rfl
  have hSK : SK g s := by unfold SK; rw [hg0]; exact hS
  refine connect_cases s (motive := fun r => SK (if r.2 == "ok" then c8Step g .connected else g) r.1) (fun _ => hSK)
    (fun _ _ => ite_both ((p_dropAndReset true g s).st rfl hSK) hSK) (fun hc _ hini => ?_) (fun hc _ hini => ?_)
  · obtain ⟨d1, d2, d3, _⟩ := hS.1.disconnected hc
    show S (g8Of (c8Step g .connected) s) (s.openConn.setSt .logon)
    rw [hg0, c8Step_connected]
    exact ⟨W.logon (by simp [d1, d2, d3]) rfl d2 rfl (fun _ => ⟨hini, rfl⟩) (fun h => absurd (hini.symm.trans h) Bool.false_ne_true),
      fun _ _ => rfl⟩
  · obtain ⟨d1, d2, d3, _⟩ := hS.1.disconnected hc
    have hxo : (connectBase s).out = true := (connectBase_frame s).2.1
    have hxg := (g8Of_connectBase (c8Step g .connected) s).trans (hg0 _)
    generalize connectBase s = x at hxo hxg
    obtain ⟨m', hk, fr, hq, hgd⟩ := dropAndSend_logon_out (c8Step g .connected) x (logonMsg x (shouldSendReset x)) rfl hxo
    show SK (c8Step g .connected) ((sendLogonInReplyTo x (shouldSendReset x)).setSt .logon)
    unfold SK sendLogonInReplyTo
    rw [g8Of_setSt, hgd, hxg, c8o_wire, c8Step_connected]
    have hout : (dropAndSend x (logonMsg x (shouldSendReset x))).out = true := fr.out.trans hxo
    generalize dropAndSend x (logonMsg x (shouldSendReset x)) = y at hq hout
    exact ⟨W.logon (by simp [d1, d2, d3, hk, appFirst, isAdminKind]) hout.symm d2 rfl (fun h => Bool.noConfusion h)
      (fun _ => by rw [hq]; exact Q_nil _), fun _ _ => by show (false || m'.kind == "5") = false; rw [hk]; rfl⟩

/-- the ghost state at the start of an event: the connection marker of a successful connect comes first -/
def g8Start (g : G8) (s : Sess) (e : Ev) : G8 :=
  match e with
  | .connect => if (connect s).2 == "ok" then c8Step g .connected else g
  | _ => g

/-- CheckResetTime: at most one Logon written through `dropAndSend` (fine in every state: the automaton accepts a Logon
    anywhere on an open connection, the queue is dropped), plus bookkeeping the invariant does not read -/
theorem SK_checkResetTime (g : G8) (s : Sess) (now : Int) (hSK : SK g s) : SK g (checkResetTime s now) := by
  have hset : ∀ x : Sess, SK g x → SK g (x.setLastChecked now) := fun x hx => hx.congr rfl rfl rfl rfl rfl
  unfold checkResetTime
  split
  · exact hSK
  · split
    · exact hset _ hSK
    · split
      · exact hset _ hSK
      · refine hset _ ?_
        split
        · exact (p_sendLogon g s (logonMsg s true) rfl).st rfl hSK
        · exact hSK

theorem fuelOf_ge (s : Sess) {p : Nat} (k : Nat) (hp : p ≤ pend s) (hk : k ≤ 8) : 4 * p + k ≤ fuelOf s := by
  have := pend_le_inbox s
  unfold fuelOf
  omega

/-- a dispatch of its own beside `MachineBase.stepCore`: the arms read the guards -/
theorem SK_stepCore (g : G8) (s : Sess) (e : Ev) (hlog : s.log = []) (happ : appSend e = true) (hS : S g s) :
    SK (g8Start g s e) (stepCore s e).1 := by
  have hSK : SK g s := by unfold SK g8Of; rw [hlog]; exact hS
  obtain ⟨mS, mD, mI, mC⟩ := c8_mutual g (fuelOf s)
  have hC : ∀ a b, Keeps g s (checkSessionTime (fuelOf s) s a b) := fun a b => mC s a b (fuelOf_ge s 3 (Nat.le_refl _) (by decide))
  have hpC := (pend_mutual (fuelOf s)).2.2.2 s true true
  have setSt : ∀ {x : Sess} {r : Sess × SState}, T8 g x r → pend x ≤ pend s → SK g x → SK g (setState (fuelOf s) r.1 r.2) :=
    fun hT hp h => (hT.setState _ fun hc => mS _ _ hc (by rw [hT.fr.pend]; exact fuelOf_ge s 2 hp (by decide))).st h
  cases e with
  | connect => exact SK_connect g s hlog hS
  | incomingMsg m => exact (mI s m (fuelOf_ge s 4 (Nat.le_refl _) (by decide))).st hSK
  | arrive m =>
    show SK g (if s.inboxOpen = true then (s.setInbox (s.inbox ++ [m]), "ok") else (s, "noconn")).1
    split
    · exact hSK.congr rfl rfl rfl rfl rfl
    · exact hSK
  | pop =>
    show SK g (if (!s.inboxOpen) = true then (s, "none") else
      match s.inbox with
      | [] => (s, "none")
      | m :: rest => (incoming (fuelOf s) (s.setInbox rest) (some m), "ok")).1
    split
    · exact hSK
    · split
      · exact hSK
      · rename_i m rest hib
        have hp : pend (s.setInbox rest) ≤ rest.length := pend_le_inbox _
        have hl : s.inbox.length = rest.length + 1 := by rw [hib]; rfl
        exact (mI (s.setInbox rest) (some m) (by unfold fuelOf; omega)).st (hSK.congr rfl rfl rfl rfl rfl)
  | timeout ev =>
    show SK g (setState (fuelOf s) (timeoutCore (checkSessionTime (fuelOf s) s true true) ev).1
      (timeoutCore (checkSessionTime (fuelOf s) s true true) ev).2)
    exact setSt (t8_timeoutCore g _ ev) hpC ((hC true true).st hSK)
  | disconnected =>
    show SK g (if s.st.connected = true then setState (fuelOf s) s .latent else s)
    split
    · exact mS s .latent rfl (fuelOf_ge s 2 (Nat.le_refl _) (by decide)) hSK.1
    · exact hSK
  | stop =>
    show SK g (setState (fuelOf s) (stopNext s.setPendingStop).1 (stopNext s.setPendingStop).2)
    exact setSt (t8_stopNext g s.setPendingStop) (Nat.le_refl _) (hSK.congr rfl rfl rfl rfl rfl)
  | send m =>
    rw [stepCore_send]
    exact SK_queueForSend g s m (by simpa [appSend] using happ) hSK
  | flush =>
    show SK g (if (checkSessionTime (fuelOf s) s true true).st.loggedOn = true then sendQueued (checkSessionTime (fuelOf s) s true true)
      else (checkSessionTime (fuelOf s) s true true).setToSend [])
    have h1 := (hC true true).st hSK
    split
    · rename_i hl
      exact (p_flush g _ hl).st rfl h1
    · exact (p_setToSend_nil true g _).st rfl h1
  | sessionTime r sm => exact (hC r sm).st hSK
  | resetTime now => exact SK_checkResetTime g s now hSK

end Qfx.Sess
