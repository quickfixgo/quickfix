/-
  One engine step seen from the link: the peer's store and configuration are fixed during the step (`Ctx`).  What the
  verification pipeline does with a message the peer wrote (only the number checks can fail), and the handlers of its gap
  fill, Logon and ResendRequest as equations; the invariant (LinkK) and the exact results (LinkEff) both start from these.
  Last, on the session model alone: the initiator's `connect` with the reset options off.
-/
import Qfx.Lemmas.LinkStore
import Qfx.Lemmas.SessPool
namespace Qfx.Link
open Qfx Qfx.Sess

structure Ctx where
  cfg : Cfg                       -- the stepping engine's configuration
  pcfg : Cfg                      -- the peer's
  st0 : Store                     -- the stepping engine's store before the step
  P : Store                       -- the peer's store (fixed during the step)
  rcv : List (String × String)    -- the ghost table of payloads received by the stepping engine
  d0 : List String                -- payloads delivered before the step

structure CtxOK (c : Ctx) : Prop where
  persist : c.cfg.persist = true
  nr : NoResetCfg c.cfg
  snd : c.cfg.sender = c.pcfg.target
  tgt : c.cfg.target = c.pcfg.sender
  bs : c.cfg.bs = c.pcfg.bs
  ne1 : c.pcfg.sender ≠ ""
  ne2 : c.pcfg.target ≠ ""
  pok : StoreOK c.P
  bound : c.P.sender ≤ maxSeq
  /-- no data dictionary is configured on the stepping engine (the default validator, under any of its settings) -/
  vd : c.cfg.validator.app = none
  /-- EnableNextExpectedMsgSeqNum is off on the stepping engine (with it a Logon is followed by a gap fill over whatever the
      peer's tag 789 says is missing — application messages included: nothing is replayed) -/
  nx : c.cfg.nextExpected = false

/-- the ghost table knows the payload of `m` under its number -/
def Noted (rcv : List (String × String)) (m : OutMsg) : Prop :=
  ∀ p, m.f.get? 9000 = some p → payloadOf rcv (toString m.seq) = p

/-- what may be handed to the stepping engine, buffered or stashed: something the peer wrote, noted in the ghost table -/
def PoolP (c : Ctx) (im : InMsg) : Prop := ∃ m, im = toIn c.pcfg m ∧ Wire c.P m ∧ Noted c.rcv m

/-! `pf_*`: what the checks of `verifySelect` find in a message the peer wrote -/
section facts
variable {c : Ctx} (hc : CtxOK c) {s : Sess} (hs : s.cfg = c.cfg) {m : OutMsg} (hw : Wire c.P m)
include hc hs hw

omit hw in
theorem pf_begin : BeginOK s.cfg (toIn c.pcfg m) := by
  unfold BeginOK; rw [toIn_hdr _ _ 8 _ rfl, hs, hc.bs]

omit hw in
theorem pf_comp : CompOK s.cfg (toIn c.pcfg m) := by
  unfold CompOK
  rw [toIn_hdr _ _ 49 _ rfl, toIn_hdr _ _ 56 _ rfl, hs, hc.snd, hc.tgt]
  exact ⟨rfl, rfl, String.isEmpty_eq_false_iff.2 hc.ne1, String.isEmpty_eq_false_iff.2 hc.ne2⟩

omit hc hs hw in
theorem pf_time : TimeGate s (toIn c.pcfg m) :=
  Or.inr (Or.inr ⟨0, getTime_at0 _ _ (toIn_hdr _ _ 52 _ rfl), by omega, by omega⟩)

omit hs in
theorem pf_noEmpty : NoEmpty (toIn c.pcfg m) :=
  toIn_noEmpty _ _ hc.ne1 hc.ne2 (wire_facts hc.pok hc.bound hw).k (fun p hp => ((wire_facts hc.pok hc.bound hw).vals p hp).1)

theorem pf_valid : Valid s.cfg (toIn c.pcfg m) :=
  toIn_valid s.cfg c.pcfg m (pf_noEmpty hc hw) (wire_facts hc.pok hc.bound hw).ord (by rw [hs]; exact hc.vd)

omit hs in
theorem pf_cb : callbackVerdict (toIn c.pcfg m) = none := by
  unfold callbackVerdict
  rw [toIn_get_body _ _ 9001 (by decide), (wire_facts hc.pok hc.bound hw).absent (Or.inr rfl)]

omit hs in
theorem pf_seq : getInt (toIn c.pcfg m) 34 = .val m.seq :=
  getInt_of_get? _ _ _ (toIn_hdr _ _ 34 _ rfl) (wire_facts hc.pok hc.bound hw).in64

omit hs in
theorem pf_flag : logonResetFlag (toIn c.pcfg m) = false := by
  unfold logonResetFlag getBool
  rw [toIn_get_body _ _ 141 (by decide), (wire_facts hc.pok hc.bound hw).absent (Or.inl rfl)]

theorem verifySelect_pool (th tl ai : Bool) :
    verifySelect s (toIn c.pcfg m) th tl ai =
      if tl = true ∧ m.seq < s.store.target then (s, some (.tooLow m.seq s.store.target))
      else if th = true ∧ s.store.target < m.seq then (s, some (.tooHigh m.seq s.store.target))
      else if ai = true then (s.emit (cbObs s (toIn c.pcfg m)), none) else (s, none) := by
  have hai : (if ai = true then verifyAppImpl s (toIn c.pcfg m) else (s, none)) =
      if ai = true then (s.emit (cbObs s (toIn c.pcfg m)), none) else (s, none) := by
    cases ai
    · rfl
    · simp only [if_true]; rw [verifyAppImpl_pass s _ (pf_valid hc hs hw), pf_cb hc hw]
  rw [verifySelect_eq, hai]
  unfold firstReject checkTooLow checkTooHigh
  rw [(earlyCheck_none_iff s _).2 ⟨pf_begin hc hs, pf_comp hc hs, pf_time⟩, pf_seq hc hw]
  simp only []
  by_cases h1 : m.seq < s.store.target
  · cases tl
    · by_cases h2 : s.store.target < m.seq
      · omega
      · cases th <;> simp [h1, h2]
    · simp [h1]
  · by_cases h2 : s.store.target < m.seq
    · cases tl <;> cases th <;> simp [h1, h2]
    · cases tl <;> cases th <;> simp [h1, h2]

end facts

/-- the trivial policy of the SessPool frame: no constraint on observations, none on the store -/
abbrev TN : Obs → Prop := fun _ => True
abbrev TS : Store → Store → Prop := fun _ _ => True

theorem poolHyp_triv (P : InMsg → Prop) (cfg : Cfg) : PoolHyp (fun _ => True) (fun _ _ => True) P cfg :=
  fun _ hm => ⟨hm, fun _ _ => trivial, fun _ _ _ => trivial, fun _ _ _ => trivial, Or.inl triv_resetOK⟩

theorem cfgHyp_triv (cfg : Cfg) : CfgHyp (fun _ => True) (fun _ _ => True) cfg := Or.inl triv_resetOK

theorem cbObs_toIn (x : Sess) (pcfg : Cfg) (m : OutMsg) : cbObs x (toIn pcfg m) =
    if isAdminKind m.kind then .fromAdmin m.kind (toString m.seq) else .fromApp (toString m.seq) x.store.target := by
  unfold cbObs; rw [toIn_kind, toIn_seqText]

theorem checkTooLow_pool {c : Ctx} (hc : CtxOK c) {m : OutMsg} (hw : Wire c.P m) (x : Sess) : checkTooLow x (toIn c.pcfg m) =
    if m.seq < x.store.target then some (.tooLow m.seq x.store.target) else none := by
  unfold checkTooLow; rw [pf_seq hc hw]

theorem checkTooHigh_pool {c : Ctx} (hc : CtxOK c) {m : OutMsg} (hw : Wire c.P m) (x : Sess) : checkTooHigh x (toIn c.pcfg m) =
    if m.seq > x.store.target then some (.tooHigh m.seq x.store.target) else none := by
  unfold checkTooHigh; rw [pf_seq hc hw]

theorem kind_ne {c : Ctx} (hc : CtxOK c) {m : OutMsg} (hw : Wire c.P m) : kindOf (toIn c.pcfg m) ≠ "" := by
  rw [toIn_kind]; exact (wire_facts hc.pok hc.bound hw).k

theorem seqGate_pool {c : Ctx} (hc : CtxOK c) {m : OutMsg} (hw : Wire c.P m) (x : Sess) (st : SState) :
    (if (checkTooLow x (toIn c.pcfg m)).isSome = true then (x, st)
      else if (checkTooHigh x (toIn c.pcfg m)).isSome = true then (x, st) else (incrTarget x, st)) =
    if m.seq < x.store.target then (x, st) else if m.seq > x.store.target then (x, st) else (incrTarget x, st) := by
  rw [checkTooLow_pool hc hw, checkTooHigh_pool hc hw]
  by_cases h1 : m.seq < x.store.target
  · simp [h1]
  · by_cases h2 : m.seq > x.store.target <;> simp [h1, h2]

theorem handleResendRequest_pool {c : Ctx} (hc : CtxOK c) {s : Sess} (hs : s.cfg = c.cfg) {m : OutMsg} (hw : Wire c.P m) {b e : Int}
    (hb : getInt (toIn c.pcfg m) 7 = .val b) (he : getInt (toIn c.pcfg m) 16 = .val e) {s2 : Sess}
    (hs2 : resendMessages ((s.emit (cbObs s (toIn c.pcfg m))).setReplyLast (replyLastOf s (toIn c.pcfg m))) b
      (clipEnd s.cfg s.store.sender e) = s2) :
    handleResendRequest s (toIn c.pcfg m) =
      if m.seq < s2.store.target then (s2, .inSession) else if m.seq > s2.store.target then (s2, .inSession)
      else (incrTarget s2, .inSession) := by
  have hv : verifySelect s (toIn c.pcfg m) false false true = (s.emit (cbObs s (toIn c.pcfg m)), none) := by
    rw [verifySelect_pool hc hs hw]; simp
  rw [handleResendRequest_eq s _ _ b e hv hb he, ← hs2]
  exact seqGate_pool hc hw _ _

theorem logonFinish_pool {c : Ctx} (hc : CtxOK c) {m : OutMsg} (hw : Wire c.P m) (x : Sess) (hx : x.cfg = c.cfg) (ns : Int) :
    logonFinish x (toIn c.pcfg m) ns =
      if m.seq > (notified x).store.target then (notified x, some (.rej (.tooHigh m.seq (notified x).store.target)))
      else (incrTarget (notified x), none) :=
  logonFinish_of_nx (nxEval_off _ _ _ (by show x.cfg.nextExpected = false; rw [hx]; exact hc.nx)) (pf_seq hc hw)

theorem handleSequenceReset_pool {c : Ctx} (hc : CtxOK c) {s : Sess} (hs : s.cfg = c.cfg) {b e : Int} {l : Option Int}
    (hw : Wire c.P (gapFillL b e l)) :
    handleSequenceReset s (toIn c.pcfg (gapFillL b e l)) =
      if b < s.store.target then processReject s (toIn c.pcfg (gapFillL b e l)) (.tooLow b s.store.target)
      else if s.store.target < b then processReject s (toIn c.pcfg (gapFillL b e l)) (.tooHigh b s.store.target)
      else (((s.emit (cbObs s (toIn c.pcfg (gapFillL b e l)))).setTarget e).emit (.setT e), .inSession) := by
  obtain ⟨hbe, he, hlo, _⟩ := wire_gap hc.pok hw
  have hbound := hc.bound
  have h123 : getBool (toIn c.pcfg (gapFillL b e l)) 123 = .val true :=
    getBool_Y _ _ (by rw [toIn_get_body _ _ 123 (by decide)]; rfl)
  have h36 : getInt (toIn c.pcfg (gapFillL b e l)) 36 = .val e :=
    getInt_of_get? _ _ _ (by rw [toIn_get_body _ _ 36 (by decide)]; rfl) (by unfold inInt64; unfold maxSeq at hbound; omega)
  unfold handleSequenceReset
  rw [h123]
  simp only []
  rw [verifySelect_pool hc hs hw, show (gapFillL b e l).seq = b from rfl]
  by_cases h1 : b < s.store.target
  · simp only [true_and, h1, if_true]
  · by_cases h2 : s.store.target < b
    · simp only [true_and, h1, h2, if_true, if_false]
    · simp only [true_and, h1, h2, if_true, if_false]
      rw [h36]
      simp only []
      rw [if_pos (show e > (s.emit (cbObs s (toIn c.pcfg (gapFillL b e l)))).store.target by show s.store.target < e; omega)]

theorem handleLogon_pool {c : Ctx} (hc : CtxOK c) {s : Sess} (hs : s.cfg = c.cfg) {m : OutMsg} (hw : Wire c.P m)
    (h1137 : (s.cfg.bs == 5 && !(toIn c.pcfg m).f.has 1137) = false) :
    handleLogon s (toIn c.pcfg m) =
      if m.seq < s.store.target then (logonS2 s (toIn c.pcfg m), some (.rej (.tooLow m.seq s.store.target)))
      else logonFinish (logonReply (logonS2 s (toIn c.pcfg m)) (toIn c.pcfg m) false) (toIn c.pcfg m) s.store.sender := by
  obtain ⟨c2, _, t2, _⟩ := logonS2_frame s (toIn c.pcfg m)
  have hnr : logonResets s (toIn c.pcfg m) = false := by
    unfold logonResets; rw [pf_flag hc hw, hs, hc.nr.1]; cases c.cfg.initiator <;> rfl
  rw [handleLogon_eq, if_neg (by rw [h1137]; decide), show validate s.cfg _ = none from pf_valid hc hs hw, pf_cb hc hw]
  dsimp only
  rw [logonS3_of_noReset hnr, verifySelect_pool hc (c2.trans hs) hw, t2]
  by_cases hlow : m.seq < s.store.target
  · simp only [hlow, and_self, if_true]
  · simp only [hlow, and_false, Bool.false_eq_true, false_and, if_false]
    rw [logonTail_off _ _ _ (by rw [c2, hs]; exact hc.nx), pf_flag hc hw]

theorem connect_initiator_noReset (s : Sess) (h1 : s.st.connected = false) (h2 : s.st.sessionTime = true) (h3 : s.cfg.initiator = true)
    (hnr : NoResetCfg s.cfg) :
    connect s = ((sendLogonInReplyTo (if s.openConn.cfg.refreshOnLogon = true then s.openConn.emit .refresh else s.openConn) false).setSt .logon, "ok") := by
  have hx : (if s.openConn.cfg.refreshOnLogon = true then s.openConn.emit .refresh else s.openConn).cfg = s.cfg := by split <;> rfl
  have hb : connectBase s = if s.openConn.cfg.refreshOnLogon = true then s.openConn.emit .refresh else s.openConn := by
    unfold connectBase
    simp only []
    rw [if_neg (by rw [hx, hnr.1]; decide)]
  rw [connect_initiator s h1 h2 h3, hb, shouldSendReset_false _ (by rw [hx]; exact hnr)]

end Qfx.Link
