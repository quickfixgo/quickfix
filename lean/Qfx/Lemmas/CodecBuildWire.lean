/- C10/C13: the bytes of a built message are a well-formed wire message — BeginString, BodyLength, MsgType, the remaining header
   TagValues, the body's, the trailer's, CheckSum — with every TagValue traced back to the field of the message it comes from -/
import Qfx.Lemmas.CodecWire
import Qfx.Lemmas.CodecParseMsg
namespace Qfx
open Qfx.Spec

/-- what `build` writes is a clean frame, whatever the values are: BeginString, `9=N`, the MsgType field `t35 :: more`, the TagValues `others`
    of the remaining header fields, the body's, those of the trailer before CheckSum (`frontT`), `10=C` — `N` and `C` being what the frame
    says they are; every TagValue but the two cooked ones is held by a field of the message -/
theorem build_frame (m : Message) (hb : Built m) (tv8 : TagValue) (f35 : Field)
    (h8 : alFind m.header.lookup 8 = some (.owned [tv8])) (h35 : alFind m.header.lookup 35 = some f35)
    (bytes : Bytes) (m' : Message) (h : m.build Fixes.cur = .ok (bytes, m')) :
    ∃ (F : Frame) (more others frontT : List TagValue), F.Clean ∧ bytes = wireOf F.tvs ∧ F.t8 = tv8 ∧
      f35 = .owned (F.t35 :: more) ∧ F.mid = (more ++ others) ++ m.body.tvs m.fields ++ frontT ∧
      (∀ tv ∈ others, ∃ k, k ≠ 35 ∧ m.Holds .h k tv) ∧ (∀ tv ∈ frontT, ∃ k, k ≠ 10 ∧ m.Holds .t k tv) := by
  -- the cooked message: header `H'` with BodyLength `N`, trailer `T'` with CheckSum `C`
  obtain ⟨m2, hcook, hbytes, _⟩ := build_cook h
  obtain ⟨H', T', C, eH, eC, eT, e2, hb2⟩ := cook_built hb _ _ hcook
  generalize hN : m.header.length m.fields + m.body.length m.fields + m.trailer.length m.fields = N at eH
  rw [e2] at hbytes hb2
  have iH : FMInv H' := hb2.inv.h
  have iT : FMInv T' := hb2.inv.t
  have pH : SecProper .h H' := hb2.ph
  have pT : SecProper .t T' := hb2.pt
  have other9 : ∀ k, k ≠ 9 → alFind H'.lookup k = alFind m.header.lookup k := fun k hk => by rw [eH]; exact put_find_other _ _ _ _ hk
  have other10 : ∀ k, k ≠ 10 → alFind T'.lookup k = alFind m.trailer.lookup k := fun k hk => by rw [eT]; exact put_find_other _ _ _ _ hk
  have h9' : alFind H'.lookup 9 = some (.owned [TagValue.init 9 (fmtInt (N : Int))]) := by rw [eH]; exact put_find_self _ _ _
  have h10' : alFind T'.lookup 10 = some (.owned [TagValue.init 10 (digitsW 3 C)]) := by rw [eT]; exact put_find_self _ _ _
  obtain ⟨t35, more, others, hhead, eHt, ht35, clH, hprov⟩ :=
    header_tvs iH (eH ▸ hb.inv.oh) pH m.fields tv8 _ f35 ((other9 8 (by decide)).trans h8) h9' ((other9 35 (by decide)).trans h35)
  obtain ⟨frontT, eTt, clT, hprovT⟩ := trailer_tvs iT (eT ▸ hb.inv.ot) pT m.fields _ h10'
  have clB := body_tvs_clean hb.pb m.fields
  have t8tag : tv8.tag = 8 := by
    obtain ⟨tv, rest, hl, ht⟩ := hb.ph.head 8 _ h8
    injection hl with a b; subst a; exact ht
  have clean : ∀ tv ∈ t35 :: ((more ++ others) ++ m.body.tvs m.fields ++ frontT), ¬ isSpecialTag tv.tag := by
    simp only [List.forall_mem_cons, List.forall_mem_append] at clH ⊢
    exact ⟨by rw [ht35]; rintro (h | h | h) <;> exact absurd h (by decide), ⟨clH, clB⟩, clT⟩
  generalize hL : tv8 :: TagValue.init 9 (fmtInt (N : Int)) :: t35 ::
    (((more ++ others) ++ m.body.tvs m.fields ++ frontT) ++ [TagValue.init 10 (digitsW 3 C)]) = L
  have hLs : L = (tv8 :: TagValue.init 9 (fmtInt (N : Int)) :: t35 :: (more ++ others)) ++ m.body.tvs m.fields ++
      (frontT ++ [TagValue.init 10 (digitsW 3 C)]) := by rw [← hL]; simp only [List.cons_append, List.append_assoc]
  have hbL : bytes = wireOf L := by
    rw [hbytes, hLs, wireOf_append, wireOf_append, ← eHt, ← eTt, ← write_eq_wireOf, ← write_eq_wireOf, ← write_eq_wireOf]; rfl
  -- BodyLength: `length` does not see the two cooked fields
  have lenH : H'.length m.fields = m.header.length m.fields := by
    rw [eH]; exact hb.ph.put_special_length _ 9 _ rfl (Or.inr (Or.inl rfl))
  have lenT : T'.length m.fields = m.trailer.length m.fields := by
    rw [eT]; exact hb.pt.put_special_length _ 10 _ rfl (Or.inr (Or.inr rfl))
  have hNL : fieldsLength L = N := by
    rw [hLs, fieldsLength_append, fieldsLength_append, ← eHt, ← eTt, ← length_eq_fieldsLength iH, ← length_eq_fieldsLength hb.inv.b,
      ← length_eq_fieldsLength iT, lenH, lenT, hN]
  have hcl : Frame.Clean ⟨tv8, t35, (more ++ others) ++ m.body.tvs m.fields ++ frontT⟩ :=
    ⟨t8tag, ht35, fun tv htv => clean tv (List.mem_cons_of_mem _ htv)⟩
  -- CheckSum: `total` does not see the CheckSum field
  have totT : T'.total m.fields = m.trailer.total m.fields := by rw [eT]; exact hb.pt.put_10_total _ _ rfl
  have hsum : C = (wireOf (tv8 :: TagValue.init 9 (fmtInt (N : Int)) :: t35 :: ((more ++ others) ++ m.body.tvs m.fields ++ frontT))).sum % 256 := by
    rw [eC, ← totT, total_eq_fieldsTotal iH, total_eq_fieldsTotal hb.inv.b, total_eq_fieldsTotal iT, eHt, eTt, ← fieldsTotal_append,
      ← fieldsTotal_append, ← hLs, ← hL]
    exact congrArg (· % 256) (fieldsTotal_framed (tv8 :: _ :: t35 :: _) _ rfl (List.forall_mem_cons.2 ⟨by rw [t8tag]; decide,
      List.forall_mem_cons.2 ⟨show (9 : Tag) ≠ 10 by decide, fun tv htv => (hcl.inner tv htv).2.2⟩⟩))
  -- `N` is the byte count from MsgType up to CheckSum: `length` skips nothing there
  have hN : N = Frame.N ⟨tv8, t35, (more ++ others) ++ m.body.tvs m.fields ++ frontT⟩ := by
    rw [← hNL, ← hL, ← List.cons_append, fieldsLength_framed _ _ _ _ t8tag rfl rfl, fieldsLength_eq_len _ hcl.inner]; rfl
  refine ⟨⟨tv8, t35, (more ++ others) ++ m.body.tvs m.fields ++ frontT⟩, more, others, frontT, hcl, ?_, rfl, hhead, rfl, ?_, ?_⟩
  · rw [hbL, ← hL, hsum, hN, fmtInt_ofNat]; rfl
  · intro tv htv
    obtain ⟨k, f, hk, hk9, hf, hm⟩ := hprov tv htv
    exact ⟨k, hk, f, (other9 k hk9) ▸ hf, hm⟩
  · intro tv htv
    obtain ⟨k, f, hk, hf, hm⟩ := hprovT tv htv
    exact ⟨k, hk, f, (other10 k hk) ▸ hf, hm⟩

theorem build_frame_canon (m : Message) (hb : Built m) (hc : Wired m) (F : Frame) (more others frontT : List TagValue) (f35 : Field)
    (h8 : alFind m.header.lookup 8 = some (.owned [F.t8])) (h35 : alFind m.header.lookup 35 = some f35)
    (hhead : f35 = .owned (F.t35 :: more)) (hmid : F.mid = (more ++ others) ++ m.body.tvs m.fields ++ frontT)
    (provO : ∀ tv ∈ others, ∃ k, k ≠ 35 ∧ m.Holds .h k tv) (provT : ∀ tv ∈ frontT, ∃ k, k ≠ 10 ∧ m.Holds .t k tv) :
    ∀ tv ∈ F.t8 :: F.t35 :: F.mid, CanonTV tv ∧ tv.tag ≠ 212 := by
  have ofSec : ∀ (s : Sec) (k : Tag) (tv : TagValue), m.Holds s k tv → CanonTV tv ∧ tv.tag ≠ 212 := by
    intro s k tv ⟨f, hf, hm⟩
    obtain ⟨l, hl⟩ := hb.secOwned s k f hf
    subst hl
    exact hc.sec s k l hf tv hm
  have of35 : ∀ tv ∈ F.t35 :: more, CanonTV tv ∧ tv.tag ≠ 212 := fun tv htv => ofSec .h 35 tv ⟨f35, h35, by rw [hhead]; exact htv⟩
  intro tv htv
  rw [hmid] at htv
  simp only [List.mem_cons, List.mem_append] at htv
  rcases htv with e | e | ((e | e) | e) | e
  · exact ofSec .h 8 tv ⟨_, h8, by simp [Field.items, e]⟩
  · exact of35 tv (by simp [e])
  · exact of35 tv (by simp [e])
  · obtain ⟨k, _, hk⟩ := provO tv e; exact ofSec .h k tv hk
  · exact hc.cb.tvs hb.pb.owned m.fields tv e
  · obtain ⟨k, _, hk⟩ := provT tv e; exact ofSec .t k tv hk

/-- byte level: `build` = BeginString field ++ `9=<N>` ++ MID ++ `10=<ddd>` where MID starts with the MsgType field, N is the length of MID and
    ddd the three-digit byte sum mod 256 of everything before the CheckSum field -/
theorem build_structure (m : Message) (hb : Built m) (tv8 : TagValue) (f35 : Field)
    (h8 : alFind m.header.lookup 8 = some (.owned [tv8])) (h35 : alFind m.header.lookup 35 = some f35)
    (bytes : Bytes) (m' : Message) (h : m.build Fixes.cur = .ok (bytes, m')) :
    ∃ mid rest : Bytes,
      mid = fieldBytes m.fields f35 ++ rest ∧
      bytes = (tv8.bytes ++ (TagValue.init 9 (fmtNat mid.length)).bytes ++ mid) ++
        (TagValue.init 10 (digitsW 3 ((tv8.bytes ++ (TagValue.init 9 (fmtNat mid.length)).bytes ++ mid).sum % 256))).bytes := by
  obtain ⟨F, more, others, frontT, _, hbytes, e8, hhead, hmid, _, _⟩ := build_frame m hb tv8 f35 h8 h35 bytes m' h
  refine ⟨wireOf (F.t35 :: F.mid), wireOf (others ++ m.body.tvs m.fields ++ frontT), ?_, by rw [hbytes, ← e8]; exact F.bytes⟩
  rw [hhead, hmid]; simp [wireOf, fieldBytes, Field.items, List.flatMap_def]

theorem build_wire_msg (m : Message) (hb : Built m) (hc : Wired m) (tv8 : TagValue) (f35 : Field)
    (h8 : alFind m.header.lookup 8 = some (.owned [tv8])) (h35 : alFind m.header.lookup 35 = some f35)
    (bytes : Bytes) (m' : Message) (h : m.build Fixes.cur = .ok (bytes, m')) (hsmall : bytes.length < 9223372036854775808) :
    ∃ t9 t35 pre t10, bytes = wireOf (tv8 :: t9 :: t35 :: (pre ++ [t10])) ∧ WireMsg tv8 t9 t35 pre t10 ∧
      atoi t9.value = .ok ((fieldsLength (tv8 :: t9 :: t35 :: (pre ++ [t10])) : Nat) : Int) := by
  obtain ⟨F, more, others, frontT, hcl, hbytes, e8, hhead, hmid, pO, pT⟩ := build_frame m hb tv8 f35 h8 h35 bytes m' h
  subst e8
  obtain ⟨hwm, hbl⟩ := Frame.wireMsg hcl (build_frame_canon m hb hc F more others frontT f35 h8 h35 hhead hmid pO pT) (hbytes ▸ hsmall)
  exact ⟨F.t9, F.t35, F.mid, F.t10, hbytes, hwm, hbl⟩

theorem parse_built (fx : Fixes) (d : Dicts) (hng : ∀ t, NoGroupTag d t) (hh10 : isHeaderField d 10 = false)
    (m : Message) (hb : Built m) (hc : Wired m)
    (h8 : (alFind m.header.lookup 8).isSome = true) (h35 : (alFind m.header.lookup 35).isSome = true)
    (bytes : Bytes) (m' : Message) (h : m.build Fixes.cur = .ok (bytes, m')) (hsmall : bytes.length < 9223372036854775808) :
    ∃ t8 t9 t35 pre t10, WireMsg t8 t9 t35 pre t10 ∧ bytes = wireOf (t8 :: t9 :: t35 :: (pre ++ [t10])) ∧
      parseMessage fx d bytes = .ok (plainMessage d t8 t9 t35 pre t10) := by
  obtain ⟨tv8, hf8, _⟩ := hb.header8 h8
  obtain ⟨f35, hf35⟩ := Option.isSome_iff_exists.1 h35
  obtain ⟨t9, t35, pre, t10, hbytes, hwm, hbl⟩ := build_wire_msg m hb hc tv8 f35 hf8 hf35 bytes m' h hsmall
  exact ⟨tv8, t9, t35, pre, t10, hwm, hbytes,
    hbytes ▸ parse_wire_plain fx tv8 t9 t35 pre t10 hwm hbl (fun tv _ => hng tv.tag) (hng 10) hh10⟩

end Qfx
