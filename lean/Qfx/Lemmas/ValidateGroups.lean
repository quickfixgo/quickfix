/-
  Qfx.Lemmas.ValidateGroups — the walk of repeating groups (C15), followed along an instance tree (`Inst`, `InstOK`, `EntryOK` of
  Spec/ValidateTree.lean).  The conforming entries are passed by `groupLoop_entry` / `groupLoop_entries`, which take what happens
  afterwards as a continuation `R`, so that "conforming", "count mismatch", "required member missing" and "two members swapped"
  reuse one traversal of the entries in front of the bad one (the step through the members of the bad entry itself is an induction of
  its own for each of `EntryOK`, `EntryMissing`, `EntrySwapped`).
  Fuel: every statement has the form "for every fuel ≥ B" (`LoopIn`, `VisitIn`, `WalkIn`); B is wire fields × K + pending
  member definitions, K ≥ longest member list + 3.  The 3: a group costs two calls before its loop runs (visitField →
  visitGroup → groupLoop) and one step to leave it; `maxWidth` counts the delimiter, hence `ds.length + 4 ≤ K` for the
  members after it.
  Tags: a step at the pending definition `c` needs that the field in front of the loop is no tag of `c`'s subtree; `Ahead` says
  what can stand there, `GoodCs.ahead` turns it into that fact.  The rules `LoopIn.pass` / `.required` hold in front of the
  delimiter too (it drops the optional pending definitions and names the first required one), so a traversal never asks which
  case of `Ahead` it is in.
  In the middle of the file stands validateWalk's loop, one iteration at a time (`WalkIn`); the traversals of a defective entry come last.
-/
import Qfx.Spec.ValidateTree
import Qfx.Lemmas.Validate
import Qfx.Lemmas.ListFacts
namespace Qfx.Validate
open Qfx Qfx.Dict

theorem childTagsL_cons (c : FDef) (cs : List FDef) : childTagsL (c :: cs) = c.allTags ++ childTagsL cs := by
  simp [childTagsL, FDef.allTags]

/-- the tags of a member list are distinct: those under its first definition, those under the others, and no tag under both -/
theorem nodup_childTagsL_cons {c : FDef} {cs : List FDef} : (childTagsL (c :: cs)).Nodup ↔
    c.allTags.Nodup ∧ (childTagsL cs).Nodup ∧ ∀ a ∈ c.allTags, ∀ b ∈ childTagsL cs, a ≠ b := by
  rw [childTagsL_cons, List.nodup_append]

theorem childTags_eq (fd : FDef) : fd.childTags = childTagsL fd.fields := by
  cases fd; simp [FDef.childTags, FDef.fields]

theorem allTags_eq (fd : FDef) : fd.allTags = fd.tag :: childTagsL fd.fields := by
  rw [FDef.allTags, childTags_eq]

theorem maxWidth_eq (fd : FDef) : fd.maxWidth = max fd.fields.length (maxWidthL fd.fields) := by
  cases fd; simp [FDef.maxWidth, FDef.fields]

theorem maxWidthL_cons (c : FDef) (cs : List FDef) : maxWidthL (c :: cs) = max c.maxWidth (maxWidthL cs) := by
  simp [maxWidthL]

theorem tag_mem_allTags (fd : FDef) : fd.tag ∈ fd.allTags := by simp [FDef.allTags]

theorem childTags_sub_allTags (fd : FDef) {t : Nat} (h : t ∈ fd.childTags) : t ∈ fd.allTags := by
  simp [FDef.allTags, h]

theorem plain_fields (fd : FDef) (h : fd.isGroup = false) : fd.fields = [] := by
  cases hf : fd.fields with
  | nil => rfl
  | cons a b => simp [FDef.isGroup, hf] at h

theorem plain_childTags (fd : FDef) (h : fd.isGroup = false) : fd.childTags = [] := by
  rw [childTags_eq, plain_fields fd h]; rfl

theorem Inst.wire_cons (i : Inst) : ∃ w, i.wire = ⟨i.tag, i.headValue⟩ :: w := by
  cases i with
  | fld t v => exact ⟨[], by simp [Inst.wire, Inst.tag, Inst.headValue]⟩
  | grp t c es => exact ⟨wireLL es, by simp [Inst.wire, Inst.tag, Inst.headValue]⟩

theorem wire_grp_append (t : Nat) (c : Bytes) (es : List (List Inst)) (rest : List TV) :
    (Inst.grp t c es).wire ++ rest = ⟨t, c⟩ :: (wireLL es ++ rest) := by simp [Inst.wire]

theorem Inst.wire_length_pos (i : Inst) : 1 ≤ i.wire.length := by
  obtain ⟨w, h⟩ := i.wire_cons
  rw [h]; simp

theorem wireL_cons (i : Inst) (is : List Inst) : wireL (i :: is) = i.wire ++ wireL is := by simp [wireL]
theorem wireL_nil : wireL [] = [] := by simp [wireL]
theorem wireLL_cons (e : List Inst) (es : List (List Inst)) : wireLL (e :: es) = wireL e ++ wireLL es := by simp [wireLL]
theorem wireLL_nil : wireLL [] = [] := by simp [wireLL]

theorem wireL_append (a b : List Inst) : wireL (a ++ b) = wireL a ++ wireL b := by
  induction a with
  | nil => simp [wireL_nil]
  | cons i r ih => simp [wireL_cons, ih]

theorem wireLL_append (a b : List (List Inst)) : wireLL (a ++ b) = wireLL a ++ wireLL b := by
  induction a with
  | nil => simp [wireLL_nil]
  | cons e r ih => simp [wireLL_cons, ih]

theorem instOK_tag {fd : FDef} {i : Inst} (h : InstOK fd i) : fd.tag = i.tag := by
  cases h with
  | fld h1 _ => simpa [Inst.tag] using h1
  | grp h1 _ _ _ _ => simpa [Inst.tag] using h1

theorem entryOK_mem_tags : ∀ (cs : List FDef) (is : List Inst), EntryOK cs is → ∀ i ∈ is, i.tag ∈ childTagsL cs := by
  intro cs
  induction cs with
  | nil => intro is h; cases h; intro i hi; cases hi
  | cons c cs' ih =>
    intro is h i hi
    rw [childTagsL_cons]
    cases h with
    | nil _ => cases hi
    | skip _ h' _ => exact List.mem_append_right _ (ih _ h' i hi)
    | take h1 h2 =>
      rcases List.mem_cons.mp hi with e | hi'
      · exact List.mem_append_left _ (by rw [e, ← instOK_tag h1]; exact tag_mem_allTags c)
      · exact List.mem_append_right _ (ih _ h2 i hi')

theorem entryOK_head_tag (cs : List FDef) (i : Inst) (is : List Inst) (h : EntryOK cs (i :: is)) : i.tag ∈ childTagsL cs :=
  entryOK_mem_tags cs _ h i (List.mem_cons_self ..)

theorem entryMissing_head_tag {d : FDef} {cs : List FDef} {l : List Inst} (h : EntryMissing d cs l) :
    ∀ i is, l = i :: is → i.tag ∈ childTagsL cs := by
  induction h with
  | miss _ he =>
    intro i is e; subst e
    rw [childTagsL_cons]
    exact List.mem_append_right _ (entryOK_head_tag _ i is he)
  | skip _ _ ih =>
    intro i is e
    rw [childTagsL_cons]
    exact List.mem_append_right _ (ih i is e)
  | take h1 _ _ =>
    intro i is e
    simp only [List.cons.injEq] at e
    rw [childTagsL_cons, ← e.1]
    exact List.mem_append_left _ (by rw [← instOK_tag h1]; exact tag_mem_allTags _)

theorem visitField_plain (tc : Bool) (k : Nat) (fd : FDef) (st : List TV) (h : fd.isGroup = false) :
    visitFieldW tc (k + 1) fd st = .ok (st.drop 1) := by
  simp [visitFieldW, h]

theorem visitField_group (tc : Bool) (k : Nat) (fd : FDef) (cnt : TV) (st : List TV) (h : fd.isGroup = true) :
    visitFieldW tc (k + 2) fd (cnt :: st) =
      match readCount cnt.value with
      | none => rej 6 cnt.tag
      | some n =>
        match groupLoopW tc k fd st [] 0 with
        | .error e => .error e
        | .ok (st', count) => if (count : Int) ≠ n then rej 16 cnt.tag else .ok st' := by
  simp only [visitFieldW, h, if_true, visitGroupW]
  rfl

theorem groupLoop_nil (tc : Bool) (k : Nat) (fd : FDef) (cs : List FDef) (count : Nat) :
    groupLoopW tc (k + 1) fd [] cs count = .ok ([], count) := by
  simp [groupLoopW]

section
variable (tc : Bool) (k : Nat) {fd d0 : FDef} {ds : List FDef} (f : TV) (st : List TV) (cs : List FDef) (count : Nat)
  (hfields : fd.fields = d0 :: ds)
include hfields

/-- one iteration of the group loop at a field that does not begin an entry … -/
theorem groupLoop_off (hne : f.tag ≠ d0.tag) :
    groupLoopW tc (k + 1) fd (f :: st) cs count =
      match cs with
      | [] => .ok (f :: st, count)
      | c :: cs' =>
        if f.tag = c.tag then
          match visitFieldW tc k c (f :: st) with
          | .error e => .error e
          | .ok st' => groupLoopW tc k fd st' cs' count
        else if c.req then rej 1 c.tag else groupLoopW tc k fd (f :: st) cs' count := by
  have hb : (f.tag == d0.tag) = false := by simpa using hne
  cases cs <;> simp only [groupLoopW, hfields, hb, Bool.false_and, Bool.false_eq_true, if_false, beq_iff_eq] <;> rfl

/-- … and at the delimiter: the `fix:` asks for the required definitions still pending, then the member list starts again -/
theorem groupLoop_at (heq : f.tag = d0.tag) :
    groupLoopW tc (k + 1) fd (f :: st) cs count =
      match (if tc then cs.find? (·.req) else none) with
      | some c => rej 1 c.tag
      | none =>
        match visitFieldW tc k d0 (f :: st) with
        | .error e => .error e
        | .ok st' => groupLoopW tc k fd st' ds (count + 1) := by
  have hb : (f.tag == d0.tag) = true := by simpa using heq
  simp only [groupLoopW, hfields, hb, Bool.true_and, if_true]
  cases tc <;> rfl

end

/-- in front of the delimiter the loop only asks whether a REQUIRED definition is pending: an optional one may be dropped -/
theorem groupLoop_pass_delim (tc : Bool) (k : Nat) (fd d0 : FDef) (ds : List FDef) (f : TV) (st : List TV) (c : FDef)
    (cs : List FDef) (count : Nat) (hfields : fd.fields = d0 :: ds) (heq : f.tag = d0.tag) (hreq : c.req = false) :
    groupLoopW tc k fd (f :: st) (c :: cs) count = groupLoopW tc k fd (f :: st) cs count := by
  cases k with
  | zero => simp only [groupLoopW]
  | succ k => simp only [groupLoop_at tc k f st _ count hfields heq, List.find?_cons, hreq]

/-!
  `LoopIn B … r`: the group loop answers `r` whenever it is given at least `B` units of fuel (`VisitIn` the same for the walk
  of one definition).  The steps compose with `max`: a call passes its fuel less one to whatever it calls. -/
def LoopIn (B : Nat) (fd : FDef) (st : List TV) (cs : List FDef) (count : Nat) (r : V (List TV × Nat)) : Prop :=
  ∀ fuel, B ≤ fuel → groupLoopW true fuel fd st cs count = r

def VisitIn (B : Nat) (fd : FDef) (st : List TV) (r : V (List TV)) : Prop :=
  ∀ fuel, B ≤ fuel → visitFieldW true fuel fd st = r

theorem LoopIn.mono {B B' : Nat} {fd : FDef} {st : List TV} {cs : List FDef} {count : Nat} {r : V (List TV × Nat)}
    (h : LoopIn B fd st cs count r) (hle : B ≤ B') : LoopIn B' fd st cs count r :=
  fun fuel hf => h fuel (Nat.le_trans hle hf)

theorem VisitIn.mono {B B' : Nat} {fd : FDef} {st : List TV} {r : V (List TV)} (h : VisitIn B fd st r) (hle : B ≤ B') :
    VisitIn B' fd st r :=
  fun fuel hf => h fuel (Nat.le_trans hle hf)

/-- the device of all rules: from fuel `k + 1`, `k ≥ B`, to every fuel `≥ B + 1` -/
theorem succ_fuel {B : Nat} {P : Nat → Prop} (h : ∀ k, B ≤ k → P (k + 1)) : ∀ fuel, B + 1 ≤ fuel → P fuel
  | k + 1, hf => h k (Nat.le_of_succ_le_succ hf)

section
variable {fd d0 : FDef} {ds : List FDef} (hfields : fd.fields = d0 :: ds)
include hfields

theorem LoopIn.take {a b : Nat} {c : FDef} {cs : List FDef} {i : Inst} {rest : List TV} {count : Nat}
    {r : V (List TV × Nat)} (htag : c.tag = i.tag) (hd : i.tag ≠ d0.tag)
    (hv : VisitIn a c (i.wire ++ rest) (.ok rest)) (hl : LoopIn b fd rest cs count r) :
    LoopIn (max a b + 1) fd (i.wire ++ rest) (c :: cs) count r :=
  succ_fuel fun k hk => by
    have hv := hv k (Nat.le_trans (Nat.le_max_left a b) hk)
    obtain ⟨w, hw⟩ := i.wire_cons
    rw [hw, List.cons_append] at hv ⊢
    simp only [groupLoop_off true k ⟨i.tag, i.headValue⟩ _ (c :: cs) count hfields hd, if_pos htag.symm, hv]
    exact hl k (Nat.le_trans (Nat.le_max_right a b) hk)

/-- at the delimiter with no required definition pending: the member list starts again, the count goes up -/
theorem LoopIn.begin {a b : Nat} {cs : List FDef} {i0 : Inst} {rest : List TV} {count : Nat}
    {r : V (List TV × Nat)} (hi0 : i0.tag = d0.tag) (hopt : ∀ d ∈ cs, d.req = false)
    (hv : VisitIn a d0 (i0.wire ++ rest) (.ok rest)) (hl : LoopIn b fd rest ds (count + 1) r) :
    LoopIn (max a b + 1) fd (i0.wire ++ rest) cs count r :=
  succ_fuel fun k hk => by
    have hv := hv k (Nat.le_trans (Nat.le_max_left a b) hk)
    obtain ⟨w, hw⟩ := i0.wire_cons
    rw [hw, List.cons_append] at hv ⊢
    have hfind : cs.find? (·.req) = none := List.find?_eq_none.2 fun x hx => by simp [hopt x hx]
    simp only [groupLoop_at true k ⟨i0.tag, i0.headValue⟩ _ cs count hfields hi0, if_true, hfind, hv]
    exact hl k (Nat.le_trans (Nat.le_max_right a b) hk)

theorem LoopIn.pass {b : Nat} {c : FDef} {cs : List FDef} {st : List TV} {count : Nat} {r : V (List TV × Nat)}
    (hne : HeadNotIn c.allTags st) (hreq : c.req = false) (hl : LoopIn b fd st cs count r) :
    LoopIn (b + 1) fd st (c :: cs) count r := by
  cases st with
  | nil =>
    exact succ_fuel fun k hk => by rw [← hl (k + 1) (Nat.le_succ_of_le hk), groupLoop_nil, groupLoop_nil]
  | cons f st =>
    have hc : f.tag ≠ c.tag := fun e => hne f st rfl (e ▸ tag_mem_allTags c)
    by_cases hd : f.tag = d0.tag
    · intro fuel hf
      rw [groupLoop_pass_delim true fuel fd d0 ds f st c cs count hfields hd hreq]
      exact hl fuel (Nat.le_of_succ_le hf)
    · exact succ_fuel fun k hk => by
        simp only [groupLoop_off true k f st (c :: cs) count hfields hd, if_neg hc, hreq, Bool.false_eq_true, if_false]
        exact hl k hk

/-- no definition pending: the group is complete in front of the field -/
theorem LoopIn.done {f : TV} {st : List TV} {count : Nat} (hd : f.tag ≠ d0.tag) :
    LoopIn 1 fd (f :: st) [] count (.ok (f :: st, count)) :=
  succ_fuel (B := 0) fun k _ => groupLoop_off true k f st [] count hfields hd

/-- at the delimiter with a required definition pending (the `fix:`) -/
theorem LoopIn.pending {c : FDef} {cs : List FDef} {f : TV} {st : List TV} {count : Nat} (heq : f.tag = d0.tag)
    (hfind : cs.find? (·.req) = some c) : LoopIn 1 fd (f :: st) cs count (rej 1 c.tag) :=
  succ_fuel (B := 0) fun k _ => by simp only [groupLoop_at true k f st cs count hfields heq, if_true, hfind]

theorem LoopIn.required {c : FDef} {cs : List FDef} {f : TV} {st : List TV} {count : Nat}
    (hne : HeadNotIn c.allTags (f :: st)) (hreq : c.req = true) : LoopIn 1 fd (f :: st) (c :: cs) count (rej 1 c.tag) := by
  have hc : f.tag ≠ c.tag := fun e => hne f st rfl (e ▸ tag_mem_allTags c)
  by_cases hd : f.tag = d0.tag
  · exact LoopIn.pending hfields hd (by simp [hreq])
  · exact succ_fuel (B := 0) fun k _ => by
      simp only [groupLoop_off true k f st (c :: cs) count hfields hd, if_neg hc, hreq, if_true]

end

theorem LoopIn.nil (fd : FDef) (cs : List FDef) (count : Nat) : LoopIn 1 fd [] cs count (.ok ([], count)) :=
  succ_fuel (B := 0) fun k _ => groupLoop_nil true k fd cs count

theorem VisitIn.plain {fd : FDef} (st : List TV) (h : fd.isGroup = false) : VisitIn 1 fd st (.ok (st.drop 1)) :=
  succ_fuel (B := 0) fun k _ => visitField_plain true k fd st h

theorem VisitIn.group {b : Nat} {fd d0 : FDef} {ds : List FDef} {cnt : TV} {st : List TV} {n : Int} {r : V (List TV × Nat)}
    (hfields : fd.fields = d0 :: ds) (hcount : readCount cnt.value = some n) (hl : LoopIn b fd st [] 0 r) :
    VisitIn (b + 2) fd (cnt :: st)
      (match (generalizing := false) r with
       | .error e => .error e
       | .ok (st', count) => if (count : Int) ≠ n then rej 16 cnt.tag else .ok st') :=
  succ_fuel (succ_fuel fun k hk => by
    rw [visitField_group true k fd cnt st (by simp [FDef.isGroup, hfields])]
    simp only [hcount, hl k hk])

/-! the bounds of the steps in closed form: `LoopIn.take`, `.pass`, `.begin`, `VisitIn.group` -/

theorem fuel_take (A L K c F : Nat) : max (A * K) (L * K + c + F) + 1 ≤ (A + L) * K + (c + 1) + F := by
  rw [Nat.add_mul]; omega

theorem fuel_skip (X c F : Nat) : X + c + F + 1 ≤ X + (c + 1) + F := by omega

/-- an entry starts: the delimiter's instance (`A ≥ 1` wire fields) pays for the member definitions that were pending -/
theorem fuel_begin {A M K D F c : Nat} (hA : 1 ≤ A) (hD : D + 4 ≤ K) (hF : 1 ≤ F) :
    max (A * K) (M * K + D + F) + 1 ≤ c + ((A + M) * K + F) := by
  have := Nat.mul_le_mul_right K hA
  rw [Nat.add_mul]; omega

theorem fuel_group {L K : Nat} (hK : 3 ≤ K) : L * K + 1 + 2 ≤ (L + 1) * K := by
  rw [Nat.add_mul]; omega

theorem fuel_walk {A L K F : Nat} (hA : 1 ≤ A) (hK : 3 ≤ K) (hF : 1 ≤ F) :
    max (A * K) (L * K + F) + 1 ≤ (A + L) * K + F := by
  have := Nat.mul_le_mul_right K hA
  rw [Nat.add_mul]; omega

/-- what the loop needs to know about the member definitions not yet reached in the current entry -/
structure GoodCs (K : Nat) (fd d0 : FDef) (cs : List FDef) : Prop where
  nodup : (childTagsL cs).Nodup
  sub : ∀ t ∈ childTagsL cs, t ∈ childTagsL fd.fields
  nodelim : d0.tag ∉ childTagsL cs
  width : maxWidthL cs + 3 ≤ K

theorem GoodCs.tail {K : Nat} {fd d0 c : FDef} {cs : List FDef} (h : GoodCs K fd d0 (c :: cs)) : GoodCs K fd d0 cs := by
  have hn := nodup_childTagsL_cons.1 h.nodup
  refine ⟨hn.2.1, fun t ht => h.sub t (by rw [childTagsL_cons]; exact List.mem_append_right _ ht),
    fun hm => h.nodelim (by rw [childTagsL_cons]; exact List.mem_append_right _ hm), ?_⟩
  have := h.width
  rw [maxWidthL_cons] at this
  omega

theorem GoodCs.head_nodup {K : Nat} {fd d0 c : FDef} {cs : List FDef} (h : GoodCs K fd d0 (c :: cs)) : c.TagsNodup := by
  have hn := nodup_childTagsL_cons.1 h.nodup
  exact hn.1

theorem GoodCs.head_width {K : Nat} {fd d0 c : FDef} {cs : List FDef} (h : GoodCs K fd d0 (c :: cs)) :
    c.maxWidth + 3 ≤ K := by
  have := h.width
  rw [maxWidthL_cons] at this
  omega

theorem GoodCs.head_tag_ne {K : Nat} {fd d0 c : FDef} {cs : List FDef} (h : GoodCs K fd d0 (c :: cs)) :
    c.tag ≠ d0.tag :=
  fun e => h.nodelim (by rw [childTagsL_cons, ← e]; exact List.mem_append_left _ (tag_mem_allTags c))

theorem fields_nodup {fd d0 : FDef} {ds : List FDef} (hnd : fd.TagsNodup) (hfields : fd.fields = d0 :: ds) :
    (childTagsL (d0 :: ds)).Nodup := by
  have := hnd
  rw [FDef.TagsNodup, allTags_eq, hfields, List.nodup_cons] at this
  exact this.2

theorem GoodCs.initial {K : Nat} {fd d0 : FDef} {ds : List FDef} (hnd : fd.TagsNodup) (hfields : fd.fields = d0 :: ds)
    (hw : fd.maxWidth + 3 ≤ K) : GoodCs K fd d0 ds := by
  have hn := nodup_childTagsL_cons.1 (fields_nodup hnd hfields)
  refine ⟨hn.2.1, fun t ht => by rw [hfields, childTagsL_cons]; exact List.mem_append_right _ ht,
    fun hm => hn.2.2 _ (tag_mem_allTags d0) _ hm rfl, ?_⟩
  rw [maxWidth_eq, hfields, maxWidthL_cons] at hw
  omega

theorem GoodCs.nil (K : Nat) (fd d0 : FDef) (hK : 3 ≤ K) : GoodCs K fd d0 [] :=
  ⟨by simp [childTagsL], by simp [childTagsL], by simp [childTagsL], by simp [maxWidthL]; omega⟩

theorem delim_facts {K : Nat} {fd d0 : FDef} {ds : List FDef} (hnd : fd.TagsNodup) (hfields : fd.fields = d0 :: ds)
    (hw : fd.maxWidth + 3 ≤ K) :
    d0.TagsNodup ∧ d0.maxWidth + 3 ≤ K ∧ ds.length + 4 ≤ K := by
  have hn := nodup_childTagsL_cons.1 (fields_nodup hnd hfields)
  refine ⟨hn.1, ?_, ?_⟩
  · rw [maxWidth_eq, hfields, maxWidthL_cons] at hw; omega
  · rw [maxWidth_eq, hfields] at hw; simp only [List.length_cons] at hw; omega

/-- what may stand in front of the loop while the definitions `cs` are pending: nothing, an instance of one of `cs`, the
    delimiter of a further entry, or a field that is no tag of the group (`cs = []`: what may follow a whole entry) -/
def Ahead (fd d0 : FDef) (cs : List FDef) (l : List TV) : Prop :=
  ∀ f r, l = f :: r → f.tag ∈ childTagsL cs ∨ f.tag = d0.tag ∨ f.tag ∉ childTagsL fd.fields

theorem Ahead.of_nil {fd d0 : FDef} {cs : List FDef} {l : List TV} (h : Ahead fd d0 [] l) : Ahead fd d0 cs l :=
  fun f r e => .inr ((h f r e).resolve_left (by simp [childTagsL]))

theorem ahead_field {fd d0 : FDef} {cs : List FDef} {f : TV} (hin : f.tag ∈ childTagsL cs) (st : List TV) :
    Ahead fd d0 cs (f :: st) :=
  fun _ _ e => .inl ((List.cons.inj e).1 ▸ hin)

theorem ahead_inst {fd d0 : FDef} {cs : List FDef} {i : Inst} (h : i.tag ∈ childTagsL cs ∨ i.tag = d0.tag) (is : List Inst)
    (x : List TV) : Ahead fd d0 cs (wireL (i :: is) ++ x) := by
  obtain ⟨w, hw⟩ := i.wire_cons
  intro f r e
  rw [wireL_cons, hw] at e
  simp only [List.cons_append, List.cons.injEq] at e
  exact h.elim (fun h => .inl (e.1 ▸ h)) (fun h => .inr (.inl (e.1 ▸ h)))

theorem ahead_entries {fd d0 : FDef} {tail : List TV} : ∀ (es : List (List Inst)),
    (∀ e ∈ es, ∃ i0 r, e = i0 :: r ∧ i0.tag = d0.tag) → Ahead fd d0 [] tail → Ahead fd d0 [] (wireLL es ++ tail) := by
  intro es hdel ht
  cases es with
  | nil => rw [wireLL_nil, List.nil_append]; exact ht
  | cons e es' =>
    obtain ⟨i0, r, rfl, hi0⟩ := hdel _ (List.mem_cons_self ..)
    rw [wireLL_cons, List.append_assoc]
    exact ahead_inst (.inr hi0) r _

theorem ahead_entry {fd d0 : FDef} {cs : List FDef} {is : List Inst} {after : List TV}
    (hhead : ∀ i is', is = i :: is' → i.tag ∈ childTagsL cs) (hafter : Ahead fd d0 [] after) :
    Ahead fd d0 cs (wireL is ++ after) := by
  cases is with
  | nil => rw [wireL_nil]; exact hafter.of_nil
  | cons i is' => exact ahead_inst (.inl (hhead i is' rfl)) is' after

/-- every tag fact a step at the definition `c` needs: what is ahead is no tag of `c`'s subtree -/
theorem GoodCs.ahead {K : Nat} {fd d0 c : FDef} {cs : List FDef} (hg : GoodCs K fd d0 (c :: cs)) {l : List TV}
    (h : Ahead fd d0 cs l) : HeadNotIn c.allTags l := by
  intro f r e hm
  have hn := nodup_childTagsL_cons.1 hg.nodup
  rcases h f r e with h | h | h
  · exact hn.2.2 _ hm _ h rfl
  · exact hg.nodelim (by rw [childTagsL_cons, ← h]; exact List.mem_append_left _ hm)
  · exact h (hg.sub _ (by rw [childTagsL_cons]; exact List.mem_append_left _ hm))

theorem HeadNotIn.child {c : FDef} {l : List TV} (h : HeadNotIn c.allTags l) : HeadNotIn c.childTags l :=
  fun f r e hm => h f r e (childTags_sub_allTags c hm)

theorem headNotIn_field {S : List Nat} {f : TV} (h : f.tag ∉ S) (st : List TV) : HeadNotIn S (f :: st) :=
  fun _ _ e => (List.cons.inj e).1 ▸ h

/-- the same for the members of the delimiter itself: its own tag may follow (the next entry begins) -/
theorem delim_ahead {fd d0 : FDef} {ds : List FDef} (hnd : fd.TagsNodup) (hfields : fd.fields = d0 :: ds) {l : List TV}
    (h : Ahead fd d0 ds l) : HeadNotIn d0.childTags l := by
  intro f r e hm
  have hn := nodup_childTagsL_cons.1 (fields_nodup hnd hfields)
  rcases h f r e with h | h | h
  · exact hn.2.2 _ (childTags_sub_allTags d0 hm) _ h rfl
  · exact (List.nodup_cons.mp hn.1).1 (h ▸ hm)
  · exact h (by rw [hfields, childTagsL_cons]; exact List.mem_append_left _ (childTags_sub_allTags d0 hm))

theorem groupLoop_tail_out {fd d0 : FDef} {ds : List FDef} (hfields : fd.fields = d0 :: ds) (rest : List TV)
    (hrest : HeadNotIn (childTagsL fd.fields) rest) :
    ∀ (cs : List FDef) (count : Nat), (∀ d ∈ cs, d.req = false) → (∀ t ∈ childTagsL cs, t ∈ childTagsL fd.fields) →
      LoopIn (cs.length + 1) fd rest cs count (.ok (rest, count)) := by
  intro cs
  induction cs with
  | nil =>
    intro count _ _
    cases rest with
    | nil => exact LoopIn.nil fd [] count
    | cons f r =>
      exact LoopIn.done hfields fun e => hrest f r rfl (by
        rw [hfields, childTagsL_cons, e]; exact List.mem_append_left _ (tag_mem_allTags d0))
  | cons c cs' ih =>
    intro count hopt hsub
    rw [childTagsL_cons] at hsub
    exact (ih count (fun d hd => hopt d (List.mem_cons_of_mem _ hd)) (fun t ht => hsub t (List.mem_append_right _ ht))).pass
      hfields (fun f r e hm => hrest f r e (hsub _ (List.mem_append_left _ hm))) (hopt c (List.mem_cons_self ..))

theorem wire_le_wireL {i : Inst} : ∀ {is : List Inst}, i ∈ is → i.wire.length ≤ (wireL is).length
  | j :: is, h => by
    rw [wireL_cons, List.length_append]
    rcases List.mem_cons.1 h with rfl | h'
    · exact Nat.le_add_right _ _
    · exact Nat.le_trans (wire_le_wireL h') (Nat.le_add_left _ _)

theorem wire_le_wireLL {i : Inst} {e : List Inst} (hi : i ∈ e) : ∀ {es : List (List Inst)}, e ∈ es →
    i.wire.length ≤ (wireLL es).length
  | e' :: es, h => by
    rw [wireLL_cons, List.length_append]
    rcases List.mem_cons.1 h with rfl | h'
    · exact Nat.le_trans (wire_le_wireL hi) (Nat.le_add_right _ _)
    · exact Nat.le_trans (wire_le_wireLL hi h') (Nat.le_add_left _ _)

/-- the statement of `visitField_conforming` for instances of at most `n` wire fields (induction hypothesis) -/
def VisitOK (K n : Nat) : Prop := ∀ (fd : FDef) (i : Inst) (rest : List TV), i.wire.length ≤ n → InstOK fd i →
  fd.maxWidth + 3 ≤ K → fd.TagsNodup → HeadNotIn fd.childTags rest → VisitIn (i.wire.length * K) fd (i.wire ++ rest) (.ok rest)

/-- the step every traversal of an entry takes at an instance of the pending definition `c` -/
theorem GoodCs.take {K n : Nat} (hvis : VisitOK K n) {fd d0 c : FDef} {ds cs : List FDef} (hfields : fd.fields = d0 :: ds)
    (hg : GoodCs K fd d0 (c :: cs)) {i : Inst} {is : List Inst} {after : List TV} (hinst : InstOK c i)
    (hn : i.wire.length ≤ n) (ha : Ahead fd d0 cs (wireL is ++ after)) {F count : Nat} {r : V (List TV × Nat)}
    (hl : LoopIn ((wireL is).length * K + cs.length + F) fd (wireL is ++ after) cs count r) :
    LoopIn ((wireL (i :: is)).length * K + (cs.length + 1) + F) fd (wireL (i :: is) ++ after) (c :: cs) count r := by
  have htag := instOK_tag hinst
  have hv := hvis c i (wireL is ++ after) hn hinst hg.head_width hg.head_nodup (hg.ahead ha).child
  rw [wireL_cons, List.append_assoc, List.length_append]
  exact (LoopIn.take hfields htag (htag ▸ hg.head_tag_ne) hv hl).mono (fuel_take _ _ _ _ _)

/-- the remaining members of one conforming entry; what follows (`after`) is handled by `hR` -/
theorem groupLoop_entry {K n : Nat} (hvis : VisitOK K n) {fd d0 : FDef} {ds : List FDef} (hfields : fd.fields = d0 :: ds)
    (after : List TV) (hafter : Ahead fd d0 [] after) (F : Nat) (R : Nat → V (List TV × Nat))
    (hR : ∀ cs' count', (∀ d ∈ cs', d.req = false) → GoodCs K fd d0 cs' →
        LoopIn (cs'.length + F) fd after cs' count' (R count')) :
    ∀ (cs : List FDef) (is : List Inst) (count : Nat), GoodCs K fd d0 cs → EntryOK cs is → (∀ i ∈ is, i.wire.length ≤ n) →
      LoopIn ((wireL is).length * K + cs.length + F) fd (wireL is ++ after) cs count (R count) := by
  intro cs
  induction cs with
  | nil =>
    intro is count hg he _
    cases he with
    | nil hall => rw [wireL_nil]; exact (hR [] count hall hg).mono (by simp)
  | cons c cs' ih =>
    intro is count hg he hn
    cases he with
    | nil hall => rw [wireL_nil]; exact (hR (c :: cs') count hall hg).mono (by simp)
    | skip hreq he' _ =>
      exact ((ih _ count hg.tail he' hn).pass hfields
        (hg.ahead (ahead_entry (fun j js e => entryOK_head_tag cs' j js (e ▸ he')) hafter)) hreq).mono (fuel_skip _ _ _)
    | take hinst he' =>
      exact hg.take hvis hfields hinst (hn _ (List.mem_cons_self ..))
        (ahead_entry (fun j js e => entryOK_head_tag cs' j js (e ▸ he')) hafter)
        (ih _ count hg.tail he' (fun j hj => hn j (List.mem_cons_of_mem _ hj)))

/-- the entries of a conforming group from an entry boundary on (optional definitions may be pending there); what follows the
    group (`tail`) is handled by `hR`, and the statement has the form of `hR`, so that it is the continuation of its own last entry -/
theorem groupLoop_entries {K n : Nat} (hvis : VisitOK K n) {fd d0 : FDef} {ds : List FDef} (hfields : fd.fields = d0 :: ds)
    (hnd : fd.TagsNodup) (hw : fd.maxWidth + 3 ≤ K)
    (tail : List TV) (htail : Ahead fd d0 [] tail) (F : Nat) (hF : 1 ≤ F) (R : Nat → V (List TV × Nat))
    (hR : ∀ cs' count', (∀ d ∈ cs', d.req = false) → GoodCs K fd d0 cs' →
        LoopIn (cs'.length + F) fd tail cs' count' (R count')) :
    ∀ (es : List (List Inst)), (∀ e ∈ es, ∃ i0 r, e = i0 :: r ∧ i0.tag = d0.tag) → (∀ e ∈ es, EntryOK (d0 :: ds) e) →
    (∀ e ∈ es, ∀ i ∈ e, i.wire.length ≤ n) →
    ∀ cs' count', (∀ d ∈ cs', d.req = false) → GoodCs K fd d0 cs' →
      LoopIn (cs'.length + ((wireLL es).length * K + F)) fd (wireLL es ++ tail) cs' count' (R (count' + es.length)) := by
  intro es
  induction es with
  | nil =>
    intro _ _ _ cs' count' hopt hg
    simpa [wireLL_nil] using hR cs' count' hopt hg
  | cons e es' ih =>
    intro hdel hok hes cs' count' hopt _
    obtain ⟨i0, r, rfl, hi0⟩ := hdel _ (List.mem_cons_self ..)
    have hdel' : ∀ e ∈ es', ∃ i0 r, e = i0 :: r ∧ i0.tag = d0.tag := fun e he => hdel e (List.mem_cons_of_mem _ he)
    have ⟨hinst0, her⟩ : InstOK d0 i0 ∧ EntryOK ds r := by
      cases hok _ (List.mem_cons_self ..) with
      | skip _ _ hne => exact absurd hi0 hne
      | take h1 h2 => exact ⟨h1, h2⟩
    obtain ⟨hd0nd, hd0w, hdslen⟩ := delim_facts hnd hfields hw
    have hin := hes _ (List.mem_cons_self ..)
    have hafter := ahead_entries es' hdel' htail
    have hv := hvis d0 i0 (wireL r ++ (wireLL es' ++ tail)) (hin i0 (List.mem_cons_self ..)) hinst0 hd0w hd0nd
      (delim_ahead hnd hfields (ahead_entry (fun j js e => entryOK_head_tag ds j js (e ▸ her)) hafter))
    -- the members behind the delimiter; behind them the next entry begins: the induction hypothesis is their continuation
    have hl := groupLoop_entry hvis hfields (wireLL es' ++ tail) hafter ((wireLL es').length * K + F)
      (fun cnt => R (cnt + es'.length))
      (ih hdel' (fun e he => hok e (List.mem_cons_of_mem _ he)) (fun e he => hes e (List.mem_cons_of_mem _ he)))
      ds r (count' + 1) (GoodCs.initial hnd hfields hw) her (fun j hj => hin j (List.mem_cons_of_mem _ hj))
    rw [Nat.add_right_comm count' 1 es'.length] at hl
    simp only [wireLL_cons, wireL_cons, List.append_assoc, List.length_append]
    rw [← Nat.add_assoc i0.wire.length, Nat.add_mul _ (wireLL es').length, Nat.add_assoc (_ * K)]
    exact (LoopIn.begin hfields hi0 hopt hv hl).mono
      (fuel_begin i0.wire_length_pos hdslen (Nat.le_trans hF (Nat.le_add_left _ _)))

theorem groupLoop_conforming_aux {K n : Nat} (hvis : VisitOK K n) {fd d0 : FDef} {ds : List FDef}
    (hfields : fd.fields = d0 :: ds) (hnd : fd.TagsNodup) (hw : fd.maxWidth + 3 ≤ K) (rest : List TV)
    (hrest : HeadNotIn fd.childTags rest) (es : List (List Inst))
    (hdel : ∀ e ∈ es, ∃ i0 r, e = i0 :: r ∧ i0.tag = d0.tag) (hents : ∀ e ∈ es, EntryOK (d0 :: ds) e)
    (hlen : ∀ e ∈ es, ∀ i ∈ e, i.wire.length ≤ n) :
    LoopIn ((wireLL es).length * K + 1) fd (wireLL es ++ rest) [] 0 (.ok (rest, es.length)) := by
  have hrest' : HeadNotIn (childTagsL fd.fields) rest := by rw [← childTags_eq]; exact hrest
  have h := groupLoop_entries hvis hfields hnd hw rest (fun f r hl => .inr (.inr (hrest' f r hl))) 1 (Nat.le_refl 1)
    (fun cnt => .ok (rest, cnt))
    (fun cs' count' hopt hg => groupLoop_tail_out hfields rest hrest' cs' count' hopt hg.sub)
    es hdel hents hlen [] 0 nofun (GoodCs.nil K fd d0 (Nat.le_trans (Nat.le_add_left 3 _) hw))
  simpa using h

theorem visitOK_all (K : Nat) : ∀ n, VisitOK K n := by
  intro n
  induction n with
  | zero => intro fd i rest hlen; exact absurd (Nat.le_trans i.wire_length_pos hlen) (by decide)
  | succ n ih =>
    intro fd i rest hlen hok hw hnd hrest
    have hK : 3 ≤ K := Nat.le_trans (Nat.le_add_left 3 _) hw
    cases hok with
    | fld htag hplain =>
      refine (VisitIn.plain _ hplain).mono ?_
      simp only [Inst.wire, List.length_cons, List.length_nil, Nat.zero_add, Nat.one_mul]
      exact Nat.le_trans (by decide) hK
    | grp htag hfields hcount hdel hents =>
      rename_i t c es d0 ds
      simp only [Inst.wire, List.length_cons] at hlen
      have hloop := groupLoop_conforming_aux ih hfields hnd hw rest hrest es hdel hents
        (fun e he i hi => Nat.le_trans (wire_le_wireLL hi he) (Nat.le_of_succ_le_succ hlen))
      have hv := VisitIn.group (cnt := ⟨t, c⟩) hfields hcount hloop
      simp only [ne_eq, not_true_eq_false, if_false] at hv
      simp only [Inst.wire, List.cons_append, List.length_cons]
      exact hv.mono (fuel_group hK)

theorem visitField_conforming (K : Nat) (fd : FDef) (i : Inst) (rest : List TV) (fuel : Nat) (hok : InstOK fd i)
    (hw : fd.maxWidth + 3 ≤ K) (hnd : fd.TagsNodup) (hrest : HeadNotIn fd.childTags rest)
    (hf : i.wire.length * K ≤ fuel) : visitField fuel fd (i.wire ++ rest) = .ok rest :=
  visitOK_all K i.wire.length fd i rest (Nat.le_refl _) hok hw hnd hrest fuel hf

theorem groupLoop_conforming (K : Nat) {fd d0 : FDef} {ds : List FDef}
    (hfields : fd.fields = d0 :: ds) (hnd : fd.TagsNodup) (hw : fd.maxWidth + 3 ≤ K) (rest : List TV)
    (hrest : HeadNotIn fd.childTags rest) (es : List (List Inst))
    (hdel : ∀ e ∈ es, ∃ i0 r, e = i0 :: r ∧ i0.tag = d0.tag) (hents : ∀ e ∈ es, EntryOK (d0 :: ds) e) :
    LoopIn ((wireLL es).length * K + 1) fd (wireLL es ++ rest) [] 0 (.ok (rest, es.length)) :=
  groupLoop_conforming_aux (visitOK_all K _) hfields hnd hw rest hrest es hdel hents
    (fun _ he _ hi => wire_le_wireLL hi he)

theorem visitField_count_mismatch (K : Nat) (fd d0 : FDef) (ds : List FDef) (t : Nat) (c : Bytes)
    (es : List (List Inst)) (rest : List TV) (fuel : Nat) (n : Int)
    (hfields : fd.fields = d0 :: ds) (hcount : readCount c = some n) (hn : n ≠ (es.length : Int))
    (hdel : ∀ e ∈ es, ∃ i0 r, e = i0 :: r ∧ i0.tag = d0.tag) (hents : ∀ e ∈ es, EntryOK (d0 :: ds) e)
    (hw : fd.maxWidth + 3 ≤ K) (hnd : fd.TagsNodup) (hrest : HeadNotIn fd.childTags rest)
    (hf : (Inst.grp t c es).wire.length * K ≤ fuel) :
    visitField fuel fd ((Inst.grp t c es).wire ++ rest) = rej 16 t := by
  have hv := VisitIn.group (cnt := ⟨t, c⟩) hfields hcount
    (groupLoop_conforming K hfields hnd hw rest hrest es hdel hents)
  have hne : ¬ ((es.length : Int) = n) := fun e => hn e.symm
  simp only [ne_eq, hne, not_false_eq_true, if_true] at hv
  simp only [Inst.wire, List.cons_append, List.length_cons] at hf ⊢
  exact hv fuel (Nat.le_trans (fuel_group (Nat.le_trans (Nat.le_add_left 3 _) hw)) hf)

theorem visitField_count_unreadable (fd : FDef) (cnt : TV) (st : List TV) (fuel : Nat) (hgrp : fd.isGroup = true)
    (hcount : readCount cnt.value = none) (hf : 2 ≤ fuel) : visitField fuel fd (cnt :: st) = rej 6 cnt.tag := by
  obtain ⟨k, rfl⟩ : ∃ k, fuel = k + 2 := ⟨fuel - 2, by omega⟩
  show visitFieldW true (k + 2) fd _ = _
  rw [visitField_group true k fd _ _ hgrp]
  simp only [hcount]

/-- the top-level instances of (a prefix of) a message, each against the definition validateWalk finds for its tag; the
    field after an instance (a later instance's first field, or the head of `tail`) is not a member tag of that
    instance's definition -/
inductive WalkOK (tr : VDict) (body : MDef) (K : Nat) (tail : List TV) : List Inst → Prop
  | nil : WalkOK tr body K tail []
  | cons {i : Inst} {is : List Inst} {md : MDef} {fd : FDef} : defFor tr body i.tag = some md → md.field? i.tag = some fd →
      InstOK fd i → fd.TagsNodup → fd.maxWidth + 3 ≤ K → HeadNotIn fd.childTags (wireL is ++ tail) →
      WalkOK tr body K tail is → WalkOK tr body K tail (i :: is)

/-- validateWalk's loop answers `r` for every fuel ≥ `B` (as `LoopIn` for the group loop; unfolded where it is used) -/
def WalkIn (B : Nat) (tr app : VDict) (s : Settings) (body : MDef) (st : List TV) (seen : List Nat) (r : V Unit) : Prop :=
  ∀ fuel, B ≤ fuel → walkLoop tr app s body fuel st seen = r

theorem WalkIn.mono {B B' : Nat} {tr app : VDict} {s : Settings} {body : MDef} {st : List TV} {seen : List Nat} {r : V Unit}
    (h : WalkIn B tr app s body st seen r) (hle : B ≤ B') : WalkIn B' tr app s body st seen r :=
  fun fuel hf => h fuel (Nat.le_trans hle hf)

section
variable {tr app : VDict} {s : Settings} {body : MDef} {f : TV} {rest : List TV} {seen : List Nat} {md : MDef}

/-- at a defined field the walk of its definition decides: an error is the answer of the loop … -/
theorem WalkIn.stop {a : Nat} {fd : FDef} {e : Stop} (hv : VisitIn a fd (f :: rest) (.error e))
    (hd : defFor tr body f.tag = some md) (hfd : md.field? f.tag = some fd) (hns : f.tag ∉ seen) :
    WalkIn (a + 1) tr app s body (f :: rest) seen (.error e) :=
  succ_fuel fun k hk => by
    simp only [walkLoop_cons tr app s body k f rest seen hd, if_neg hns, hfd, hv k hk]

/-- … and what it leaves is walked with the tag recorded -/
theorem WalkIn.step {a b : Nat} {fd : FDef} {rest' : List TV} {r : V Unit} (hv : VisitIn a fd (f :: rest) (.ok rest'))
    (hd : defFor tr body f.tag = some md) (hfd : md.field? f.tag = some fd) (hns : f.tag ∉ seen)
    (hl : WalkIn b tr app s body rest' (f.tag :: seen) r) : WalkIn (max a b + 1) tr app s body (f :: rest) seen r :=
  succ_fuel fun k hk => by
    simp only [walkLoop_cons tr app s body k f rest seen hd, if_neg hns, hfd,
      hv k (Nat.le_trans (Nat.le_max_left a b) hk)]
    exact hl k (Nat.le_trans (Nat.le_max_right a b) hk)

theorem WalkIn.undefined (hd : defFor tr body f.tag = some md) (hu : md.field? f.tag = none) (hns : f.tag ∉ seen)
    (hc : checkFieldNotDefined s f.tag = false) : WalkIn 1 tr app s body (f :: rest) seen (rej 2 f.tag) :=
  succ_fuel (B := 0) fun k _ => by
    simp only [walkLoop_cons tr app s body k f rest seen hd, if_neg hns, hu, hc]
    rfl

theorem WalkIn.duplicate (hd : (defFor tr body f.tag).isSome) (hin : f.tag ∈ seen) :
    WalkIn 1 tr app s body (f :: rest) seen (rej 13 f.tag) :=
  succ_fuel (B := 0) fun k _ => by
    obtain ⟨md, hmd⟩ := Option.isSome_iff_exists.mp hd
    rw [walkLoop_cons tr app s body k f rest seen hmd, if_pos hin]

end

theorem WalkIn.nil {tr app : VDict} {s : Settings} {body : MDef} {seen : List Nat} : WalkIn 1 tr app s body [] seen (.ok ()) :=
  succ_fuel (B := 0) fun k _ => by simp [walkLoop]

/-- plain defined fields in front cost one unit each and leave their tags; the tags ahead and those seen are distinct -/
theorem walkLoop_plain_prefix (tr app : VDict) (s : Settings) (body : MDef) (rest : List TV) (F : Nat) (hF : 1 ≤ F) (R : V Unit) :
    ∀ (pre : List TV) (seen : List Nat), (pre.map (·.tag) ++ seen).Nodup → (∀ g ∈ pre, PlainDefined tr body g) →
    WalkIn F tr app s body rest ((pre.map (·.tag)).reverse ++ seen) R →
    WalkIn (pre.length + F) tr app s body (pre ++ rest) seen R := by
  intro pre
  induction pre with
  | nil => intro seen _ _ hR; simpa using hR
  | cons g r ih =>
    intro seen hnd hdef hR
    obtain ⟨md, fd, h1, h2, h3⟩ := hdef g (List.mem_cons_self ..)
    have hl := ih (g.tag :: seen) (List.perm_middle.nodup_iff.2 hnd) (fun x hx => hdef x (List.mem_cons_of_mem _ hx))
      (by simpa using hR)
    exact (WalkIn.step (VisitIn.plain _ h3) h1 h2 (fun h => (List.nodup_cons.1 hnd).1 (List.mem_append_right _ h)) hl).mono
      (by simp only [List.length_cons]; omega)

theorem walkLoop_flat (tr app : VDict) (s : Settings) (body : MDef) (fs : List TV) (fuel : Nat)
    (hf : fs.length + 1 < fuel) (hnd : (fs.map (·.tag)).Nodup)
    (hdef : ∀ f ∈ fs, PlainDefined tr body f) : walkLoop tr app s body fuel fs [] = .ok () := by
  have := walkLoop_plain_prefix tr app s body [] 1 (Nat.le_refl 1) _ fs [] ((List.append_nil _).symm ▸ hnd) hdef WalkIn.nil
    fuel (Nat.le_of_lt hf)
  rwa [List.append_nil] at this

theorem walkLoop_duplicate (tr app : VDict) (s : Settings) (body : MDef) (pre : List TV) (fuel : Nat)
    (f : TV) (post : List TV) (hf : pre.length + 2 < fuel) (hnd : (pre.map (·.tag)).Nodup)
    (hdef : ∀ g ∈ pre, PlainDefined tr body g) (hdup : f.tag ∈ pre.map (·.tag)) (hd : (defFor tr body f.tag).isSome) :
    walkLoop tr app s body fuel (pre ++ f :: post) [] = .error (.reject ⟨13, some f.tag⟩) :=
  walkLoop_plain_prefix tr app s body _ 1 (Nat.le_refl 1) _ pre [] ((List.append_nil _).symm ▸ hnd) hdef
    (WalkIn.duplicate hd (by rwa [List.append_nil, List.mem_reverse])) fuel (Nat.le_of_lt (Nat.lt_of_succ_lt hf))

theorem walkLoop_not_defined (tr app : VDict) (s : Settings) (body : MDef) (pre post : List TV) (f : TV) (fuel : Nat)
    (md : MDef) (hf : pre.length + 2 ≤ fuel) (hnd : (pre.map (·.tag)).Nodup) (hnew : f.tag ∉ pre.map (·.tag))
    (hplain : ∀ g ∈ pre, PlainDefined tr body g)
    (hd : defFor tr body f.tag = some md) (hu : md.field? f.tag = none) (hc : checkFieldNotDefined s f.tag = false) :
    walkLoop tr app s body fuel (pre ++ f :: post) [] = rej 2 f.tag :=
  walkLoop_plain_prefix tr app s body _ 1 (Nat.le_refl 1) _ pre [] ((List.append_nil _).symm ▸ hnd) hplain
    (WalkIn.undefined hd hu (by rwa [List.append_nil, List.mem_reverse]) hc) fuel (Nat.le_of_succ_le hf)

/-- the walk over conforming top-level instances only records their tags; what follows (`tail`) is handled by `hR` -/
theorem walkLoop_prefix (tr app : VDict) (s : Settings) (body : MDef) (K : Nat) (tail : List TV) (F : Nat) (hF : 1 ≤ F)
    (R : V Unit) : ∀ (is : List Inst) (seen : List Nat), WalkOK tr body K tail is → (is.map Inst.tag ++ seen).Nodup →
    WalkIn F tr app s body tail ((is.map Inst.tag).reverse ++ seen) R →
    WalkIn ((wireL is).length * K + F) tr app s body (wireL is ++ tail) seen R := by
  intro is
  induction is with
  | nil => intro seen _ _ hR; simpa [wireL_nil] using hR
  | cons i is' ih =>
    intro seen hok hnd hR
    cases hok with
    | cons hd hfd hinst hfnd hw hrest hok' =>
      have hl := ih (i.tag :: seen) hok' (List.perm_middle.nodup_iff.2 hnd) (by simpa using hR)
      have hv := visitOK_all K _ _ i (wireL is' ++ tail) (Nat.le_refl _) hinst hw hfnd hrest
      rw [wireL_cons, List.append_assoc, List.length_append]
      refine WalkIn.mono ?_ (fuel_walk i.wire_length_pos (Nat.le_trans (Nat.le_add_left 3 _) hw) hF)
      obtain ⟨w, hwi⟩ := i.wire_cons
      rw [hwi, List.cons_append] at hv ⊢
      exact WalkIn.step hv hd hfd (fun h => (List.nodup_cons.1 hnd).1 (List.mem_append_right _ h)) hl

theorem walkLoop_conforming (tr app : VDict) (s : Settings) (body : MDef) (K : Nat) (is : List Inst) (fuel : Nat)
    (hok : WalkOK tr body K [] is) (hnd : (is.map Inst.tag).Nodup)
    (hf : (wireL is).length * K + 1 ≤ fuel) : walkLoop tr app s body fuel (wireL is) [] = .ok () := by
  have := walkLoop_prefix tr app s body K [] 1 (Nat.le_refl 1) (.ok ()) is [] hok ((List.append_nil _).symm ▸ hnd)
    WalkIn.nil fuel hf
  rwa [List.append_nil] at this

/-- validateWalk's own budget is 4000 for every field (the model's choice in `walkFuel`): behind a conforming prefix that much is left for
    each field of `tail` -/
theorem walkLoop_budget (tr app : VDict) (s : Settings) (body : MDef) (m : PMsg) (pre : List Inst) (tail : List TV) (B : Nat)
    (R : V Unit) (hfs : m.fields = wireL pre ++ tail) (hok : WalkOK tr body 4000 tail pre) (hnd : (pre.map Inst.tag).Nodup)
    (hB : B ≤ tail.length * 4000) (h : WalkIn (B + 2) tr app s body tail (pre.map Inst.tag).reverse R) :
    walkLoop tr app s body (walkFuel m) (wireL pre ++ tail) [] = R :=
  walkLoop_prefix tr app s body 4000 tail (B + 2) (Nat.le_add_left 1 _) R pre [] hok ((List.append_nil _).symm ▸ hnd)
    ((List.append_nil _).symm ▸ h) _ (by
    unfold walkFuel; rw [hfs, List.length_append]; omega)

/-- a top-level group whose walk stops with `e` for every fuel its wire fields pay for -/
theorem walkLoop_group_error (tr app : VDict) (s : Settings) (body : MDef) (pre : List Inst) (md : MDef) (fd : FDef)
    (gt : Nat) (c : Bytes) (es : List (List Inst)) (rest : List TV) (e : Stop) (m : PMsg)
    (hfs : m.fields = wireL pre ++ ((Inst.grp gt c es).wire ++ rest))
    (hok : WalkOK tr body 4000 ((Inst.grp gt c es).wire ++ rest) pre) (hnd : (pre.map Inst.tag).Nodup)
    (hnew : gt ∉ pre.map Inst.tag) (hd : defFor tr body gt = some md) (hfd : md.field? gt = some fd)
    (hv : ∀ k, (Inst.grp gt c es).wire.length * 4000 ≤ k →
      visitField k fd ((Inst.grp gt c es).wire ++ rest) = .error e) :
    walkLoop tr app s body (walkFuel m) (wireL pre ++ ((Inst.grp gt c es).wire ++ rest)) [] = .error e := by
  refine walkLoop_budget tr app s body m pre _ ((Inst.grp gt c es).wire.length * 4000) _ hfs hok hnd
    (by rw [List.length_append, Nat.add_mul]; exact Nat.le_add_right _ _) ?_
  rw [wire_grp_append] at hv ⊢
  exact (WalkIn.stop hv hd hfd (by rwa [List.mem_reverse])).mono (Nat.le_succ _)

def TV.toInst (f : TV) : Inst := .fld f.tag f.value

theorem wireL_plain (fs : List TV) : wireL (fs.map TV.toInst) = fs := by
  induction fs with
  | nil => simp [wireL_nil]
  | cons f r ih => simp [wireL_cons, ih, TV.toInst, Inst.wire]

theorem map_tag_plain (fs : List TV) : (fs.map TV.toInst).map Inst.tag = fs.map (·.tag) := by
  induction fs with
  | nil => rfl
  | cons f r ih => simp [TV.toInst, Inst.tag]

theorem walkOK_plain_append (tr : VDict) (body : MDef) (K : Nat) (hK : 3 ≤ K) (tail : List TV) (is : List Inst)
    (hok : WalkOK tr body K tail is) :
    ∀ (fs : List TV), (∀ f ∈ fs, PlainDefined tr body f) → WalkOK tr body K tail (fs.map TV.toInst ++ is) := by
  intro fs
  induction fs with
  | nil => intro _; exact hok
  | cons f r ih =>
    intro hpl
    obtain ⟨md, fd, h1, h2, h3⟩ := hpl f (List.mem_cons_self ..)
    have hct := plain_childTags fd h3
    have hfl := plain_fields fd h3
    have htag : fd.tag = f.tag := (find?_key_some h2).2
    refine WalkOK.cons (md := md) (fd := fd) h1 h2 (InstOK.fld htag h3) ?_ ?_ ?_
      (ih (fun g hg => hpl g (List.mem_cons_of_mem _ hg)))
    · simp [FDef.TagsNodup, FDef.allTags, hct]
    · rw [maxWidth_eq, hfl]; simp [maxWidthL]; omega
    · intro g r' _; simp [hct]

/-- `WalkOK` from a fact about every position of `is` -/
theorem walkOK_body (tr : VDict) (body : MDef) (K : Nat) (tail : List TV) (tl : List Inst)
    (htl : WalkOK tr body K tail tl) :
    ∀ (is : List Inst), (∀ pre i post, is = pre ++ i :: post → ∃ md fd, defFor tr body i.tag = some md ∧
        md.field? i.tag = some fd ∧ InstOK fd i ∧ fd.TagsNodup ∧ fd.maxWidth + 3 ≤ K ∧
        HeadNotIn fd.childTags (wireL post ++ (wireL tl ++ tail))) → WalkOK tr body K tail (is ++ tl) := by
  intro is
  induction is with
  | nil => intro _; exact htl
  | cons i r ih =>
    intro h
    obtain ⟨md, fd, h1, h2, h3, h4, h5, h6⟩ := h [] i r rfl
    have h6' : HeadNotIn fd.childTags (wireL (r ++ tl) ++ tail) := by
      rw [wireL_append, List.append_assoc]; exact h6
    refine WalkOK.cons h1 h2 h3 h4 h5 h6' (ih ?_)
    intro pre j post e
    exact h (i :: pre) j post (by rw [e]; rfl)

/-- the rest of an entry in which the required member `d` has no instance: `d` is named, whether the gap is noticed at a
    later member, at the delimiter of the next entry (the `fix:`) or at the field that follows the group -/
theorem groupLoop_entry_missing (K : Nat) (fd d0 : FDef) (ds : List FDef) (hfields : fd.fields = d0 :: ds) (d : FDef)
    (after : List TV) (hafter : Ahead fd d0 [] after) (hne : after ≠ []) :
    ∀ {cs : List FDef} {is : List Inst}, EntryMissing d cs is → ∀ (count : Nat), GoodCs K fd d0 cs →
      LoopIn ((wireL is).length * K + cs.length + 1) fd (wireL is ++ after) cs count (rej 1 d.tag) := by
  intro cs is h
  induction h with
  | miss hreq he =>
    rename_i ds' is'
    intro count hg
    have ha := hg.ahead (ahead_entry (fun i is2 e => entryOK_head_tag ds' i is2 (e ▸ he)) hafter)
    cases hst : wireL is' ++ after with
    | nil => exact absurd (List.append_eq_nil_iff.mp hst).2 hne
    | cons f r => exact (LoopIn.required hfields (hst ▸ ha) hreq).mono (Nat.le_add_left 1 _)
  | skip hreq hm ih =>
    intro count hg
    exact ((ih count hg.tail).pass hfields (hg.ahead (ahead_entry (entryMissing_head_tag hm) hafter)) hreq).mono
      (fuel_skip _ _ _)
  | take hinst hm ih =>
    intro count hg
    exact hg.take (visitOK_all K _) hfields hinst (Nat.le_refl _) (ahead_entry (entryMissing_head_tag hm) hafter)
      (ih count hg.tail)

/-- a group whose entries `es1` conform and whose next entry starts with an instance `i0` of the delimiter: what the loop
    answers from the members after `i0` on (`R`) decides the walk of the group; `0 + es1.length + 1` is the count the loop
    has reached there: it starts at 0, the entries of `es1`, the entry of `i0`.  `F`: the constant in the continuation's bound (1 or 2); the counter's own `K` pays
    for it -/
theorem visitField_after_entries (K : Nat) {fd d0 : FDef} {ds : List FDef} (hfields : fd.fields = d0 :: ds)
    (hnd : fd.TagsNodup) (hw : fd.maxWidth + 3 ≤ K) (gt : Nat) (c : Bytes) {n : Int} (hcount : readCount c = some n)
    (es1 : List (List Inst)) (hdel1 : ∀ e' ∈ es1, ∃ i0 r, e' = i0 :: r ∧ i0.tag = d0.tag)
    (hok1 : ∀ e' ∈ es1, EntryOK (d0 :: ds) e') (i0 : Inst) (hi0 : i0.tag = d0.tag) (hinst0 : InstOK d0 i0) (r : List Inst)
    (es2 : List (List Inst)) (rest : List TV) (hx : HeadNotIn d0.childTags (wireL r ++ (wireLL es2 ++ rest)))
    (F : Nat) (hF : 1 ≤ F) (hF2 : F ≤ 2) (R : Nat → V (List TV × Nat))
    (hl : ∀ count, LoopIn ((wireL r).length * K + ds.length + F) fd (wireL r ++ (wireLL es2 ++ rest)) ds count (R count))
    (fuel : Nat) (hf : (Inst.grp gt c (es1 ++ (i0 :: r) :: es2)).wire.length * K ≤ fuel) :
    visitField fuel fd ((Inst.grp gt c (es1 ++ (i0 :: r) :: es2)).wire ++ rest) =
      match (generalizing := false) R (0 + es1.length + 1) with
      | .error e => .error e
      | .ok (st', count) => if (count : Int) ≠ n then rej 16 gt else .ok st' := by
  obtain ⟨hd0nd, hd0w, hdslen⟩ := delim_facts hnd hfields hw
  have hloop := groupLoop_entries (visitOK_all K (wireLL es1).length) hfields hnd hw
    (wireL (i0 :: r) ++ (wireLL es2 ++ rest)) (ahead_inst (.inr hi0) _ _)
    ((wireL (i0 :: r)).length * K + F) (Nat.le_trans hF (Nat.le_add_left _ _)) (fun cnt => R (cnt + 1))
    (by
      intro cs' count' hopt _
      have hv := visitOK_all K _ d0 i0 (wireL r ++ (wireLL es2 ++ rest)) (Nat.le_refl _) hinst0 hd0w hd0nd hx
      rw [wireL_cons, List.append_assoc, List.length_append]
      exact (LoopIn.begin hfields hi0 hopt hv (hl (count' + 1))).mono (fuel_begin i0.wire_length_pos hdslen hF))
    es1 hdel1 hok1 (fun _ he _ hi => wire_le_wireLL hi he) [] 0 nofun
    (GoodCs.nil K fd d0 (Nat.le_trans (Nat.le_add_left 3 _) hw))
  simp only [Inst.wire, List.cons_append, wireLL_append, wireLL_cons, List.append_assoc]
  refine VisitIn.group (cnt := ⟨gt, c⟩) hfields hcount hloop fuel (Nat.le_trans ?_ hf)
  simp only [Inst.wire, List.length_cons, wireLL_append, wireLL_cons, List.length_append, List.length_nil, Nat.add_mul,
    Nat.one_mul]
  omega

theorem visitField_required_missing (K : Nat) (fd d0 : FDef) (ds : List FDef) (t : Nat) (c : Bytes)
    (es1 es2 : List (List Inst)) (e : List Inst) (d : FDef) (rest : List TV) (fuel : Nat) (n : Int)
    (hfields : fd.fields = d0 :: ds) (hcount : readCount c = some n)
    (hdel1 : ∀ e' ∈ es1, ∃ i0 r, e' = i0 :: r ∧ i0.tag = d0.tag) (hok1 : ∀ e' ∈ es1, EntryOK (d0 :: ds) e')
    (hdel : ∃ i0 r, e = i0 :: r ∧ i0.tag = d0.tag) (hmiss : EntryMissing d (d0 :: ds) e)
    (hdel2 : ∀ e' ∈ es2, ∃ i0 r, e' = i0 :: r ∧ i0.tag = d0.tag)
    (hrest : HeadNotIn fd.childTags rest) (hne : es2 ≠ [] ∨ rest ≠ [])
    (hw : fd.maxWidth + 3 ≤ K) (hnd : fd.TagsNodup)
    (hf : (Inst.grp t c (es1 ++ e :: es2)).wire.length * K ≤ fuel) :
    visitField fuel fd ((Inst.grp t c (es1 ++ e :: es2)).wire ++ rest) = rej 1 d.tag := by
  obtain ⟨i0, r, rfl, hi0⟩ := hdel
  have hgds : GoodCs K fd d0 ds := GoodCs.initial hnd hfields hw
  have hrest' : HeadNotIn (childTagsL fd.fields) rest := by rw [← childTags_eq]; exact hrest
  have hafter2 : Ahead fd d0 [] (wireLL es2 ++ rest) :=
    ahead_entries es2 hdel2 (fun f r hl => .inr (.inr (hrest' f r hl)))
  have hne2 : wireLL es2 ++ rest ≠ [] := by
    rcases hne with h | h
    · cases es2 with
      | nil => exact absurd rfl h
      | cons e2 es2' =>
        obtain ⟨j0, r2, rfl, _⟩ := hdel2 _ (List.mem_cons_self ..)
        obtain ⟨w, hwj⟩ := j0.wire_cons
        rw [wireLL_cons, wireL_cons, hwj]; simp
    · simp [h]
  -- the bad entry is a `take` of the delimiter followed by the gap
  have ⟨hinst0, hmr⟩ : InstOK d0 i0 ∧ EntryMissing d ds r := by
    cases hmiss with
    | miss _ he' =>
      have := entryOK_head_tag ds i0 r he'
      exact absurd (hi0 ▸ this) hgds.nodelim
    | skip _ hm' =>
      have := entryMissing_head_tag hm' i0 r rfl
      exact absurd (hi0 ▸ this) hgds.nodelim
    | take h1 h2 => exact ⟨h1, h2⟩
  exact visitField_after_entries K hfields hnd hw t c hcount es1 hdel1 hok1 i0 hi0 hinst0 r es2 rest
    (delim_ahead hnd hfields (ahead_entry (entryMissing_head_tag hmr) hafter2))
    1 (Nat.le_refl 1) (by decide) (fun _ => rej 1 d.tag)
    (fun count => groupLoop_entry_missing K fd d0 ds hfields d _ hafter2 hne2 hmr count hgds) fuel hf

theorem entrySwapped_cons {a : TV} {q : List Inst} {cs : List FDef} {l : List Inst} (h : EntrySwapped a q cs l) :
    ∃ i is, l = i :: is ∧ i.tag ∈ childTagsL cs := by
  induction h with
  | swap he => exact ⟨_, _, rfl, entryOK_mem_tags _ _ he _ (by simp)⟩
  | skip _ _ ih =>
    obtain ⟨i, is, e, hm⟩ := ih
    exact ⟨i, is, e, by rw [childTagsL_cons]; exact List.mem_append_right _ hm⟩
  | take h1 _ _ =>
    exact ⟨_, _, rfl, by rw [childTagsL_cons, ← instOK_tag h1]; exact List.mem_append_left _ (tag_mem_allTags _)⟩

theorem entrySwapped_a_tag {a : TV} {q : List Inst} {cs : List FDef} {l : List Inst} (h : EntrySwapped a q cs l) :
    a.tag ∈ childTagsL cs := by
  induction h with
  | swap he => exact entryOK_head_tag _ _ _ he
  | skip _ _ ih => rw [childTagsL_cons]; exact List.mem_append_right _ ih
  | take _ _ ih => rw [childTagsL_cons]; exact List.mem_append_right _ ih

/-- what the group loop answers from the swapped pair on: a required member is named, or the group is declared complete in
    front of the displaced field `a` -/
def SwapOutcome (a : TV) (st : List TV) (R : Nat → V (List TV × Nat)) : Prop :=
  (∃ t, R = fun _ => rej 1 t) ∨ R = fun c => .ok (a :: st, c)

theorem groupLoop_foreign (fd d0 : FDef) (ds : List FDef) (hfields : fd.fields = d0 :: ds) (a : TV) (st : List TV)
    (hd0 : a.tag ≠ d0.tag) : ∀ (cs : List FDef), a.tag ∉ childTagsL cs →
    ∃ R, SwapOutcome a st R ∧ ∀ count, LoopIn (cs.length + 1) fd (a :: st) cs count (R count) := by
  intro cs
  induction cs with
  | nil => intro _; exact ⟨fun c => .ok (a :: st, c), Or.inr rfl, fun _ => LoopIn.done hfields hd0⟩
  | cons c cs' ih =>
    intro hnot
    rw [childTagsL_cons] at hnot
    have hc := headNotIn_field (fun hm => hnot (List.mem_append_left _ hm)) st
    cases hreq : c.req with
    | true =>
      exact ⟨fun _ => rej 1 c.tag, Or.inl ⟨c.tag, rfl⟩,
        fun _ => (LoopIn.required hfields hc hreq).mono (Nat.le_add_left 1 _)⟩
    | false =>
      obtain ⟨R, hR, h⟩ := ih (fun hm => hnot (List.mem_append_right _ hm))
      exact ⟨R, hR, fun count => (h count).pass hfields hc hreq⟩

/-- the field `b` (that should come second) against definitions among which `a`'s is no more -/
theorem groupLoop_swapped_second (K : Nat) (fd d0 : FDef) (ds : List FDef) (hfields : fd.fields = d0 :: ds) (a : TV)
    (tb : Nat) (vb : Bytes) (q : List Inst) (after : List TV) (hd0 : a.tag ≠ d0.tag) :
    ∀ (cs : List FDef), GoodCs K fd d0 cs → a.tag ∉ childTagsL cs → EntryOK cs (.fld tb vb :: q) →
    ∃ R, SwapOutcome a (wireL q ++ after) R ∧ ∀ count,
      LoopIn (cs.length + 2) fd (⟨tb, vb⟩ :: a :: (wireL q ++ after)) cs count (R count) := by
  intro cs
  induction cs with
  | nil => intro _ _ he; cases he
  | cons c cs' ih =>
    intro hg hnot he
    have hnot' : a.tag ∉ childTagsL cs' := fun hm => hnot (by rw [childTagsL_cons]; exact List.mem_append_right _ hm)
    cases he with
    | skip hreq he' _ =>
      have hin : tb ∈ childTagsL cs' := by simpa [Inst.tag] using entryOK_head_tag cs' _ _ he'
      obtain ⟨R, hR, h⟩ := ih hg.tail hnot' he'
      exact ⟨R, hR, fun count => (h count).pass hfields (hg.ahead (ahead_field (f := ⟨tb, vb⟩) hin _)) hreq⟩
    | take hinst he' =>
      have htag : c.tag = tb := by simpa [Inst.tag] using instOK_tag hinst
      have hplain : c.isGroup = false := by cases hinst with | fld _ h => exact h
      have h1 : tb ≠ d0.tag := by rw [← htag]; exact hg.head_tag_ne
      obtain ⟨R, hR, h⟩ := groupLoop_foreign fd d0 ds hfields a (wireL q ++ after) hd0 cs' hnot'
      exact ⟨R, hR, fun count => (LoopIn.take (i := .fld tb vb) hfields htag h1 (VisitIn.plain _ hplain) (h count)).mono
        (Nat.succ_le_succ (Nat.max_le.2 ⟨Nat.le_add_left 1 _, Nat.le_succ _⟩))⟩

/-- the field `b` arrives where `a` is due -/
theorem groupLoop_swapped_first (K : Nat) (fd d0 : FDef) (ds : List FDef) (hfields : fd.fields = d0 :: ds) (a : TV)
    (tb : Nat) (vb : Bytes) (q : List Inst) (after : List TV) :
    ∀ (cs : List FDef), GoodCs K fd d0 cs → EntryOK cs (.fld a.tag a.value :: .fld tb vb :: q) →
    ∃ R, SwapOutcome a (wireL q ++ after) R ∧ ∀ count,
      LoopIn (cs.length + 2) fd (⟨tb, vb⟩ :: a :: (wireL q ++ after)) cs count (R count) := by
  intro cs
  induction cs with
  | nil => intro _ he; cases he
  | cons c cs' ih =>
    intro hg he
    have hn := nodup_childTagsL_cons.1 hg.nodup
    cases he with
    | skip hreq he' _ =>
      have hin : tb ∈ childTagsL cs' := by
        simpa [Inst.tag] using entryOK_mem_tags cs' _ he' (.fld tb vb) (by simp)
      obtain ⟨R, hR, h⟩ := ih hg.tail he'
      exact ⟨R, hR, fun count => (h count).pass hfields (hg.ahead (ahead_field (f := ⟨tb, vb⟩) hin _)) hreq⟩
    | take hinst he' =>
      have htag : c.tag = a.tag := by simpa [Inst.tag] using instOK_tag hinst
      have hin : tb ∈ childTagsL cs' := by simpa [Inst.tag] using entryOK_head_tag cs' _ _ he'
      have hb := hg.ahead (ahead_field (f := ⟨tb, vb⟩) hin (a :: (wireL q ++ after)))
      have ha0 : a.tag ≠ d0.tag := by rw [← htag]; exact hg.head_tag_ne
      have hanot : a.tag ∉ childTagsL cs' := fun hm => hn.2.2 _ (tag_mem_allTags c) _ hm htag
      cases hreq : c.req with
      | true =>
        exact ⟨fun _ => rej 1 c.tag, Or.inl ⟨c.tag, rfl⟩,
          fun _ => (LoopIn.required hfields hb hreq).mono (Nat.le_add_left 1 _)⟩
      | false =>
        obtain ⟨R, hR, h⟩ := groupLoop_swapped_second K fd d0 ds hfields a tb vb q after ha0 cs' hg.tail hanot he'
        exact ⟨R, hR, fun count => (h count).pass hfields hb hreq⟩

theorem groupLoop_entry_swapped (K : Nat) (fd d0 : FDef) (ds : List FDef) (hfields : fd.fields = d0 :: ds) (a : TV)
    (q : List Inst) (after : List TV) :
    ∀ {cs : List FDef} {is : List Inst}, EntrySwapped a q cs is → GoodCs K fd d0 cs →
    ∃ R, SwapOutcome a (wireL q ++ after) R ∧ ∀ count,
      LoopIn ((wireL is).length * K + cs.length + 2) fd (wireL is ++ after) cs count (R count) := by
  intro cs is h
  induction h with
  | swap he =>
    rename_i cs tb vb
    intro hg
    obtain ⟨R, hR, h⟩ := groupLoop_swapped_first K fd d0 ds hfields a tb vb q after cs hg he
    refine ⟨R, hR, fun count => ?_⟩
    have e1 : wireL (Inst.fld tb vb :: Inst.fld a.tag a.value :: q) ++ after = ⟨tb, vb⟩ :: a :: (wireL q ++ after) := by
      simp [wireL_cons, Inst.wire]
    rw [e1]
    exact (h count).mono (Nat.add_le_add_right (Nat.le_add_left _ _) 2)
  | skip hreq hm ih =>
    rename_i c cs' is'
    intro hg
    obtain ⟨R, hR, h⟩ := ih hg.tail
    obtain ⟨i, is2, rfl, hin⟩ := entrySwapped_cons hm
    exact ⟨R, hR, fun count => ((h count).pass hfields (hg.ahead (ahead_inst (.inl hin) is2 after)) hreq).mono
      (fuel_skip _ _ _)⟩
  | take hinst hm ih =>
    intro hg
    obtain ⟨R, hR, h⟩ := ih hg.tail
    obtain ⟨j, js, rfl, hjn⟩ := entrySwapped_cons hm
    exact ⟨R, hR, fun count => hg.take (visitOK_all K _) hfields hinst (Nat.le_refl _) (ahead_inst (.inl hjn) js after)
      (h count)⟩

/-- one of three answers, the same for every sufficient fuel: hence `∃ v` in front of `∀ fuel` -/
theorem visitField_member_swapped (K : Nat) (fd d0 : FDef) (ds : List FDef) (gt : Nat) (c : Bytes)
    (es1 es2 : List (List Inst)) (e : List Inst) (a : TV) (q : List Inst) (rest : List TV)
    (hfields : fd.fields = d0 :: ds) (hcount : readCount c = some ((es1 ++ e :: es2).length : Int))
    (hdel1 : ∀ e' ∈ es1, ∃ i0 r, e' = i0 :: r ∧ i0.tag = d0.tag) (hok1 : ∀ e' ∈ es1, EntryOK (d0 :: ds) e')
    (hdel : ∃ i0 r, e = i0 :: r ∧ i0.tag = d0.tag) (hsw : EntrySwapped a q (d0 :: ds) e)
    (hw : fd.maxWidth + 3 ≤ K) (hnd : fd.TagsNodup) :
    ∃ v, ((∃ t, v = rej 1 t) ∨ v = rej 16 gt ∨ v = .ok (a :: (wireL q ++ (wireLL es2 ++ rest)))) ∧
      ∀ fuel, (Inst.grp gt c (es1 ++ e :: es2)).wire.length * K ≤ fuel →
        visitField fuel fd ((Inst.grp gt c (es1 ++ e :: es2)).wire ++ rest) = v := by
  obtain ⟨i0, r, rfl, hi0⟩ := hdel
  have hgds : GoodCs K fd d0 ds := GoodCs.initial hnd hfields hw
  -- the entry is a `take` of the delimiter followed by the rest with the swapped pair
  have ⟨hinst0, hsr⟩ : InstOK d0 i0 ∧ EntrySwapped a q ds r := by
    cases hsw with
    | swap he =>
      rename_i tb vb
      have hi0' : tb = d0.tag := by simpa [Inst.tag] using hi0
      have hin : tb ∈ childTagsL ds := by
        cases he with
        | skip _ he' _ => simpa [Inst.tag] using entryOK_mem_tags ds _ he' (.fld tb vb) (by simp)
        | take _ h2 => simpa [Inst.tag] using entryOK_head_tag ds _ _ h2
      exact absurd (hi0' ▸ hin) hgds.nodelim
    | skip _ hm' =>
      obtain ⟨i, is, e, hin⟩ := entrySwapped_cons hm'
      simp only [List.cons.injEq] at e
      exact absurd (hi0 ▸ e.1 ▸ hin) hgds.nodelim
    | take h1 h2 => exact ⟨h1, h2⟩
  obtain ⟨R, hR, h⟩ := groupLoop_entry_swapped K fd d0 ds hfields a q (wireLL es2 ++ rest) hsr hgds
  obtain ⟨j, js, rfl, hjn⟩ := entrySwapped_cons hsr
  have hV := visitField_after_entries K hfields hnd hw gt c hcount es1 hdel1 hok1 i0 hi0 hinst0 (j :: js) es2 rest
    (delim_ahead hnd hfields (ahead_inst (.inl hjn) js _)) 2 (by decide) (Nat.le_refl 2) R h
  rcases hR with ⟨t, rfl⟩ | rfl
  · exact ⟨rej 1 t, Or.inl ⟨t, rfl⟩, fun fuel hf => by rw [hV fuel hf]; rfl⟩
  · by_cases hes : es2 = []
    · refine ⟨.ok (a :: (wireL q ++ (wireLL es2 ++ rest))), Or.inr (Or.inr rfl), fun fuel hf => ?_⟩
      rw [hV fuel hf]
      have : ((0 + es1.length + 1 : Nat) : Int) = ((es1 ++ (i0 :: j :: js) :: es2).length : Int) := by
        rw [hes, List.length_append, List.length_singleton, Nat.zero_add]
      simp only [this, ne_eq, not_true_eq_false, if_false]
    · refine ⟨rej 16 gt, Or.inr (Or.inl rfl), fun fuel hf => ?_⟩
      rw [hV fuel hf]
      have hpos : 0 < es2.length := List.length_pos_iff.mpr hes
      have : ((0 + es1.length + 1 : Nat) : Int) ≠ ((es1 ++ (i0 :: j :: js) :: es2).length : Int) := by
        rw [List.length_append, List.length_cons, Nat.zero_add]
        exact fun h => Nat.ne_of_lt hpos (Nat.succ.inj (Nat.add_left_cancel (Int.ofNat_inj.mp h)))
      simp only [this, ne_eq, not_false_eq_true, if_true]

theorem walkLoop_member_swapped (tr app : VDict) (s : Settings) (body : MDef) (pre : List Inst) (md md' : MDef)
    (fd d0 : FDef) (ds : List FDef) (gt : Nat) (c : Bytes) (es1 es2 : List (List Inst)) (e : List Inst) (a : TV)
    (q : List Inst) (rest : List TV) (m : PMsg)
    (hfs : m.fields = wireL pre ++ ((Inst.grp gt c (es1 ++ e :: es2)).wire ++ rest))
    (hok : WalkOK tr body 4000 ((Inst.grp gt c (es1 ++ e :: es2)).wire ++ rest) pre) (hnd : (pre.map Inst.tag).Nodup)
    (hnew : gt ∉ pre.map Inst.tag) (hanew : a.tag ∉ pre.map Inst.tag)
    (hd : defFor tr body gt = some md) (hfd : md.field? gt = some fd)
    (hda : defFor tr body a.tag = some md') (hua : md'.field? a.tag = none) (hca : checkFieldNotDefined s a.tag = false)
    (hfields : fd.fields = d0 :: ds) (hcount : readCount c = some ((es1 ++ e :: es2).length : Int))
    (hdel1 : ∀ e' ∈ es1, ∃ i0 r, e' = i0 :: r ∧ i0.tag = d0.tag) (hok1 : ∀ e' ∈ es1, EntryOK (d0 :: ds) e')
    (hdel : ∃ i0 r, e = i0 :: r ∧ i0.tag = d0.tag) (hsw : EntrySwapped a q (d0 :: ds) e)
    (hw : fd.maxWidth + 3 ≤ 4000) (hfnd : fd.TagsNodup) :
    ∃ r : Reject, (r.reason = 1 ∨ r.reason = 16 ∨ r.reason = 2) ∧
      walkLoop tr app s body (walkFuel m) (wireL pre ++ ((Inst.grp gt c (es1 ++ e :: es2)).wire ++ rest)) [] =
        .error (.reject r) := by
  obtain ⟨v, hv, hvis⟩ := visitField_member_swapped 4000 fd d0 ds gt c es1 es2 e a q rest hfields hcount hdel1 hok1 hdel hsw
    hw hfnd
  rcases hv with ⟨t, rfl⟩ | rfl | rfl
  · exact ⟨⟨1, some t⟩, .inl rfl, walkLoop_group_error tr app s body pre md fd gt c _ rest _ m hfs hok hnd hnew hd hfd hvis⟩
  · exact ⟨⟨16, some gt⟩, .inr (.inl rfl), walkLoop_group_error tr app s body pre md fd gt c _ rest _ m hfs hok hnd hnew hd hfd hvis⟩
  -- the group is left in front of `a`, a member tag of the group that no definition at top level lists
  refine ⟨⟨2, some a.tag⟩, .inr (.inr rfl), walkLoop_budget tr app s body m pre _
    ((Inst.grp gt c (es1 ++ e :: es2)).wire.length * 4000) _ hfs hok hnd
    (by rw [List.length_append, Nat.add_mul]; exact Nat.le_add_right _ _) ?_⟩
  have hfdtag : fd.tag = gt := (find?_key_some hfd).2
  have hagt : a.tag ≠ gt := by
    have h1 : a.tag ∈ childTagsL fd.fields := by rw [hfields]; exact entrySwapped_a_tag hsw
    have h2 := hfnd
    rw [FDef.TagsNodup, allTags_eq, List.nodup_cons] at h2
    intro e
    exact h2.1 (by rw [hfdtag, ← e]; exact h1)
  rw [wire_grp_append] at hvis ⊢
  refine (WalkIn.step hvis hd hfd (by rwa [List.mem_reverse]) (WalkIn.undefined hda hua ?_ hca)).mono
    (Nat.succ_le_succ (Nat.max_le.2 ⟨Nat.le_succ _, Nat.le_add_left 1 _⟩))
  simp only [List.mem_cons, List.mem_reverse, not_or]
  exact ⟨hagt, hanew⟩

end Qfx.Validate
