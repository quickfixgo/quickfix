/-
  The store of an engine as a list filed by number: payloads of its application messages, the part below a number,
  well-formed stored messages (`StoreOK`), what an engine can have put on the wire from its store (`Wire`), growth.
-/
import Qfx.Lemmas.LinkFields
import Qfx.Spec.Link
import Qfx.Lemmas.SessC03
namespace Qfx.Link
open Qfx Qfx.Sess

/-- payload of a stored message, if it is an application message -/
def pay (p : Int × OutMsg) : Option String := if isAdminKind p.2.kind then none else p.2.f.get? 9000

/-- payloads of the application messages of a store list (latest first), in the order they were stored -/
def appPay : List (Int × OutMsg) → List String
  | [] => []
  | p :: l => appPay l ++ (pay p).toList

def below (t : Int) (l : List (Int × OutMsg)) : List (Int × OutMsg) := l.filter (fun p => decide (p.1 < t))

def Desc (l : List (Int × OutMsg)) : Prop := l.Pairwise (fun a b => b.1 < a.1)

theorem appPay_append (x y : List (Int × OutMsg)) : appPay (x ++ y) = appPay y ++ appPay x := by
  induction x with
  | nil => simp [appPay]
  | cons p x ih => simp [appPay, ih, List.append_assoc]

theorem appPay_admin (l : List (Int × OutMsg)) (h : ∀ p ∈ l, isAdminKind p.2.kind = true) : appPay l = [] := by
  induction l with
  | nil => rfl
  | cons p l ih =>
    simp only [appPay, ih (fun q hq => h q (List.mem_cons_of_mem _ hq)), pay, h p List.mem_cons_self, if_true]
    rfl

theorem below_all (t : Int) (l : List (Int × OutMsg)) (h : ∀ p ∈ l, p.1 < t) : below t l = l := by
  unfold below
  rw [List.filter_eq_self]
  intro p hp; simpa using h p hp

theorem below_none (t : Int) (l : List (Int × OutMsg)) (h : ∀ p ∈ l, t ≤ p.1) : below t l = [] := by
  unfold below
  rw [List.filter_eq_nil_iff]
  intro p hp
  have := h p hp
  simp only [decide_eq_true_eq]; omega

theorem below_append (t : Int) (x y : List (Int × OutMsg)) : below t (x ++ y) = below t x ++ below t y := by
  simp [below]

theorem Desc.tail {p : Int × OutMsg} {l : List (Int × OutMsg)} (h : Desc (p :: l)) : Desc l := (List.pairwise_cons.1 h).2
theorem Desc.head {p : Int × OutMsg} {l : List (Int × OutMsg)} (h : Desc (p :: l)) : ∀ q ∈ l, q.1 < p.1 := (List.pairwise_cons.1 h).1

theorem desc_split (t : Int) (l : List (Int × OutMsg)) (h : Desc l) :
    l = l.filter (fun p => decide (t ≤ p.1)) ++ below t l := by
  induction l with
  | nil => rfl
  | cons p l ih =>
    by_cases hp : t ≤ p.1
    · have h1 : ¬ p.1 < t := by omega
      have ih' := ih h.tail
      unfold below at ih'
      simp only [below, List.filter_cons, hp, h1, decide_true, decide_false, if_true, List.cons_append, Bool.false_eq_true, if_false]
      rw [← ih']
    · have hall : ∀ q ∈ p :: l, q.1 < t := by
        intro q hq
        rcases List.mem_cons.1 hq with rfl | hq
        · omega
        · have := h.head q hq; omega
      rw [below_all t _ hall]
      have : (p :: l).filter (fun p => decide (t ≤ p.1)) = [] := by
        rw [List.filter_eq_nil_iff]
        intro q hq
        have := hall q hq
        simp only [decide_eq_true_eq]; omega
      rw [this]; rfl

theorem desc_below (t : Int) (l : List (Int × OutMsg)) (h : Desc l) : Desc (below t l) :=
  List.Pairwise.sublist List.filter_sublist h

theorem below_below (b e : Int) (l : List (Int × OutMsg)) (hbe : b ≤ e) : below b (below e l) = below b l := by
  unfold below
  rw [List.filter_filter]
  congr 1
  funext p
  by_cases h : p.1 < b
  · have : p.1 < e := by omega
    simp [h, this]
  · simp [h]

theorem below_split (b e : Int) (l : List (Int × OutMsg)) (h : Desc l) (hbe : b ≤ e) :
    below e l = l.filter (fun p => decide (b ≤ p.1) && decide (p.1 < e)) ++ below b l := by
  have h1 := desc_split b (below e l) (desc_below e l h)
  rw [below_below b e l hbe] at h1
  have h2 : (below e l).filter (fun p => decide (b ≤ p.1)) = l.filter (fun p => decide (b ≤ p.1) && decide (p.1 < e)) := by
    unfold below; rw [List.filter_filter]
  rw [h2] at h1; exact h1

theorem isPrefix_append (a t : List String) : isPrefix a (a ++ t) = true := by
  induction a with
  | nil => simp [isPrefix]
  | cons x xs ih => simp [isPrefix, ih]

theorem isPrefix_below (t : Int) (l : List (Int × OutMsg)) (h : Desc l) : isPrefix (appPay (below t l)) (appPay l) = true := by
  have h1 := desc_split t l h
  have : appPay l = appPay (below t l) ++ appPay (l.filter (fun p => decide (t ≤ p.1))) := by
    conv => lhs; rw [h1]
    rw [appPay_append]
  rw [this]
  exact isPrefix_append _ _

theorem mid_one (t : Int) (m : OutMsg) (l : List (Int × OutMsg)) (h : Desc l) (hm : (t, m) ∈ l) :
    l.filter (fun p => decide (t ≤ p.1) && decide (p.1 < t + 1)) = [(t, m)] := by
  induction l with
  | nil => cases hm
  | cons p l ih =>
    rcases List.mem_cons.1 hm with rfl | hm'
    · have : l.filter (fun p => decide (t ≤ p.1) && decide (p.1 < t + 1)) = [] := by
        rw [List.filter_eq_nil_iff]
        intro q hq
        have := h.head q hq
        simp only [Bool.and_eq_true, decide_eq_true_eq] at this ⊢; omega
      have ht : t < t + 1 := by omega
      simp [this, ht]
    · have h1 := h.head _ hm'
      simp only at h1
      have : ¬ (t ≤ p.1 ∧ p.1 < t + 1) := by omega
      simp only [List.filter_cons, Bool.and_eq_true, decide_eq_true_eq, this, if_false]
      simpa using ih h.tail hm'

theorem adv_one (t : Int) (m : OutMsg) (l : List (Int × OutMsg)) (h : Desc l) (hm : (t, m) ∈ l) :
    appPay (below (t + 1) l) = appPay (below t l) ++ (pay (t, m)).toList := by
  rw [below_split t (t + 1) l h (by omega), appPay_append, mid_one t m l h hm]
  simp [appPay]

theorem adv_gap (b e : Int) (l : List (Int × OutMsg)) (h : Desc l) (hbe : b ≤ e)
    (hadm : ∀ p ∈ l, b ≤ p.1 → p.1 < e → isAdminKind p.2.kind = true) :
    appPay (below e l) = appPay (below b l) := by
  have hmid : appPay (l.filter (fun p => decide (b ≤ p.1) && decide (p.1 < e))) = [] := by
    apply appPay_admin
    intro p hp
    have := List.mem_filter.1 hp
    simp only [Bool.and_eq_true, decide_eq_true_eq] at this
    exact hadm p this.1 this.2.1 this.2.2
  rw [below_split b e l h hbe, appPay_append, hmid]
  simp

theorem desc_keys {l : List (Int × OutMsg)} (h : Desc l) : l.Pairwise (fun x y => x.1 ≠ y.1) := h.imp (fun h e => by omega)

theorem desc_unique (l : List (Int × OutMsg)) (h : Desc l) (n : Int) (a b : OutMsg) (ha : (n, a) ∈ l) (hb : (n, b) ∈ l) : a = b :=
  (Prod.mk.inj (eq_of_key_eq (key := fun c : Int × OutMsg => c.1) (desc_keys h) ha hb rfl)).2

/-- Go's largest `int`: the model's numbers are unbounded, the wire parser wraps at 64 bits -/
def maxSeq : Int := 9223372036854775807

/-- fields an engine writes: no empty value, no ResetSeqNumFlag, no scripted verdict; no payload on administrative kinds;
    no GapFillFlag (only the unstored SequenceReset-GapFill carries one) -/
def FOK (admin : Bool) (f : Fields) : Prop := ∀ p ∈ f, p.2 ≠ "" ∧ p.1 ≠ 141 ∧ p.1 ≠ 9001 ∧ (admin = true → p.1 ≠ 9000) ∧ p.1 ≠ 123

theorem fok_nil {admin : Bool} : FOK admin [] := fun p hp => by cases hp

theorem fok_one {admin : Bool} (t : Nat) (v : String) (hv : v ≠ "")
    (ht : t ≠ 141 ∧ t ≠ 9001 ∧ (admin = true → t ≠ 9000) ∧ t ≠ 123) : FOK admin [(t, v)] := by
  intro p hp
  rw [List.mem_singleton.1 hp]; exact ⟨hv, ht⟩

theorem FOK.append {admin : Bool} {f g : Fields} (hf : FOK admin f) (hg : FOK admin g) : FOK admin (f ++ g) :=
  List.forall_mem_append.2 ⟨hf, hg⟩

theorem FOK.absent {admin : Bool} {f : Fields} (h : FOK admin f) {t : Nat} (ht : t = 141 ∨ t = 9001 ∨ t = 123) : f.get? t = none :=
  get?_none_of_tags _ _ fun p hp e => by
    obtain ⟨_, h1, h2, _, h3⟩ := h p hp
    rcases ht with rfl | rfl | rfl <;> contradiction

structure MsgOK (m : OutMsg) : Prop where
  f : FOK (isAdminKind m.kind) m.f
  /-- header fields (the routing fields of a Reject) first, then body fields: what the peer's validator checks -/
  ord : SecOrd m.f
  k : m.kind ≠ ""
  k4 : m.kind ≠ "4"
  app : isAdminKind m.kind = false → ∃ p, m.f = [(9000, p)]
  rr : m.kind = "2" → ∃ x y : Int, m.f.get? 7 = some (toString x) ∧ m.f.get? 16 = some (toString y)

theorem MsgOK.withSeq {m : OutMsg} (h : MsgOK m) (n : Int) : MsgOK { m with seq := n } := ⟨h.f, h.ord, h.k, h.k4, h.app, h.rr⟩

/-- filed by number, each number once (latest first), every stored message well-formed -/
structure StoreOK (st : Store) : Prop where
  pos : 1 ≤ st.sender
  desc : Desc st.msgs
  ent : ∀ p ∈ st.msgs, p.2.seq = p.1 ∧ 1 ≤ p.1 ∧ p.1 < st.sender ∧ MsgOK p.2

/-- a gap fill with header tag 369 = `l` (`generateSequenceReset` fills the header in reply to the ResendRequest) -/
def gapFillL (b e : Int) (l : Option Int) : OutMsg := { gapFill b e with last := l }

/-- what an engine with store `st` can have put on the wire (or still holds in its send queue); a gap fill's own number
    `b` is bounded below so that the receiver reads it back (`wire_facts`) -/
inductive Wire (st : Store) : OutMsg → Prop
  | stored {m : OutMsg} (h : (m.seq, m) ∈ st.msgs) : Wire st m
  | resent {m : OutMsg} (h : (m.seq, m) ∈ st.msgs) (happ : isAdminKind m.kind = false) : Wire st (resent m)
  | gap (b e : Int) (l : Option Int) (hbe : b < e) (he : e ≤ st.sender) (hb : -9223372036854775808 ≤ b)
      (hadm : ∀ p ∈ st.msgs, b ≤ p.1 → p.1 < e → isAdminKind p.2.kind = true) : Wire st (gapFillL b e l)

/-- `st'` is `st` with newer messages filed on top (all administrative when `adm`) -/
def Grow (adm : Bool) (st st' : Store) : Prop :=
  st.sender ≤ st'.sender ∧ ∃ new, st'.msgs = new ++ st.msgs ∧ ∀ p ∈ new, st.sender ≤ p.1 ∧ (adm = true → isAdminKind p.2.kind = true)

theorem Grow.refl (adm : Bool) (st : Store) : Grow adm st st := ⟨Int.le_refl _, [], rfl, by intro p hp; cases hp⟩

theorem Grow.trans {adm : Bool} {a b c : Store} (h1 : Grow adm a b) (h2 : Grow adm b c) : Grow adm a c := by
  obtain ⟨s1, n1, e1, p1⟩ := h1
  obtain ⟨s2, n2, e2, p2⟩ := h2
  refine ⟨by omega, n2 ++ n1, by rw [e2, e1, List.append_assoc], ?_⟩
  intro p hp
  rcases List.mem_append.1 hp with hp | hp
  · have := p2 p hp; exact ⟨by omega, this.2⟩
  · exact p1 p hp

theorem Grow.weaken {adm : Bool} {a b : Store} (h : Grow adm a b) : Grow false a b := by
  obtain ⟨s1, n1, e1, p1⟩ := h
  exact ⟨s1, n1, e1, fun p hp => ⟨(p1 p hp).1, by intro h; cases h⟩⟩

theorem Grow.target {adm : Bool} {a b : Store} (h : Grow adm a b) (n : Int) : Grow adm a { b with target := n } := h

theorem Wire.mono {adm : Bool} {st st' : Store} (hg : Grow adm st st') {m : OutMsg} (h : Wire st m) : Wire st' m := by
  obtain ⟨hs, new, he, hn⟩ := hg
  cases h with
  | stored h => exact .stored (by rw [he]; exact List.mem_append_right _ h)
  | resent h happ => exact .resent (by rw [he]; exact List.mem_append_right _ h) happ
  | gap b e l hbe hle hb hadm =>
    refine .gap b e l hbe (by omega) hb ?_
    intro p hp h1 h2
    rw [he] at hp
    rcases List.mem_append.1 hp with hp | hp
    · have := (hn p hp).1; omega
    · exact hadm p hp h1 h2

theorem Grow.appPay {st st' : Store} (h : Grow true st st') : appPay st'.msgs = appPay st.msgs := by
  obtain ⟨_, new, he, hn⟩ := h
  rw [he, appPay_append, appPay_admin new (fun p hp => (hn p hp).2 rfl)]
  simp

theorem Grow.below {adm : Bool} {st st' : Store} (h : Grow adm st st') (t : Int) (ht : t ≤ st.sender) :
    below t st'.msgs = below t st.msgs := by
  obtain ⟨_, new, he, hn⟩ := h
  rw [he, below_append, below_none t new (fun p hp => by have := (hn p hp).1; omega)]
  rfl

theorem StoreOK.save {st : Store} (h : StoreOK st) (m : OutMsg) (hm : MsgOK m) (hs : m.seq = st.sender) :
    StoreOK { st with msgs := (st.sender, m) :: st.msgs, sender := st.sender + 1 } := by
  refine ⟨by have := h.pos; simp only; omega, ?_, ?_⟩
  · exact List.pairwise_cons.2 ⟨fun q hq => (h.ent q hq).2.2.1, h.desc⟩
  · intro p hp
    rcases List.mem_cons.1 hp with rfl | hp
    · exact ⟨hs, h.pos, by simp only; omega, hm⟩
    · obtain ⟨a, b, c, d⟩ := h.ent p hp
      exact ⟨a, b, by simp only; omega, d⟩

theorem Grow.save (adm : Bool) (st : Store) (m : OutMsg) (ha : adm = true → isAdminKind m.kind = true) :
    Grow adm st { st with msgs := (st.sender, m) :: st.msgs, sender := st.sender + 1 } :=
  ⟨by simp only; omega, [(st.sender, m)], rfl, by
    intro p hp
    simp only [List.mem_singleton] at hp; subst hp
    exact ⟨Int.le_refl _, ha⟩⟩

theorem StoreOK.target {st : Store} (h : StoreOK st) (n : Int) : StoreOK { st with target := n } := ⟨h.pos, h.desc, h.ent⟩

/-- what the receiving engine's checks need of a message in flight -/
structure WFacts (m : OutMsg) : Prop where
  k : m.kind ≠ ""
  vals : ∀ p ∈ m.f, p.2 ≠ "" ∧ p.1 ≠ 141 ∧ p.1 ≠ 9001
  in64 : inInt64 m.seq
  ord : SecOrd (restF m)

theorem WFacts.absent {m : OutMsg} (h : WFacts m) {t : Nat} (ht : t = 141 ∨ t = 9001) : m.f.get? t = none :=
  get?_none_of_tags _ _ fun p hp e => by
    obtain ⟨_, h1, h2⟩ := h.vals p hp
    rcases ht with rfl | rfl <;> contradiction

theorem in64_of_range (n : Int) (h1 : 1 ≤ n) (h2 : n ≤ maxSeq) : inInt64 n := by
  unfold maxSeq at h2; unfold inInt64; omega

theorem resent_fields (p : String) : Fields.set (Fields.set [(9000, p)] 43 "Y") 122 "+" = [(9000, p), (43, "Y"), (122, "+")] := by
  simp [Fields.set, Fields.has]

theorem wire_facts {P : Store} (hP : StoreOK P) (hb : P.sender ≤ maxSeq) {m : OutMsg} (h : Wire P m) : WFacts m := by
  cases h with
  | stored h =>
    obtain ⟨_, h1, h2, ok⟩ := hP.ent _ h
    simp only at h1 h2
    exact ⟨ok.k, fun p hp => ⟨(ok.f p hp).1, (ok.f p hp).2.1, (ok.f p hp).2.2.1⟩, in64_of_range _ h1 (by omega), ok.ord.filter _⟩
  | @resent m0 h happ =>
    obtain ⟨_, h1, h2, ok⟩ := hP.ent _ h
    simp only at h1 h2
    obtain ⟨pl, hpl⟩ := ok.app happ
    have hf : (resent m0).f = [(9000, pl), (43, "Y"), (122, "+")] := by
      show Fields.set (Fields.set m0.f 43 "Y") 122 "+" = _
      rw [hpl]; exact resent_fields pl
    refine ⟨ok.k, ?_, (show inInt64 m0.seq from in64_of_range _ h1 (by omega)),
      (by unfold restF; rw [hf]; exact SecOrd.body (by rfl))⟩
    have hv := ok.f (9000, pl) (by rw [hpl]; exact List.mem_singleton_self _)
    intro p hp
    rw [hf] at hp
    simp only [List.mem_cons, List.not_mem_nil, or_false] at hp
    rcases hp with rfl | rfl | rfl
    · exact ⟨hv.1, by simp, by simp⟩
    · exact ⟨by simp, by simp, by simp⟩
    · exact ⟨by simp, by simp, by simp⟩
  | gap b e l hbe he hb' hadm =>
    refine ⟨(show "4" ≠ "" by decide), ?_, (show inInt64 b by unfold inInt64; unfold maxSeq at hb; omega), SecOrd.body (by rfl)⟩
    intro p hp
    simp only [gapFillL, gapFill, List.mem_cons, List.not_mem_nil, or_false] at hp
    rcases hp with rfl | rfl | rfl | rfl
    · exact ⟨toString_int_ne_empty _, by simp, by simp⟩
    · exact ⟨by simp, by simp, by simp⟩
    · exact ⟨by simp, by simp, by simp⟩
    · exact ⟨by simp, by simp, by simp⟩

theorem msgOK_app (p : String) (n : Int) (hp : p ≠ "") : MsgOK (appMsg n p) := by
  exact ⟨fok_one (admin := isAdminKind "D") 9000 p hp (by decide), SecOrd.body rfl, (show "D" ≠ "" by decide), (show "D" ≠ "4" by decide), fun _ => ⟨p, rfl⟩,
    fun h => absurd (show "D" = "2" from h) (by decide)⟩

theorem mem_of_lookup (st : Store) (n : Int) (m : OutMsg) (h : st.lookup n = some m) : (n, m) ∈ st.msgs :=
  find?_pair_some h

theorem lookup_of_mem (st : Store) (hd : Desc st.msgs) (n : Int) (m : OutMsg) (h : (n, m) ∈ st.msgs) : st.lookup n = some m :=
  find?_pair_of_mem (desc_keys hd) h

theorem resendable_of_ok (m : OutMsg) (h : MsgOK m) (ha : isAdminKind m.kind = false) : resendable m = true := by
  obtain ⟨p, hp⟩ := h.app ha
  unfold resendable
  rw [hp]
  simp [get?_cons, get?_nil]

theorem filed_of_ok {st : Store} (h : StoreOK st) : st.Filed := fun p hp => (h.ent p hp).1

theorem wire_at {P : Store} {m : OutMsg} (h : Wire P m) (hk : m.kind ≠ "4") :
    ∃ m0, (m.seq, m0) ∈ P.msgs ∧ m0.kind = m.kind ∧ m0.f.get? 9000 = m.f.get? 9000 := by
  cases h with
  | stored h => exact ⟨_, h, rfl, rfl⟩
  | @resent m0 h happ => exact ⟨m0, h, rfl, (resent_get? m0 9000 (by decide) (by decide)).symm⟩
  | gap b e l => exact absurd rfl hk

theorem wire_gap_inv {P : Store} (hP : StoreOK P) {m : OutMsg} (h : Wire P m) (hk : m.kind = "4") :
    ∃ b e l, m = gapFillL b e l ∧ b < e ∧ e ≤ P.sender ∧ -9223372036854775808 ≤ b ∧
      ∀ p ∈ P.msgs, b ≤ p.1 → p.1 < e → isAdminKind p.2.kind = true := by
  cases h with
  | stored h => exact absurd hk (hP.ent _ h).2.2.2.k4
  | @resent m0 h happ =>
    have : m0.kind = "4" := hk
    rw [this] at happ
    exact absurd happ (by decide)
  | gap b e l hbe he hb hadm => exact ⟨b, e, l, rfl, hbe, he, hb, hadm⟩

theorem wire_gap {P : Store} (hP : StoreOK P) {b e : Int} {l : Option Int} (h : Wire P (gapFillL b e l)) :
    b < e ∧ e ≤ P.sender ∧ -9223372036854775808 ≤ b ∧ ∀ p ∈ P.msgs, b ≤ p.1 → p.1 < e → isAdminKind p.2.kind = true := by
  obtain ⟨b', e', l', heq, h1, h2, h3, h4⟩ := wire_gap_inv hP h rfl
  have hb : b = b' := congrArg OutMsg.seq heq
  have he : e = e' := by
    have := congrArg OutMsg.f heq
    simp only [gapFillL, gapFill, List.cons.injEq, Prod.mk.injEq, true_and, and_true] at this
    exact toString_int_inj this
  subst hb he
  exact ⟨h1, h2, h3, h4⟩

theorem wire_stored_of_admin {P : Store} {m : OutMsg} (hw : Wire P m) (ha : isAdminKind m.kind = true) (hk4 : m.kind ≠ "4") :
    (m.seq, m) ∈ P.msgs := by
  cases hw with
  | stored h => exact h
  | @resent m0 h happ =>
    have : isAdminKind m0.kind = true := ha
    rw [this] at happ; cases happ
  | gap b e l => exact absurd rfl hk4

theorem wire_no123 {P : Store} (hP : StoreOK P) {m : OutMsg} (hw : Wire P m) (hk4 : m.kind ≠ "4") : m.f.get? 123 = none := by
  cases hw with
  | stored h => exact (hP.ent _ h).2.2.2.f.absent (Or.inr (Or.inr rfl))
  | @resent m0 h happ =>
    rw [resent_get? m0 123 (by decide) (by decide)]
    exact (hP.ent _ h).2.2.2.f.absent (Or.inr (Or.inr rfl))
  | gap b e => exact absurd rfl hk4

theorem wire_payload_unique {P : Store} (hP : StoreOK P) {m m' : OutMsg} (hw : Wire P m) (hw' : Wire P m') (hs : m'.seq = m.seq)
    (p p' : String) (hp : m.f.get? 9000 = some p) (hp' : m'.f.get? 9000 = some p') : p = p' := by
  have hk : ∀ x : OutMsg, ∀ q, x.f.get? 9000 = some q → x.kind = "4" → Wire P x → False := by
    intro x q hq hk4 hx
    obtain ⟨b, e, l, rfl, _⟩ := wire_gap_inv hP hx hk4
    simp [gapFillL, gapFill, get?_cons, get?_nil] at hq
  obtain ⟨m0, h0, _, e0⟩ := wire_at hw (fun h => hk m p hp h hw)
  obtain ⟨m0', h0', _, e0'⟩ := wire_at hw' (fun h => hk m' p' hp' h hw')
  rw [hs] at h0'
  have := desc_unique P.msgs hP.desc m.seq m0 m0' h0 h0'
  subst this
  rw [← e0, e0'] at hp
  rw [hp'] at hp
  cases hp; rfl

end Qfx.Link
