/- Qfx.Lemmas.StoreRefine — C16 for the memory and the SQL store (the file store is in StoreFile), and what the stores share about sorted maps:
   `Sorted`, the range selection (`selectRange_*`) and ascending saves per epoch (`Asc`, `HiB`), under which the abstract map is an append-only
   log, as the SQL table is.  The integer-range loop of the memory store is the range selection of a sorted map handed to the aborting
   callback by `deliverFrom`; the `ORDER BY` query of the SQL store is that selection itself (`select_eq`). -/
import Qfx.Spec.Store
import Qfx.Lemmas.Store
namespace Qfx.Store
open Qfx

def Sorted (l : MsgMap) : Prop := l.Pairwise (fun a b => a.1 < b.1)

theorem mem_ainsert (n : Nat) (m : Bytes) (l : MsgMap) (p : Nat × Bytes) (h : p ∈ ainsert n m l) : p = (n, m) ∨ p ∈ l := by
  -- leaves of `ainsert`: 1 empty; 2 `n` before the head; 3 replaces it; 4 goes past it
  fun_induction ainsert n m l with
  | case1 => simpa using h
  | case2 k v t hlt => simpa [or_comm] using h
  | case3 v t hnlt => rcases List.mem_cons.1 h with h | h <;> simp [h]
  | case4 k v t hlt hne ih =>
    rcases List.mem_cons.1 h with h | h
    · simp [h]
    · rcases ih h with h | h <;> simp [h]

theorem ainsert_sorted (n : Nat) (m : Bytes) (l : MsgMap) (hs : Sorted l) : Sorted (ainsert n m l) := by
  fun_induction ainsert n m l with
  | case1 => simp [Sorted]
  | case2 k v t hlt =>
    refine List.pairwise_cons.2 ⟨fun p hp => ?_, hs⟩
    rcases List.mem_cons.1 hp with rfl | hp
    · exact hlt
    · exact Nat.lt_trans hlt ((List.pairwise_cons.1 hs).1 p hp)
  | case3 v t hnlt =>
    refine List.pairwise_cons.2 ⟨fun p hp => ?_, (List.pairwise_cons.1 hs).2⟩
    have := (List.pairwise_cons.1 hs).1 p hp; simp only; omega
  | case4 k v t hlt hne ih =>
    refine List.pairwise_cons.2 ⟨fun p hp => ?_, ih (List.pairwise_cons.1 hs).2⟩
    rcases mem_ainsert n m t p hp with rfl | hp
    · simp only; omega
    · exact (List.pairwise_cons.1 hs).1 p hp

/-- the callback loop of the memory store's and the file store's iteration: `calls` made so far, `acc` delivered so far (reversed), abort on call `k` -/
def deliverFrom (k : Nat) : Nat → List Bytes → List Bytes → List Bytes × Bool
  | _, acc, [] => (acc.reverse, true)
  | calls, acc, b :: bs =>
      if k ≠ 0 ∧ calls + 1 = k then ((b :: acc).reverse, false) else deliverFrom k (calls + 1) (b :: acc) bs

theorem deliverFrom_spec (k : Nat) (msgs : List Bytes) (calls : Nat) (acc : List Bytes) (h : k = 0 ∨ calls < k) :
    deliverFrom k calls acc msgs =
      if k = 0 ∨ calls + msgs.length < k then (acc.reverse ++ msgs, true) else (acc.reverse ++ msgs.take (k - calls), false) := by
  fun_induction deliverFrom k calls acc msgs with
  | case1 calls acc =>
    rw [if_pos (by simp only [List.length_nil]; omega)]; simp
  | case2 calls acc b bs hk =>
    have h1 : k - calls = 1 := by omega
    rw [if_neg (by simp only [List.length_cons]; omega), h1]; simp
  | case3 calls acc b bs hk ih =>
    rw [ih (by omega)]
    by_cases hc : k = 0 ∨ calls + (b :: bs).length < k
    · rw [if_pos hc, if_pos (by simp only [List.length_cons] at hc; omega)]; simp
    · have h1 : k - calls = (k - (calls + 1)) + 1 := by omega
      rw [if_neg hc, if_neg (by simp only [List.length_cons] at hc; omega), h1]; simp [List.take_succ_cons]

theorem deliverFrom_cbRun (k : Nat) (msgs : List Bytes) : deliverFrom k 0 [] msgs = cbRun k msgs := by
  rw [deliverFrom_spec k msgs 0 [] (by omega)]
  unfold cbRun
  simp

theorem inRange_true (b e : Int) (n : Nat) (h : b ≤ (n : Int) ∧ (n : Int) ≤ e) : inRange b e n = true := by
  simp [inRange, h]

theorem inRange_false (b e : Int) (n : Nat) (h : ¬ (b ≤ (n : Int) ∧ (n : Int) ≤ e)) : inRange b e n = false := by
  simp only [inRange, decide_eq_false_iff_not]; exact h

theorem selectRange_cons (b e : Int) (p : Nat × Bytes) (t : MsgMap) :
    selectRange b e (p :: t) = if inRange b e p.1 then p.2 :: selectRange b e t else selectRange b e t := by
  unfold selectRange
  by_cases h : inRange b e p.1 = true <;> simp [h]

theorem lookupMsg_above (l : MsgMap) (n : Nat) (h : ∀ q ∈ l, n < q.1) : Spec.Store.lookupMsg l n = none := by
  unfold Spec.Store.lookupMsg
  have : l.find? (fun p => p.1 == n) = none := by
    rw [List.find?_eq_none]
    intro q hq; have := h q hq; simp; omega
  simp [this]

def optList (o : Option Bytes) : List Bytes := match o with | some b => [b] | none => []

theorem selectRange_split (l : MsgMap) (hs : Sorted l) (seq e : Int) (h : seq ≤ e) :
    selectRange seq e l = optList (if seq < 0 then none else Spec.Store.lookupMsg l seq.toNat) ++ selectRange (seq + 1) e l := by
  induction l with
  | nil => simp [selectRange, Spec.Store.lookupMsg, optList]
  | cons p t ih =>
    have hp : ∀ q ∈ t, p.1 < q.1 := (List.pairwise_cons.1 hs).1
    -- behind a head at or above the key nothing has the key
    have hno : seq ≤ (p.1 : Int) → (if seq < 0 then none else Spec.Store.lookupMsg t seq.toNat) = none := fun hle => by
      split
      · rfl
      · exact lookupMsg_above t _ fun q hq => by have := hp q hq; omega
    have hl : (if seq < 0 then none else Spec.Store.lookupMsg (p :: t) seq.toNat)
        = if (p.1 : Int) = seq then some p.2 else (if seq < 0 then none else Spec.Store.lookupMsg t seq.toNat) := by
      by_cases hk : (p.1 : Int) = seq
      · have : p.1 = seq.toNat := by omega
        rw [if_pos hk, if_neg (by omega)]; simp [Spec.Store.lookupMsg, this]
      · rw [if_neg hk]
        by_cases h0 : seq < 0
        · rw [if_pos h0, if_pos h0]
        · have : ¬ p.1 = seq.toNat := by omega
          rw [if_neg h0, if_neg h0]; simp [Spec.Store.lookupMsg, this]
    -- all three terms by their equations for a head, then the head below, at, or above the key
    rw [selectRange_cons, selectRange_cons, hl, ih (List.pairwise_cons.1 hs).2]
    by_cases h1 : (p.1 : Int) < seq
    · rw [inRange_false seq _ _ (by omega), inRange_false (seq + 1) _ _ (by omega), if_neg (Int.ne_of_lt h1)]; rfl
    · rw [hno (by omega)]
      by_cases h2 : (p.1 : Int) = seq
      · rw [if_pos h2, inRange_false (seq + 1) _ _ (by omega), inRange_true _ _ _ (by omega)]; rfl
      · rw [if_neg h2]
        have : inRange seq e p.1 = inRange (seq + 1) e p.1 := by simp only [inRange]; congr 1; apply propext; omega
        rw [this]; rfl

theorem selectRange_empty (l : MsgMap) (b e : Int) (h : e < b) : selectRange b e l = [] := by
  induction l with
  | nil => rfl
  | cons p t ih => rw [selectRange_cons, inRange_false _ _ _ (by omega), ih]; simp

theorem selectRange_none (l : MsgMap) (b e : Int) (h : ∀ q ∈ l, e < (q.1 : Int)) : selectRange b e l = [] := by
  induction l with
  | nil => rfl
  | cons p t ih =>
    have := h p (by simp)
    rw [selectRange_cons, inRange_false _ _ _ (by omega), ih (fun q hq => h q (by simp [hq]))]; simp

theorem iterLoop_eq (m : MemStore) (hs : Sorted m.map) (k : Nat) : ∀ (cnt : Nat) (seq : Int) (calls : Nat) (acc : List Bytes),
    m.iterLoop k cnt seq calls acc = deliverFrom k calls acc (selectRange seq (seq + cnt - 1) m.map) := by
  intro cnt
  induction cnt with
  | zero =>
    intro seq calls acc
    rw [selectRange_empty _ _ _ (by omega)]
    simp [MemStore.iterLoop, deliverFrom]
  | succ cnt ih =>
    intro seq calls acc
    have e : seq + ((cnt + 1 : Nat) : Int) - 1 = seq + cnt := by omega
    rw [e, selectRange_split m.map hs seq (seq + cnt) (by omega)]
    have e' : seq + 1 + (cnt : Int) - 1 = seq + cnt := by omega
    unfold MemStore.iterLoop
    have hl : (if seq < 0 then none else m.lookup seq.toNat) = (if seq < 0 then none else Spec.Store.lookupMsg m.map seq.toNat) := by
      simp [MemStore.lookup, Spec.Store.lookupMsg]
    rw [hl]
    cases hlk : (if seq < 0 then none else Spec.Store.lookupMsg m.map seq.toNat) with
    | none => simp only [optList, List.nil_append]; rw [ih, e']
    | some b =>
      simp only [optList, List.cons_append, List.nil_append]
      rw [deliverFrom]
      by_cases hk : k ≠ 0 ∧ calls + 1 = k
      · simp [hk]
      · rw [if_neg hk, if_neg hk, ih, e']

theorem mem_iterate_eq (m : MemStore) (hs : Sorted m.map) (b e : Int) (k : Nat) :
    m.iterate b e k = cbRun k (selectRange b e m.map) := by
  unfold MemStore.iterate
  rw [iterLoop_eq m hs, deliverFrom_cbRun]
  by_cases h : b ≤ e
  · have : b + (((e - b + 1).toNat : Nat) : Int) - 1 = e := by omega
    rw [this]
  · rw [selectRange_empty _ b e (by omega), selectRange_empty _ _ _ (by omega)]

structure MemR (s : AStore) (w : MemW) : Prop where
  map : w.st.map = s.msgs
  cs : w.st.nextS = (s.sender : Int)
  ct : w.st.nextT = (s.target : Int)
  fresh : w.st.ctime < w.clock
  sorted : Sorted s.msgs

theorem memR_init (clock : Nat) : MemR {} (MemW.create clock) := by
  constructor <;> simp [MemW.create, MemStore.reset, MemStore.nextS, MemStore.nextT, Sorted]

theorem memR_step (s : AStore) (w : MemW) (o : Op) (h : MemR s w) (ho : o ≠ .reopen) :
    MemR (s.step o).1 (w.step o).1 ∧ (w.step o).2 = (s.step o).2 := by
  obtain ⟨hm, hs, ht, hf, hso⟩ := h
  have hs' : w.st.senderM1 + 1 = (s.sender : Int) := hs
  have ht' : w.st.targetM1 + 1 = (s.target : Int) := ht
  cases o with
  | setS n =>
    refine ⟨⟨hm, ?_, ht, hf, hso⟩, ?_⟩ <;>
      simp [MemW.step, AStore.step, MemStore.setS, MemStore.nextS, MemStore.nextT, ht']
  | setT n =>
    refine ⟨⟨hm, hs, ?_, hf, hso⟩, ?_⟩ <;>
      simp [MemW.step, AStore.step, MemStore.setT, MemStore.nextS, MemStore.nextT, hs']
  | incS =>
    refine ⟨⟨hm, ?_, ht, hf, hso⟩, ?_⟩ <;>
      simp [MemW.step, AStore.step, MemStore.incS, MemStore.nextS, MemStore.nextT, ht', hs']
  | incT =>
    refine ⟨⟨hm, hs, ?_, hf, hso⟩, ?_⟩ <;>
      simp [MemW.step, AStore.step, MemStore.incT, MemStore.nextS, MemStore.nextT, ht', hs']
  | save n m =>
    refine ⟨⟨?_, hs, ht, hf, ainsert_sorted n m _ hso⟩, ?_⟩ <;>
      simp [MemW.step, AStore.step, MemStore.save, MemStore.nextS, MemStore.nextT, ht', hs', hm]
  | saveIncr n m =>
    refine ⟨⟨?_, ?_, ht, hf, ainsert_sorted n m _ hso⟩, ?_⟩ <;>
      simp [MemW.step, AStore.step, MemStore.save, MemStore.incS, MemStore.nextS, MemStore.nextT, ht', hs', hm]
  | get b e =>
    have hi := mem_iterate_eq w.st (hm ▸ hso) b e 0
    refine ⟨⟨hm, hs, ht, hf, hso⟩, ?_⟩
    simp [MemW.step, AStore.step, hi, cbRun, hm, MemStore.nextS, MemStore.nextT, ht', hs']
  | iter b e k =>
    have hi := mem_iterate_eq w.st (hm ▸ hso) b e k
    refine ⟨⟨hm, hs, ht, hf, hso⟩, ?_⟩
    simp [MemW.step, AStore.step, hi, hm, MemStore.nextS, MemStore.nextT, ht', hs']
  | refresh =>
    refine ⟨⟨hm, hs, ht, hf, hso⟩, ?_⟩
    simp [MemW.step, AStore.step, MemStore.nextS, MemStore.nextT, ht', hs']
  | reopen => exact absurd rfl ho
  | reset =>
    refine ⟨⟨?_, ?_, ?_, ?_, ?_⟩, ?_⟩ <;>
      simp [MemW.step, AStore.step, MemStore.reset, MemStore.nextS, MemStore.nextT, Sorted]
    exact decide_eq_true (by omega)

theorem memR_run (ops : List Op) (s : AStore) (w : MemW) (h : MemR s w) (hno : ∀ o ∈ ops, o ≠ .reopen) :
    (w.run ops).2 = (s.run ops).2 := by
  refine (sim_run MemW.step MemW.run (fun _ => rfl) (fun _ _ _ => rfl) (fun s w h => MemR s w ∧ ∀ o ∈ h, o ≠ .reopen)
    ?_ [] ops s w (by rw [List.append_nil]; exact ⟨h, hno⟩)).2
  intro s w o os h
  have st := memR_step s w o h.1 (h.2 o (by simp))
  exact ⟨⟨st.1, fun o' ho' => h.2 o' (by simp [ho'])⟩, st.2⟩

open Qfx.Spec.Store

/-- the quantifier of C16: within an epoch every save uses a number above all earlier ones (`hi` = highest so far) -/
def Asc : Option Nat → List Op → Prop
  | _, [] => True
  | hi, o :: os => ascendingOk hi o = true ∧ Asc (hiAfter hi o) os

/-- every key is at most `hi`; in particular `hi = none` (nothing saved since the reset) forces the map to be empty -/
def HiB (hi : Option Nat) (l : MsgMap) : Prop := ∀ p ∈ l, ∃ h, hi = some h ∧ p.1 ≤ h

theorem asc_keys_lt (hi : Option Nat) (l : MsgMap) (n : Nat) (hb : HiB hi l)
    (ha : ∀ h, hi = some h → h < n) : ∀ p ∈ l, p.1 < n := by
  intro p hp
  obtain ⟨h, he, hle⟩ := hb p hp
  have := ha h he; omega

theorem asc_lt (hi : Option Nat) (o : Op) (n : Nat) (m : Bytes) (ho : o = .save n m ∨ o = .saveIncr n m)
    (ha : ascendingOk hi o = true) : ∀ h, hi = some h → h < n := by
  rcases ho with rfl | rfl <;> (intro h he; subst he; simpa [ascendingOk] using ha)

theorem ainsert_asc (n : Nat) (m : Bytes) (l : MsgMap) (h : ∀ p ∈ l, p.1 < n) : ainsert n m l = l ++ [(n, m)] := by
  induction l with
  | nil => rfl
  | cons p t ih =>
    obtain ⟨k, v⟩ := p
    have hk : k < n := h (k, v) (by simp)
    have : ¬ n < k := by omega
    have h2 : ¬ n = k := by omega
    simp [ainsert, this, h2, ih (fun q hq => h q (by simp [hq]))]

theorem hiB_append (l : MsgMap) (n : Nat) (m : Bytes) (h : ∀ p ∈ l, p.1 < n) : HiB (some n) (l ++ [(n, m)]) := by
  intro p hp
  rcases List.mem_append.1 hp with hp | hp
  · exact ⟨n, rfl, Nat.le_of_lt (h p hp)⟩
  · simp at hp; subst hp; exact ⟨n, rfl, Nat.le_refl _⟩

theorem sorted_append (l : MsgMap) (n : Nat) (m : Bytes) (hs : Sorted l) (h : ∀ p ∈ l, p.1 < n) : Sorted (l ++ [(n, m)]) :=
  pairwise_concat.2 ⟨hs, h⟩

theorem sortedInsert_head (p : Nat × Bytes) (l : MsgMap) (h : ∀ q ∈ l, p.1 < q.1) : sortedInsert p l = p :: l := by
  cases l with
  | nil => rfl
  | cons q t => have := h q (by simp); simp [sortedInsert]; omega

theorem orderBySeq_sorted (l : MsgMap) (hs : Sorted l) : orderBySeq l = l := by
  induction l with
  | nil => rfl
  | cons p t ih =>
    have hp := (List.pairwise_cons.1 hs).1
    have ht := (List.pairwise_cons.1 hs).2
    show sortedInsert p (orderBySeq t) = p :: t
    rw [ih ht, sortedInsert_head p t hp]

theorem select_eq (t : Tables) (hs : Sorted t.msgs) (b e : Int) : t.select b e = selectRange b e t.msgs := by
  unfold Tables.select selectRange
  rw [orderBySeq_sorted]
  exact List.Pairwise.filter _ hs

structure SqlR (s : AStore) (w : SqlW) (hi : Option Nat) : Prop where
  msgs : w.db.msgs = s.msgs
  row : w.db.sess = some ⟨w.st.cache.ctime, w.st.cache.nextT, w.st.cache.nextS⟩
  cs : w.st.cache.nextS = (s.sender : Int)
  ct : w.st.cache.nextT = (s.target : Int)
  fresh : w.st.cache.ctime < w.clock
  sorted : Sorted s.msgs
  hib : HiB hi s.msgs

theorem sqlR_init : SqlR {} (SqlW.open {} 0) none := by
  constructor <;> simp [SqlW.open, sqlPopulate, MemStore.reset, MemStore.nextS, MemStore.nextT, Sorted, HiB]

theorem sqlR_step (s : AStore) (w : SqlW) (hi : Option Nat) (o : Op) (h : SqlR s w hi) (ha : ascendingOk hi o = true) :
    SqlR (s.step o).1 (w.step o).1 (hiAfter hi o) ∧ (w.step o).2 = (s.step o).2 := by
  obtain ⟨hm, hrow, hs, ht, hf, hso, hb⟩ := h
  obtain ⟨⟨c⟩, db, clock⟩ := w
  simp only at hm hrow hs ht hf
  have hsel := fun b e => select_eq db (hm ▸ hso) b e
  have hne : c.ctime ≠ clock := by omega
  -- a save appends to the table, as it does to the abstract map
  have hsave : ∀ n m, (∀ h, hi = some h → h < n) →
      db.insertMsg n m = some { db with msgs := db.msgs ++ [(n, m)] } ∧ ainsert n m s.msgs = s.msgs ++ [(n, m)]
      ∧ Sorted (s.msgs ++ [(n, m)]) ∧ HiB (some n) (s.msgs ++ [(n, m)]) := fun n m hlt =>
    have hk := asc_keys_lt hi s.msgs n hb hlt
    ⟨insertMsg_asc db n m (hm ▸ hk), ainsert_asc n m _ hk, sorted_append _ n m hso hk, hiB_append _ n m hk⟩
  cases o <;>
    simp only [SqlW.step, SqlW.stepF, fails_none, Bool.false_eq_true, ↓reduceIte, AStore.step, hiAfter, obsOf, hsel, hm,
      MemStore.nextS_setS, MemStore.nextT_setS, MemStore.ctime_setS, MemStore.nextS_setT, MemStore.nextT_setT, MemStore.ctime_setT,
      MemStore.nextS_reset, MemStore.nextT_reset, MemStore.ctime_reset, hs, ht, ne_eq, not_true_eq_false, decide_false, and_true]
  case setS n => exact ⟨hm, by simp [Tables.updOutgoing, hrow], MemStore.nextS_setS _ _, ht, hf, hso, hb⟩
  case setT n => exact ⟨hm, by simp [Tables.updIncoming, hrow], hs, MemStore.nextT_setT _ _, hf, hso, hb⟩
  case incS => exact ⟨hm, by simp [Tables.updOutgoing, hrow], by simp, ht, hf, hso, hb⟩
  case incT => exact ⟨hm, by simp [Tables.updIncoming, hrow], hs, by simp, hf, hso, hb⟩
  case save n m =>
    obtain ⟨e1, e2, h3, h4⟩ := hsave n m (asc_lt hi _ n m (Or.inl rfl) ha)
    simp only [e1, e2, and_true]
    exact ⟨by simp only [hm], hrow, hs, ht, hf, h3, h4⟩
  case saveIncr n m =>
    obtain ⟨e1, e2, h3, h4⟩ := hsave n m (asc_lt hi _ n m (Or.inr rfl) ha)
    simp only [e1, e2, hm, and_true]
    exact ⟨by simp [Tables.updOutgoing], by simp [Tables.updOutgoing, hrow], by simp, ht, hf, h3, h4⟩
  case get b e => exact ⟨hm, hrow, hs, ht, hf, hso, hb⟩
  case iter b e k => exact ⟨hm, hrow, hs, ht, hf, hso, hb⟩
  case refresh =>
    simp only [hrow, sqlPopulate_row _ _ _ hrow, MemStore.nextS_setS, MemStore.nextT_setS, MemStore.nextT_setT,
      MemStore.ctime_setS, MemStore.ctime_setT, hs, ht, not_true_eq_false, decide_false, and_true]
    exact ⟨hm, by simp [hrow, hs, ht], by simp, by simp, Nat.lt_succ_of_lt hf, hso, hb⟩
  case reopen =>
    simp only [SqlW.open, sqlPopulate_row _ _ _ hrow, MemStore.nextS_setS, MemStore.nextT_setS, MemStore.nextT_setT,
      MemStore.ctime_setS, MemStore.ctime_setT, hs, ht, not_true_eq_false, decide_false, and_true]
    exact ⟨hm, by simp [hrow, hs, ht], by simp, by simp, by simp; omega, hso, hb⟩
  case reset =>
    refine ⟨⟨rfl, by simp [hrow], rfl, rfl, Nat.lt_succ_self _, List.Pairwise.nil, nofun⟩, ?_⟩
    simp [Ne.symm hne]

theorem sqlR_run (ops : List Op) (s : AStore) (w : SqlW) (hi : Option Nat) (h : SqlR s w hi) (ha : Asc hi ops) :
    (w.run ops).2 = (s.run ops).2 := by
  refine (sim_run SqlW.step SqlW.run (fun _ => rfl) (fun _ _ _ => rfl) (fun s w h => ∃ hi, SqlR s w hi ∧ Asc hi h)
    ?_ [] ops s w (by rw [List.append_nil]; exact ⟨hi, h, ha⟩)).2
  intro s w o os ⟨hi, h, ha⟩
  have st := sqlR_step s w hi o h ha.1
  exact ⟨⟨_, st.1, ha.2⟩, st.2⟩

end Qfx.Store
