/-
  Non-vacuity witnesses for the dictionary-guided parse theorems: a two-level dictionary `exD` (NoPartyIDs 453 with nested NoPartySubIDs
  802) with a member walk and a run (`exWalk2`, `exSegOK`); a three-level dictionary `exD3` with the same run at stack level and from the
  dictionary alone (`exWalkN`, `exSegOKN`, `exTreeOK`, `exGroupWalk`, `exSegNested`); a dictionary `exD5` with a transport part and two
  groups for a whole item sequence (`exItemsN`); the template and API entries for the hypotheses of `C13_roundtrip_dict`.
-/
import Qfx.Lemmas.CodecDictSegs
import Qfx.Lemmas.CodecRoundDict
namespace Qfx
open Qfx.Spec

/-! non-vacuity of `Walk2`: NoPartyIDs(453) with nested NoPartySubIDs(802), two entries with one nested instance each -/
def exCN : List DNode := [.mk 523 [], .mk 803 []]
def exC : List DNode := [.mk 448 [], .mk 447 [], .mk 802 exCN]
def exD : Dicts := { transport := none, app := some [([68], [.mk 11 [], .mk 453 exC, .mk 58 []])] }

theorem exNested : NestedGroup exD [68] 453 802 exC exCN :=
  ⟨⟨[([68], [.mk 11 [], .mk 453 exC, .mk 58 []])], [.mk 11 [], .mk 453 exC, .mk 58 []], .mk 453 exC, .mk 802 exCN,
     rfl, by simp [alFindB], by simp [dfind, DNode.tag], rfl, by simp [exC, dfind, DNode.tag], rfl⟩, rfl, rfl,
   by intro n hn; simp [exCN] at hn; rcases hn with e | e <;> subst e <;> rfl⟩

theorem exWire (t : Tag) (v : Bytes) (hv : ∀ c ∈ v, c ≠ SOH) (ht : inInt64 t) : IsWire (TagValue.init t v) :=
  canonTV_isWire _ (canon_init t v hv ht)

/-- in a dictionary with one message type, a tag that starts no group of that type starts none at all -/
theorem noGroupTag_single {tr : Option (List Tag × List Tag)} {mt : Bytes} {fs : List DNode} {t : Tag} (h : groupOf fs t = none) :
    NoGroupTag { transport := tr, app := some [(mt, fs)] } t := by
  intro msgs hm p hp
  injection hm with hm; subst hm
  rw [List.mem_singleton.1 hp, pathWalk_single]; exact h

theorem exPlain {d : Dicts} (t : Tag) (v : Bytes) (hv : ∀ c ∈ v, c ≠ SOH) (ht : inInt64 t) (h10 : t ≠ 10) (h212 : t ≠ 212) (h9 : t ≠ 9)
    (h35 : t ≠ 35) (hng : NoGroupTag d t) : PlainFields d [TagValue.init t v] := by
  intro tv htv
  rw [List.mem_singleton.1 htv]
  exact ⟨exWire t v hv ht, h10, h212, h9, h35, hng⟩

theorem exWalk2 : Walk2 exD [68] 453 exC .outer
    [TagValue.init 448 [97], TagValue.init 802 [49], TagValue.init 523 [120],
     TagValue.init 448 [98], TagValue.init 802 [49], TagValue.init 523 [121]] (.inner 802 exCN) := by
  have hng : NoGroupTag exD 448 := noGroupTag_single (by rfl)
  refine .leaf (exWire _ _ (by decide) (by decide)) (by rfl) (by rfl) ?_
  refine .start (CN := exCN) (exWire _ _ (by decide) (by decide)) exNested ?_
  refine .inner (exWire _ _ (by decide) (by decide)) (by rfl) ?_
  refine .pop (exWire _ _ (by decide) (by decide)) (by rfl)
    (by rfl) (by rfl)
    (by rfl) (by rfl) hng ?_
  refine .start (CN := exCN) (exWire _ _ (by decide) (by decide)) exNested ?_
  refine .inner (exWire _ _ (by decide) (by decide)) (by rfl) ?_
  exact .nil _

/-- a run: `11=a, 453=2, <the walk above>, 58=x` -/
theorem exSegOK : SegOK exD [68]
    ⟨[TagValue.init 11 [97]], TagValue.init 453 [50],
     [TagValue.init 448 [97], TagValue.init 802 [49], TagValue.init 523 [120],
      TagValue.init 448 [98], TagValue.init 802 [49], TagValue.init 523 [121]], TagValue.init 58 [120]⟩ where
  pre := exPlain 11 [97] (by decide) (by decide) (by decide) (by decide) (by decide) (by decide) (noGroupTag_single (by rfl))
  grp := ⟨exC, .inner 802 exCN, exNested.outer, exWalk2, by rfl,
    by rfl⟩
  wg0 := exWire _ _ (by decide) (by decide)
  gh := by rfl
  gt := by rfl
  z := exPlain 58 [120] (by decide) (by decide) (by decide) (by decide) (by decide) (by decide) (noGroupTag_single (by rfl))
  zh := by rfl
  zt := by rfl

/-- three levels: 453 { 448, 447, 802 { 523, 803, 2376 { 2377 } } } -/
def exCNN : List DNode := [.mk 2377 []]
def exCN3 : List DNode := [.mk 523 [], .mk 803 [], .mk 2376 exCNN]
def exC3 : List DNode := [.mk 448 [], .mk 447 [], .mk 802 exCN3]
def exFs3 : List DNode := [.mk 11 [], .mk 453 exC3, .mk 58 []]
def exD3 : Dicts := { transport := none, app := some [([68], exFs3)] }

theorem exApp3 : AppMsg exD3 [68] exFs3 := ⟨_, rfl, by simp [alFindB]⟩

/-- members: 448=a 802=1 523=x 2376=1 2377=q | 448=b (pop two levels) 802=1 523=y -/
theorem exWalkN : WalkN exD3 [(453, exC3)]
    [TagValue.init 448 [97], TagValue.init 802 [49], TagValue.init 523 [120], TagValue.init 2376 [49], TagValue.init 2377 [113],
     TagValue.init 448 [98], TagValue.init 802 [49], TagValue.init 523 [121]] [(453, exC3), (802, exCN3)] := by
  refine .step (st1 := [(453, exC3)]) (exWire _ _ (by decide) (by decide)) (fun h => absurd h (by decide)) (by rfl) ?_
  refine .step (st1 := [(453, exC3), (802, exCN3)]) (exWire _ _ (by decide) (by decide)) (fun h => absurd h (by decide)) (by rfl) ?_
  refine .step (st1 := [(453, exC3), (802, exCN3)]) (exWire _ _ (by decide) (by decide)) (fun h => absurd h (by decide)) (by rfl) ?_
  refine .step (st1 := [(453, exC3), (802, exCN3), (2376, exCNN)]) (exWire _ _ (by decide) (by decide)) (fun h => absurd h (by decide)) (by rfl) ?_
  refine .step (st1 := [(453, exC3), (802, exCN3), (2376, exCNN)]) (exWire _ _ (by decide) (by decide)) (fun h => absurd h (by decide)) (by rfl) ?_
  refine .step (st1 := [(453, exC3)]) (exWire _ _ (by decide) (by decide))
    (fun _ => ⟨by rfl, by rfl, noGroupTag_single (by rfl)⟩) (by rfl) ?_
  refine .step (st1 := [(453, exC3), (802, exCN3)]) (exWire _ _ (by decide) (by decide)) (fun h => absurd h (by decide)) (by rfl) ?_
  refine .step (st1 := [(453, exC3), (802, exCN3)]) (exWire _ _ (by decide) (by decide)) (fun h => absurd h (by decide)) (by rfl) ?_
  exact .nil _

/-- a run with the three-level walk above: `11=a, 453=2, <members>, 58=x` -/
theorem exSegOKN : SegOKN exD3 [68] exFs3
    ⟨[TagValue.init 11 [97]], TagValue.init 453 [50],
     [TagValue.init 448 [97], TagValue.init 802 [49], TagValue.init 523 [120], TagValue.init 2376 [49], TagValue.init 2377 [113],
      TagValue.init 448 [98], TagValue.init 802 [49], TagValue.init 523 [121]], TagValue.init 58 [120]⟩ where
  pre := exPlain 11 [97] (by decide) (by decide) (by decide) (by decide) (by decide) (by decide) (noGroupTag_single (by rfl))
  grp := ⟨exC3, [(453, exC3), (802, exCN3)], by rfl, exWalkN, by rfl⟩
  wg0 := exWire _ _ (by decide) (by decide)
  gh := by rfl
  gt := by rfl
  z := exPlain 58 [120] (by decide) (by decide) (by decide) (by decide) (by decide) (by decide) (noGroupTag_single (by rfl))
  zh := by rfl
  zt := by rfl

theorem exTreeOK : TreeOK exD3 exC3 := treeOKb_sound (by decide)

theorem exGroupWalk : GroupWalk exC3
    [TagValue.init 448 [97], TagValue.init 802 [49], TagValue.init 523 [120], TagValue.init 2376 [49], TagValue.init 2377 [113],
     TagValue.init 448 [98], TagValue.init 802 [49], TagValue.init 523 [121]] := by
  have w : ∀ (t : Tag) (v : Bytes), (∀ c ∈ v, c ≠ SOH) → inInt64 t → IsWire (TagValue.init t v) := fun t v h1 h2 => exWire t v h1 h2
  refine .leaf (w _ _ (by decide) (by decide)) (by rfl) (by rfl) ?_
  refine GroupWalk.nest (CN := exCN3) (MN := [TagValue.init 523 [120], TagValue.init 2376 [49], TagValue.init 2377 [113]])
    (w _ _ (by decide) (by decide)) (by rfl) ?_ ?_
  · refine .leaf (w _ _ (by decide) (by decide)) (by rfl) (by rfl) ?_
    refine GroupWalk.nest (CN := exCNN) (MN := [TagValue.init 2377 [113]]) (r := []) (w _ _ (by decide) (by decide)) (by rfl) ?_ (.nil _)
    exact .leaf (w _ _ (by decide) (by decide)) (by rfl) (by rfl) (.nil _)
  · refine .leaf (w _ _ (by decide) (by decide)) (by rfl) (by rfl) ?_
    refine GroupWalk.nest (CN := exCN3) (MN := [TagValue.init 523 [121]]) (r := []) (w _ _ (by decide) (by decide)) (by rfl) ?_ (.nil _)
    exact .leaf (w _ _ (by decide) (by decide)) (by rfl) (by rfl) (.nil _)

theorem exSegNested : SegNested exD3 exFs3
    ⟨[TagValue.init 11 [97]], TagValue.init 453 [50],
     [TagValue.init 448 [97], TagValue.init 802 [49], TagValue.init 523 [120], TagValue.init 2376 [49], TagValue.init 2377 [113],
      TagValue.init 448 [98], TagValue.init 802 [49], TagValue.init 523 [121]], TagValue.init 58 [120]⟩ where
  pre := exSegOKN.pre
  grp := ⟨exC3, by rfl, exGroupWalk, exTreeOK, by rfl, (notListedB_sound (by decide)).2⟩
  wg0 := exSegOKN.wg0
  gh := exSegOKN.gh
  gt := exSegOKN.gt
  z := exSegOKN.z
  zh := exSegOKN.zh
  zt := exSegOKN.zt

/-! ### a whole message as an `ItemsN` sequence: plain field, three-level group 453, DIRECTLY the flat group 78, DIRECTLY a user-defined
    trailer field (5050, known to the transport dictionary only), then CheckSum -/

def ex78C : List DNode := [.mk 79 [], .mk 80 []]
def exFs5 : List DNode := [.mk 11 [], .mk 453 exC3, .mk 78 ex78C, .mk 58 []]
/-- transport dictionary with the user-defined header tag 10030 and trailer tag 5050; application dictionary with two groups -/
def exD5 : Dicts := { transport := some ([10030], [5050]), app := some [([68], exFs5)] }

theorem exApp5 : AppMsg exD5 [68] exFs5 := ⟨_, rfl, by simp [alFindB]⟩

theorem exItemsN : ItemsN exD5 exFs5 none
    [.plain (TagValue.init 11 [97]),
     .group (TagValue.init 453 [50])
       [TagValue.init 448 [97], TagValue.init 802 [49], TagValue.init 523 [120], TagValue.init 2376 [49], TagValue.init 2377 [113],
        TagValue.init 448 [98], TagValue.init 802 [49], TagValue.init 523 [121]],
     .group (TagValue.init 78 [49]) [TagValue.init 79 [120]],
     .plain (TagValue.init 5050 [72])] none := by
  refine .plainMain ⟨exWire _ _ (by decide) (by decide), by decide, by decide, by decide, by decide, noGroupTag_single (by rfl)⟩ ?_
  refine .groupMain (C := exC3) (exWire _ _ (by decide) (by decide))
    (by rfl)
    (by rfl) (by rfl) exGroupWalk (treeOKb_sound (by decide)) ?_
  refine .groupAdj (C := ex78C) (exWire _ _ (by decide) (by decide))
    (by rfl)
    (by rfl)
    (notListedB_sound (by decide)) (by rfl)
    (.leaf (exWire _ _ (by decide) (by decide)) (by rfl) (by rfl) (.nil _)) (treeOKb_sound (by decide)) ?_
  refine .plainExit (exWire _ _ (by decide) (by decide)) (by decide) (by decide) (by decide) (by decide)
    (notListedB_sound (by decide))
    (Or.inr (Or.inl (by rfl))) (.nil _)

/-! ### witnesses for the hypotheses of the end-to-end round trip (`C13_roundtrip_dict`): template ↔ dictionary, conforming API entries -/

def exTmpl3 : List Item := [.elem 448, .elem 447, .group 802 [.elem 523, .elem 803, .group 2376 [.elem 2377]]]

theorem exTmplDict : TmplDict exTmpl3 exC3 :=
  .elem (by rfl) (by rfl) (.elem (by rfl) (by rfl) (.group (CN := exCN3) (by rfl)
    (.elem (by rfl) (by rfl) (.elem (by rfl) (by rfl) (.group (CN := exCNN) (by rfl) (.elem (by rfl) (by rfl) (.nil _)) (.nil _))))
    (.nil _)))

/-- two entries set through the API, the first with a nested group that has a nested group -/
def exEntries : List (List GFld) :=
  [[.fld 448 [97], .grp 802 [.elem 523, .elem 803, .group 2376 [.elem 2377]] [[.fld 523 [120], .grp 2376 [.elem 2377] [[.fld 2377 [113]]]]]],
   [.fld 447 [68], .fld 448 [98]]]

theorem exEntriesOK : entriesOK exTmpl3 exEntries = true := by
  simp [entriesOK, entryOK, tmplEq, exTmpl3, exEntries, findItem, Item.tag, GFld.tag]

theorem exSmall : SmallEs exEntries :=
  .cons (.fld (.grp (by decide) (.cons (.fld (.grp (by decide) (.cons (.fld .nil) .nil) .nil)) .nil) .nil))
    (.cons (.fld (.fld .nil)) .nil)

theorem exTmplNodup : (453 :: allTmplTags exTmpl3).Nodup := by
  simp [allTmplTags, exTmpl3]

end Qfx
