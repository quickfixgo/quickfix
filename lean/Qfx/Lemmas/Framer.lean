/-
  Lemmas for C12: the parser of Qfx.Model.Framer refines the whole-stream functions of Qfx.Spec.Framer
  under the abstraction  abs p = p.buf ++ (unread chunks).flatten.  The buffer invariant `Inv` (window inside bigBuffer) is what
  keeps `readMore` from a zero-length read (`grow` leaves `0 < spare`).  With the overflow guard the whole-stream function never faults.
  The searches come first: `bytes.Index` and `findFrom` are `List.find?` over a range of positions (the least position at which the
  needle is a prefix of the rest), so their first-occurrence characterisations cite core.
-/
import Qfx.Spec.Framer
import Qfx.Lemmas.Values
namespace Qfx.Framer
open Qfx Qfx.Spec

theorem indexOf_eq_find (d : Bytes) : ∀ s : Bytes,
    indexOf d s = (List.range (s.length + 1)).find? fun k => d.isPrefixOf (s.drop k) := by
  intro s
  induction s with
  | nil => cases d <;> rfl
  | cons x xs ih =>
    rw [indexOf, ih, List.length_cons, List.range_succ_eq_map (n := xs.length + 1), List.find?_cons, List.find?_map, List.drop_zero]
    cases d.isPrefixOf (x :: xs) <;> rfl

theorem findFrom_eq_find (off : Nat) (d s : Bytes) :
    findFrom off d s = (List.range' off (s.length + 1 - off)).find? fun k => d.isPrefixOf (s.drop k) := by
  unfold findFrom
  split
  · rw [indexOf_eq_find, List.range'_eq_map_range, List.find?_map, List.length_drop, show s.length + 1 - off = s.length - off + 1 by omega]
    simp only [List.drop_drop, Function.comp_def, Nat.add_comm]
  · rw [show s.length + 1 - off = 0 by omega]; rfl

theorem findFrom_some_iff (off : Nat) (d s : Bytes) (i : Nat) :
    findFrom off d s = some i ↔
      (off ≤ i ∧ i ≤ s.length ∧ d <+: s.drop i ∧ ∀ k, off ≤ k → k < i → ¬ d <+: s.drop k) := by
  simp only [findFrom_eq_find, List.find?_range'_eq_some, List.isPrefixOf_iff_prefix, List.mem_range'_1, Bool.not_eq_true',
    ← Bool.not_eq_true]
  exact ⟨fun ⟨a, ⟨b, c⟩, e⟩ => ⟨b, by omega, a, e⟩, fun ⟨a, b, c, e⟩ => ⟨c, ⟨a, by omega⟩, e⟩⟩

theorem findFrom_ge {off : Nat} {d s : Bytes} {i : Nat} (h : findFrom off d s = some i) : off ≤ i :=
  ((findFrom_some_iff off d s i).1 h).1

theorem findFrom_zero (d s : Bytes) : findFrom 0 d s = indexOf d s := by
  unfold findFrom; simp

theorem indexOf_some_iff (d s : Bytes) (i : Nat) :
    indexOf d s = some i ↔ (i ≤ s.length ∧ d <+: s.drop i ∧ ∀ k, k < i → ¬ d <+: s.drop k) := by
  simpa [findFrom_zero] using findFrom_some_iff 0 d s i

theorem indexOf_none_iff (d : Bytes) : ∀ (s : Bytes),
    indexOf d s = none ↔ ∀ k, k ≤ s.length → ¬ d <+: s.drop k := by
  intro s
  simp only [indexOf_eq_find, List.find?_range_eq_none, List.isPrefixOf_iff_prefix, Bool.not_eq_true',
    ← Bool.not_eq_true, Nat.lt_succ_iff]

theorem indexOf_bound {d s : Bytes} {i : Nat} (h : indexOf d s = some i) : i + d.length ≤ s.length := by
  obtain ⟨hi, hp, _⟩ := (indexOf_some_iff d s i).1 h
  have := hp.length_le
  simp only [List.length_drop] at this; omega

/-- the first occurrence is decided inside `s`: it lies wholly in `s`, and so would an earlier one in `s ++ t` -/
theorem indexOf_append {d s : Bytes} {i : Nat} (t : Bytes) (h : indexOf d s = some i) : indexOf d (s ++ t) = some i := by
  have hb := indexOf_bound h
  obtain ⟨hi, hp, hmin⟩ := (indexOf_some_iff d s i).1 h
  refine (indexOf_some_iff d (s ++ t) i).2 ⟨by simp only [List.length_append]; omega, ?_, fun k hk hq => hmin k hk ?_⟩
  · rw [List.drop_append_of_le_length hi]; exact hp.trans (List.prefix_append _ t)
  · rw [List.drop_append_of_le_length (by omega)] at hq
    exact List.prefix_of_prefix_length_le hq (List.prefix_append _ t) (by simp only [List.length_drop]; omega)

/-- everything the parser has not yet turned into a frame: buffered bytes, then unread bytes -/
def abs (p : P) : Bytes := p.buf ++ p.rd.chunks.flatten

/-- the window fits into bigBuffer (`len(buffer) + spare = cap(buffer) ≤ len(bigBuffer)`) -/
def Inv (p : P) : Prop := p.buf.length + p.spare ≤ p.big

theorem inv_drop {p : P} (h : Inv p) (k : Nat) : Inv { p with buf := p.buf.drop k } := by
  unfold Inv at *; simp only [List.length_drop]; omega

theorem inv_init (rd : Reader) : Inv (P.init rd) := by simp [Inv, P.init]

theorem abs_init (rd : Reader) : abs (P.init rd) = rd.chunks.flatten := by simp [abs, P.init]

theorem grow_spec (p : P) (h : Inv p) :
    Inv (grow p) ∧ (grow p).buf = p.buf ∧ (grow p).rd = p.rd ∧ 0 < (grow p).spare := by
  unfold Inv at *
  fun_cases grow p with
  | case1 hs hb =>
    have hnil : p.buf = [] := List.eq_nil_of_length_eq_zero (by omega)
    simp [defaultBufSize, hnil]
  | case2 hs hb h2 => exact ⟨by simp only; omega, rfl, rfl, by simp only; omega⟩
  | case3 hs hb h2 => exact ⟨by simp only; omega, rfl, rfl, by simp only; omega⟩
  | case4 hs => exact ⟨h, rfl, rfl, by omega⟩

theorem read_spec (r : Reader) (room : Nat) (hroom : 0 < room) :
    r.chunks.flatten = (r.read room).1 ++ (r.read room).2.2.chunks.flatten ∧
    (r.read room).1.length ≤ room ∧
    (((r.read room).1.length = 0 ∧ (r.read room).2.1 = true) → r.chunks.flatten = []) ∧
    (r.read room).2.2.endErr = r.endErr := by
  unfold Reader.read
  cases hc : r.chunks with
  | nil => simp [hc]
  | cons c cs =>
    simp only [List.flatten_cons, List.length_take]
    refine ⟨?_, by omega, ?_, trivial⟩
    · split
      · rename_i hk
        have : c.take (min c.length room) = c := by rw [hk]; exact List.take_length
        rw [this]
      · simp only [List.flatten_cons, ← List.append_assoc, List.take_append_drop]
    · intro ⟨h0, he⟩
      have hc0 : c.length = 0 := by omega
      have hcn : c = [] := List.eq_nil_of_length_eq_zero hc0
      subst hcn
      simp only [List.length_nil, Nat.zero_min, if_true, Bool.and_eq_true, List.isEmpty_iff] at he
      simp [he.2]

theorem readMore_spec {p : P} {n : Nat} {e : Bool} {p' : P} (hinv : Inv p) (h : readMore p = .ok (n, e, p')) :
    Inv p' ∧ abs p' = abs p ∧ p.buf.length ≤ p'.buf.length ∧ ((n = 0 ∧ e = true) → p.rd.chunks.flatten = []) ∧
    p'.rd.endErr = p.rd.endErr := by
  obtain ⟨gi, gb, gr, gs⟩ := grow_spec p hinv
  unfold readMore fill at h
  split at h
  · cases h
  · simp only [Res.ok.injEq, Prod.mk.injEq] at h
    obtain ⟨hn, he, hp⟩ := h
    obtain ⟨r1, r2, r3, r4⟩ := read_spec (grow p).rd (grow p).spare gs
    subst hp hn he
    unfold Inv at *
    simp only [abs, List.length_append]
    refine ⟨by omega, ?_, by rw [gb]; omega, ?_, ?_⟩
    · rw [gb, List.append_assoc, ← r1, gr]
    · intro hh; rw [← gr]; exact r3 hh
    · rw [r4, gr]

theorem readMore_no_fault {p : P} {w : String} (hinv : Inv p) (h : readMore p = .fault w) : False := by
  obtain ⟨_, _, _, gs⟩ := grow_spec p hinv
  unfold readMore fill at h
  split at h
  · omega
  · cases h

theorem readMore_no_err {p : P} {x : String} (h : readMore p = .err x) : False := by
  unfold readMore fill at h
  split at h <;> cases h

theorem findFrom_of_buf {off : Nat} {d : Bytes} {p : P} {j : Nat} (hle : ¬ off > p.buf.length)
    (hj : indexOf d (p.buf.drop off) = some j) : findFrom off d (abs p) = some (j + off) := by
  have hle' : off ≤ p.buf.length := by omega
  unfold findFrom abs
  have : off ≤ (p.buf ++ p.rd.chunks.flatten).length := by simp only [List.length_append]; omega
  simp only [this, if_true]
  rw [List.drop_append_of_le_length hle', indexOf_append _ hj]
  rfl

theorem findFrom_eof {off : Nat} {d : Bytes} {p : P} (hfl : p.rd.chunks.flatten = [])
    (h : off > p.buf.length ∨ indexOf d (p.buf.drop off) = none) : findFrom off d (abs p) = none := by
  unfold findFrom abs
  rw [hfl, List.append_nil]
  rcases h with h | h
  · have : ¬ off ≤ p.buf.length := by omega
    simp [this]
  · simp [h]

/-- `findIdx` returns the first occurrence at or after `off` in buffered ++ unread bytes, having pulled it
    (completely) into the buffer without disturbing `abs`; it fails with the reader's final error exactly when there is none. -/
theorem findIdx_spec (off : Nat) (d : Bytes) (p : P) (hinv : Inv p) :
    (∀ i, findFrom off d (abs p) = some i →
        ∃ p', findIdx off d p = .ok (i, p') ∧ Inv p' ∧ abs p' = abs p ∧ i + d.length ≤ p'.buf.length ∧
          p'.rd.endErr = p.rd.endErr) ∧
    (findFrom off d (abs p) = none → findIdx off d p = .err p.rd.endErr) := by
  -- leaves of `findIdx`: 1-4 offset beyond the buffer (refill: end / recursion / err / fault); 5 found; 6-9 not found: the same four
  fun_induction findIdx off d p with
  | case1 p hgt n e p1 hrm hne =>
    obtain ⟨_, _, _, hfl, _⟩ := readMore_spec hinv hrm
    have := findFrom_eof (off := off) (d := d) (hfl hne) (Or.inl hgt)
    simp [this]
  | case6 p hle hidx n e p1 hrm hne =>
    obtain ⟨_, _, _, hfl, _⟩ := readMore_spec hinv hrm
    have := findFrom_eof (off := off) (d := d) (hfl hne) (Or.inr hidx)
    simp [this]
  -- after a refill `abs` and the final error are as before: the statement for `p1` is the statement for `p`
  | case2 p hgt n e p1 hrm hne ih | case7 p hle hidx n e p1 hrm hne ih =>
    obtain ⟨hi1, ha1, _, _, he1⟩ := readMore_spec hinv hrm
    have := ih hi1
    rwa [ha1, he1] at this
  | case3 p hgt x hrm | case8 p hle hidx x hrm => exact (readMore_no_err hrm).elim
  | case4 p hgt w hrm | case9 p hle hidx w hrm => exact (readMore_no_fault hinv hrm).elim
  | case5 p hle j hidx =>
    have hf := findFrom_of_buf hle hidx
    rw [hf]
    refine ⟨?_, by simp⟩
    intro i hi
    simp only [Option.some.injEq] at hi
    subst hi
    refine ⟨p, rfl, hinv, rfl, ?_, rfl⟩
    have := indexOf_bound hidx
    simp only [List.length_drop] at this
    omega

theorem findIndexAfterOffset_nat (n : Nat) (d : Bytes) (p : P) : findIndexAfterOffset (n : Int) d p = findIdx n d p := by
  unfold findIndexAfterOffset
  have : ¬ ((n : Int) < 0) := by omega
  simp [this]

theorem abs_take {p : P} {k : Nat} (hk : k ≤ p.buf.length) : (abs p).take k = p.buf.take k := by
  unfold abs; exact List.take_append_of_le_length hk

theorem abs_drop {p : P} {k : Nat} (hk : k ≤ p.buf.length) : abs { p with buf := p.buf.drop k } = (abs p).drop k := by
  unfold abs; simp only; rw [List.drop_append_of_le_length hk]

theorem jumpLengthG_spec (g : Bool) (p : P) (hinv : Inv p) :
    match bodyEnd g p.rd.endErr (abs p) with
    | .ok be => ∃ p', jumpLengthG g p = .ok (be, p') ∧ Inv p' ∧ abs p' = abs p ∧ p'.rd.endErr = p.rd.endErr
    | .err x => jumpLengthG g p = .err x
    | .fault w => jumpLengthG g p = .fault w := by
  unfold bodyEnd jumpLengthG
  have hz : findIndexAfterOffset 0 dLen p = findIdx 0 dLen p := findIndexAfterOffset_nat 0 dLen p
  rw [hz]
  have s1 := findIdx_spec 0 dLen p hinv
  cases h1 : findFrom 0 dLen (abs p) with
  | none => simp only [s1.2 h1]
  | some li =>
    obtain ⟨p1, f1, i1, a1, b1, e1⟩ := s1.1 li h1
    simp only [f1]
    rw [findIndexAfterOffset_nat]
    have s2 := findIdx_spec (li + 3) dSOH p1 i1
    rw [a1, e1] at s2
    cases h2 : findFrom (li + 3) dSOH (abs p) with
    | none => simp only [s2.2 h2]
    | some off =>
      obtain ⟨p2, f2, i2, a2, b2, e2⟩ := s2.1 off h2
      have hge := findFrom_ge h2
      simp only [f2]
      by_cases heq : off = li + 3
      · simp only [if_pos heq]
      · simp only [if_neg heq]
        simp only [dSOH, List.length_cons, List.length_nil] at b2
        have hb : li + 3 ≤ off ∧ off ≤ p2.buf.length := ⟨hge, by omega⟩
        simp only [if_neg (not_not_intro hb)]
        rw [← a2, abs_take hb.2]
        cases hat : atoi (List.drop (li + 3) (List.take off p2.buf)) with
        | ok n =>
          simp only
          by_cases hn : n ≤ 0
          · simp only [if_pos hn]
          · simp only [if_neg hn]
            by_cases hg : (g && decide (wrap64 ((off : Int) + n) < (off : Int))) = true
            · simp only [if_pos hg]
            · simp only [if_neg hg]
              exact ⟨p2, rfl, i2, rfl, e2⟩
        | err x => simp only
        | fault w => simp only

theorem findEndAfterOffset_neg {be : Int} (p : P) (hneg : be < 0) :
    findEndAfterOffset be p = .fault "slice bounds out of range" := by
  unfold findEndAfterOffset findIndexAfterOffset
  simp only [hneg, if_true]

/-- one clause per search: `nextFrame` has the two searches of `findEndAfterOffset` inline -/
theorem findEndAfterOffset_spec {be : Int} (p : P) (hinv : Inv p) (hbe : ¬ be < 0) :
    (findFrom be.toNat dCk (abs p) = none → findEndAfterOffset be p = .err p.rd.endErr) ∧
    ∀ e1, findFrom be.toNat dCk (abs p) = some e1 →
      (findFrom (e1 + 1) dSOH (abs p) = none → findEndAfterOffset be p = .err p.rd.endErr) ∧
      ∀ e2, findFrom (e1 + 1) dSOH (abs p) = some e2 →
        ∃ p', findEndAfterOffset be p = .ok (e2 + 1, p') ∧ Inv p' ∧ abs p' = abs p ∧ e2 + 1 ≤ p'.buf.length ∧
          p'.rd.endErr = p.rd.endErr := by
  unfold findEndAfterOffset
  have s4 := findIdx_spec be.toNat dCk p hinv
  have hf : findIndexAfterOffset be dCk p = findIdx be.toNat dCk p := by
    unfold findIndexAfterOffset; simp only [hbe, if_false]
  rw [hf]
  refine ⟨fun h4 => by rw [s4.2 h4], fun e1 h4 => ?_⟩
  obtain ⟨p4, f4, i4, a4, _, e4⟩ := s4.1 e1 h4
  simp only [f4]
  rw [show ((e1 : Int) + 1) = ((e1 + 1 : Nat) : Int) from rfl, findIndexAfterOffset_nat]
  have s5 := findIdx_spec (e1 + 1) dSOH p4 i4
  rw [a4, e4] at s5
  refine ⟨fun h5 => by rw [s5.2 h5], fun e2 h5 => ?_⟩
  obtain ⟨p5, f5, i5, a5, b5, e5⟩ := s5.1 e2 h5
  simp only [f5]
  exact ⟨p5, rfl, i5, a5, b5, e5⟩

theorem readMessageG_spec (g : Bool) (p : P) (hinv : Inv p) :
    match nextFrame g p.rd.endErr (abs p) with
    | .ok (m, r) => ∃ p', readMessageG g p = .ok (m, p') ∧ Inv p' ∧ abs p' = r ∧ p'.rd.endErr = p.rd.endErr
    | .err x => readMessageG g p = .err x
    | .fault w => readMessageG g p = .fault w := by
  unfold nextFrame readMessageG findStart
  have hz : findIndexAfterOffset 0 dBegin p = findIdx 0 dBegin p := findIndexAfterOffset_nat 0 dBegin p
  rw [hz]
  have s1 := findIdx_spec 0 dBegin p hinv
  cases h1 : findFrom 0 dBegin (abs p) with
  | none => simp only [s1.2 h1]
  | some start =>
    obtain ⟨p1, f1, i1, a1, b1, e1⟩ := s1.1 start h1
    simp only [f1]
    have hst' : start ≤ p1.buf.length := Nat.le_of_add_right_le b1
    simp only [Nat.not_lt.2 hst', if_false]
    have i2 := inv_drop i1 start
    have a2 : abs { p1 with buf := p1.buf.drop start } = (abs p).drop start := by rw [abs_drop hst', a1]
    have s2 := jumpLengthG_spec g _ i2
    rw [a2] at s2
    simp only [e1] at s2
    cases hbe : bodyEnd g p.rd.endErr (List.drop start (abs p)) with
    | err x => rw [hbe] at s2; simp only [s2]
    | fault w => rw [hbe] at s2; simp only [s2]
    | ok be =>
      rw [hbe] at s2
      obtain ⟨p3, f3, i3, a3, e3⟩ := s2
      simp only [f3]
      by_cases hneg : be < 0
      · simp only [hneg, if_true, findEndAfterOffset_neg p3 hneg]
      · simp only [hneg, if_false]
        have s4 := findEndAfterOffset_spec p3 i3 hneg
        rw [a3, e3] at s4
        cases h4 : findFrom be.toNat dCk (List.drop start (abs p)) with
        | none => simp only [s4.1 h4]
        | some e1 =>
          dsimp only
          cases h5 : findFrom (e1 + 1) dSOH (List.drop start (abs p)) with
          | none => simp only [(s4.2 e1 h4).1 h5]
          | some e2 =>
            obtain ⟨p5, f5, i5, a5, hle', e5⟩ := (s4.2 e1 h4).2 e2 h5
            simp only [f5]
            simp only [Nat.not_lt.2 hle', if_false]
            rw [← a5, abs_take hle']
            exact ⟨_, rfl, inv_drop i5 _, by rw [abs_drop hle'], e5⟩

/-- the refill step of `findIdx`, without the proof-carrying match -/
def moreThen (off : Nat) (d : Bytes) (p : P) : Res (Nat × P) :=
  match readMore p with
  | .ok (n, e, p') => if n = 0 ∧ e = true then .err p.rd.endErr else findIdx off d p'
  | .err x => .err x
  | .fault w => .fault w

theorem findIdx_eq (off : Nat) (d : Bytes) (p : P) :
    findIdx off d p =
      if off > p.buf.length then moreThen off d p
      else match indexOf d (p.buf.drop off) with
        | some i => .ok (i + off, p)
        | none => moreThen off d p := by
  unfold moreThen
  fun_cases findIdx off d p <;> simp only [*, if_true, if_false, and_self]

theorem runG_unfold (g : Bool) (p : P) :
    runG g p = match readMessageG g p with
      | .ok (m, p') => { frames := m :: (runG g p').frames, end_ := (runG g p').end_ }
      | .err c => { frames := [], end_ := .err c }
      | .fault w => { frames := [], end_ := .fault w } := by
  rw [runG]
  split <;> simp_all

theorem framesWholeG_unfold (g : Bool) (ee : String) (s : Bytes) :
    framesWholeG g ee s = match nextFrame g ee s with
      | .ok (m, r) => { frames := m :: (framesWholeG g ee r).frames, end_ := (framesWholeG g ee r).end_ }
      | .err c => { frames := [], end_ := .err c }
      | .fault w => { frames := [], end_ := .fault w } := by
  rw [framesWholeG]
  split <;> simp_all

theorem runG_eq (g : Bool) (p : P) (hinv : Inv p) : runG g p = framesWholeG g p.rd.endErr (abs p) := by
  induction hw : p.weight using Nat.strongRecOn generalizing p with
  | _ w ih =>
    rw [runG_unfold, framesWholeG_unfold]
    have sp := readMessageG_spec g p hinv
    cases hn : nextFrame g p.rd.endErr (abs p) with
    | ok v =>
      rw [hn] at sp
      obtain ⟨p2, f2, i2, a2, e2⟩ := sp
      simp only [f2]
      rw [ih _ (by have := readMessageG_weight f2; omega) p2 i2 rfl, a2, e2]
    | err x | fault x => rw [hn] at sp; rw [(sp : _ = _)]

theorem err_ne_fault_ok (x : String) :
    (∀ w, (Res.err x : Res Int) ≠ .fault w) ∧ (∀ be, (Res.err x : Res Int) = .ok be → 0 ≤ be) :=
  ⟨(by intro w h; cases h), (by intro be h; cases h)⟩

theorem bodyEnd_guarded (ee : String) (s : Bytes) :
    (∀ w, bodyEnd true ee s ≠ .fault w) ∧ (∀ be, bodyEnd true ee s = .ok be → 0 ≤ be) := by
  -- of the eight leaves of `bodyEnd` six are errors; `atoi` does not fault; at the `.ok` leaf the guard is false
  fun_cases bodyEnd true ee s with
  | case6 li h1 off h2 heq n hat hn hg =>
    refine ⟨nofun, fun be h => ?_⟩
    simp only [Res.ok.injEq] at h
    simp only [Bool.true_and, decide_eq_true_eq] at hg
    -- the end offset did not wrap below `off`, and `off ≥ 0`
    omega
  | case8 li h1 off h2 heq w hat =>
    have := atoi_not_fault _ ▸ congrArg Res.isFault hat
    simp [Res.isFault] at this
  | _ => exact err_ne_fault_ok _

theorem nextFrame_guarded_no_fault (ee : String) (s : Bytes) (w : String) : nextFrame true ee s ≠ .fault w := by
  -- case2, case7: the two `.fault` leaves
  fun_cases nextFrame true ee s with
  | case2 start _ s1 be hbe hneg => have := (bodyEnd_guarded ee s1).2 be hbe; omega
  | case7 start _ s1 w2 hbe => exact ((bodyEnd_guarded ee s1).1 w2 hbe).elim
  | _ => nofun

theorem framesWholeG_no_fault (ee : String) (s : Bytes) (w : String) : (framesWholeG true ee s).end_ ≠ .fault w := by
  fun_induction framesWholeG true ee s with
  | case1 s m r h o ih => simpa using ih
  | case2 s c h => intro h2; cases h2
  | case3 s w2 h => exact (nextFrame_guarded_no_fault ee s w2 h).elim

end Qfx.Framer
