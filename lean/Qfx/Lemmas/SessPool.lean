/-
  Whole histories under a policy, shared by the theorems of C06 and C07 and by the link: every observation satisfies `N` and the store stays
  `S`-related to where it started, provided every inbound message the session ever processes comes from a pool `P` of messages
  for which the policy allows what they cause.

  `Rel N S s s'`: same configuration, the log of `s'` extends the log of `s` by observations satisfying `N`, the stores are related
  by the preorder `S`; `RelF`: additionally the state and the inbound buffer are untouched (true of everything outside the
  setState / drainIn / incoming / checkSessionTime block).  `Policy N S` is what `N` and `S` must allow unconditionally (writes,
  persisting, advancing the expected number); resets, callbacks and the logon notification are allowed only through explicit
  hypotheses: `MsgHyp` (per message of the pool), `CfgHyp` (the policy tolerates resets, or no reset option is configured), `EvOK`
  (per event).  (`ActOK.cb` speaks of `cbOf`, which is the `cbObs` of the hypotheses by `rfl`.)  The invariant of a history is `Within C P`: what is buffered is in `P`, the state is in a class `C` of states; a
  client shows `FixOK` (the handlers keep the class) and reads `run_within`.  The pool is `C := StashOK P`: what the resend state has
  stashed is in `P` too.
-/
import Qfx.Lemmas.SessC06
import Qfx.Lemmas.SessWalk
import Qfx.Props.C01
namespace Qfx.Sess
open Qfx

/-- a class, so that the lemmas find it from `(N, S)`; instances: `trivPolicy`, `contPolicy` (SessC07), `gatePolicy`,
    `coldPolicy` (SessC06Gate) -/
class Policy (N : Obs → Prop) (S : Store → Store → Prop) : Prop where
  sRefl : ∀ a, S a a
  sTrans : ∀ {a b c}, S a b → S b c → S a c
  nWire : ∀ m, N (.wire m)
  nSaved : ∀ a b c, N (.saved a b c)
  nIncS : N .incS
  nIncT : N .incT
  nSetT : ∀ n, N (.setT n)
  nArm : ∀ n, N (.armPeer n)
  nClosed : N .closed
  nOnLogout : N .onLogout
  nRefresh : N .refresh
  sPersist : ∀ (st : Store) seq m, S st { st with msgs := (seq, m) :: st.msgs, sender := st.sender + 1 }
  sIncS : ∀ (st : Store), S st { st with sender := st.sender + 1 }
  sTarget : ∀ (st : Store) n, st.target ≤ n → S st { st with target := n }

def ResetOK (N : Obs → Prop) (S : Store → Store → Prop) : Prop := N .reset ∧ ∀ st : Store, S st st.reset

structure Rel (N : Obs → Prop) (S : Store → Store → Prop) (s s' : Sess) : Prop where
  cfg : s'.cfg = s.cfg
  log : ∃ extra : List Obs, s'.log = extra ++ s.log ∧ ∀ o ∈ extra, N o
  store : S s.store s'.store

structure RelF (N : Obs → Prop) (S : Store → Store → Prop) (s s' : Sess) : Prop extends Rel N S s s' where
  st : s'.st = s.st
  inbox : s'.inbox = s.inbox

/-- for pure frame facts: cfg / st / inbox / log extension -/
instance trivPolicy : Policy (fun _ => True) (fun _ _ => True) where
  sRefl := fun _ => trivial
  sTrans := fun _ _ => trivial
  nWire := fun _ => trivial
  nSaved := fun _ _ _ => trivial
  nIncS := trivial
  nIncT := trivial
  nSetT := fun _ => trivial
  nArm := fun _ => trivial
  nClosed := trivial
  nOnLogout := trivial
  nRefresh := trivial
  sPersist := fun _ _ _ => trivial
  sIncS := fun _ => trivial
  sTarget := fun _ _ _ => trivial

theorem triv_resetOK : ResetOK (fun _ => True) (fun _ _ => True) := ⟨trivial, fun _ => trivial⟩

section
variable {N : Obs → Prop} {S : Store → Store → Prop} [hp : Policy N S]

theorem Rel.refl (s : Sess) : Rel N S s s := ⟨rfl, ⟨[], rfl, by simp⟩, hp.sRefl _⟩

theorem Rel.trans {a b c : Sess} (h1 : Rel N S a b) (h2 : Rel N S b c) : Rel N S a c := by
  obtain ⟨c1, ⟨e1, l1, n1⟩, s1⟩ := h1
  obtain ⟨c2, ⟨e2, l2, n2⟩, s2⟩ := h2
  refine ⟨c2.trans c1, ⟨e2 ++ e1, by rw [l2, l1, List.append_assoc], ?_⟩, hp.sTrans s1 s2⟩
  intro o ho
  rcases List.mem_append.1 ho with h | h
  · exact n2 o h
  · exact n1 o h

theorem RelF.refl (s : Sess) : RelF N S s s := ⟨Rel.refl s, rfl, rfl⟩

theorem RelF.trans {a b c : Sess} (h1 : RelF N S a b) (h2 : RelF N S b c) : RelF N S a c :=
  ⟨h1.toRel.trans h2.toRel, h2.st.trans h1.st, h2.inbox.trans h1.inbox⟩

theorem RelF.of_eq {s s' : Sess} (h1 : s'.cfg = s.cfg) (h2 : s'.log = s.log) (h3 : s'.store = s.store)
    (h4 : s'.st = s.st) (h5 : s'.inbox = s.inbox) : RelF N S s s' :=
  ⟨⟨h1, ⟨[], by simp [h2], by simp⟩, by rw [h3]; exact hp.sRefl _⟩, h4, h5⟩

theorem RelF.emit (s : Sess) (o : Obs) (h : N o) : RelF N S s (s.emit o) :=
  ⟨⟨rfl, ⟨[o], rfl, by simpa using h⟩, hp.sRefl _⟩, rfl, rfl⟩

theorem relF_persistOut (s : Sess) (seq : Int) (m : OutMsg) : RelF N S s (s.persistOut seq m) := by
  unfold Sess.persistOut
  split
  · exact ⟨⟨rfl, ⟨[.saved seq m.kind (resendable m)], rfl, by simpa using hp.nSaved _ _ _⟩, hp.sPersist _ _ _⟩, rfl, rfl⟩
  · exact ⟨⟨rfl, ⟨[.incS], rfl, by simpa using hp.nIncS⟩, hp.sIncS _⟩, rfl, rfl⟩

theorem relF_sendQueued (s : Sess) : RelF N S s (sendQueued s) := by
  unfold sendQueued
  split
  · refine ⟨⟨rfl, ⟨(s.toSend.map Obs.wire).reverse, rfl, ?_⟩, hp.sRefl _⟩, rfl, rfl⟩
    intro o ho
    simp only [List.mem_reverse, List.mem_map] at ho
    obtain ⟨m, _, rfl⟩ := ho
    exact hp.nWire m
  · exact RelF.refl s

omit hp in
theorem relF_storeReset (s : Sess) (hro : ResetOK N S) : RelF N S s s.storeReset :=
  ⟨⟨rfl, ⟨[.reset], rfl, by simpa using hro.1⟩, hro.2 _⟩, rfl, rfl⟩

theorem relF_incrTarget (s : Sess) : RelF N S s (incrTarget s) :=
  ⟨⟨rfl, ⟨[.incT], rfl, by simpa using hp.nIncT⟩, hp.sTarget _ _ (by omega)⟩, rfl, rfl⟩

theorem relF_setT (s : Sess) (n : Int) (h : s.store.target ≤ n) : RelF N S s ((s.setTarget n).emit (.setT n)) :=
  ⟨⟨rfl, ⟨[.setT n], rfl, by simpa using hp.nSetT n⟩, hp.sTarget _ _ h⟩, rfl, rfl⟩

theorem relF_filed (s : Sess) (m : OutMsg) (q : List OutMsg) (h : ResetOK N S ∨ resetLogon m = false) :
    RelF N S s ((prepBase s m).filed q (outgoing s m)) := by
  have hb : RelF N S s (prepBase s m) := by
    unfold prepBase
    split
    · rename_i hr
      exact (relF_storeReset s (h.resolve_right (by rw [hr]; exact Bool.noConfusion))).trans (RelF.of_eq rfl rfl rfl rfl rfl)
    · exact RelF.refl s
  exact hb.trans ((relF_persistOut _ _ _).trans (RelF.of_eq rfl rfl rfl rfl rfl))

theorem relF_queueForSend (s : Sess) (m : OutMsg) (h : ResetOK N S ∨ resetLogon m = false) : RelF N S s (queueForSend s m) := by
  rw [queueForSend_eq]
  exact ite_both (RelF.refl s) (relF_filed s m _ h)

theorem relF_dropAndSend (s : Sess) (m : OutMsg) (h : ResetOK N S ∨ resetLogon m = false) : RelF N S s (dropAndSend s m) := by
  rw [dropAndSend_eq]
  exact ite_both (RelF.refl s) ((relF_filed s m _ h).trans (relF_sendQueued _))

theorem relF_sendInReplyTo (s : Sess) (m : OutMsg) (h : ResetOK N S ∨ resetLogon m = false) : RelF N S s (sendInReplyTo s m) := by
  rw [sendInReplyTo_eq]
  exact ite_both (relF_queueForSend s _ (by rw [resetLogon_asNew]; exact h))
    (ite_both (RelF.refl s) ((relF_filed s m _ h).trans (relF_sendQueued _)))

theorem relF_enqueueAndSend (s : Sess) (m : OutMsg) : RelF N S s (enqueueAndSend s m) := by
  unfold enqueueAndSend
  simp only []
  split
  · exact (RelF.of_eq (N := N) (S := S) (s := s) (s' := (s.setToSend []).setToSend ((s.setToSend []).toSend ++ [m])) rfl rfl rfl rfl rfl).trans (relF_sendQueued _)
  · exact (RelF.of_eq (N := N) (S := S) (s := s) (s' := s.setToSend (s.toSend ++ [m])) rfl rfl rfl rfl rfl).trans (relF_sendQueued _)

theorem relF_dropAndReset (s : Sess) (hro : ResetOK N S) : RelF N S s (dropAndReset s) := by
  unfold dropAndReset
  exact (RelF.of_eq (N := N) (S := S) (s := s) (s' := s.setToSend []) rfl rfl rfl rfl rfl).trans (relF_storeReset _ hro)

theorem relF_sendLogonInReplyTo (s : Sess) (reset : Bool) (h : ResetOK N S ∨ reset = false) : RelF N S s (sendLogonInReplyTo s reset) :=
  relF_dropAndSend s _ (by rw [resetLogon_logonMsg]; exact h)

theorem relF_sendLogonRe (s : Sess) (reset : Bool) (m : InMsg) (h : ResetOK N S ∨ reset = false) : RelF N S s (sendLogonRe s reset m) :=
  relF_dropAndSend s _ (by rw [resetLogon_re]; unfold logonMsgRe; rw [resetLogon_logonMsgX]; exact h)

theorem relF_sendResendRequest (s : Sess) (b e : Int) : RelF N S s (sendResendRequest s b e).1 :=
  sendResendRequest_of_sendInReplyTo (fun s _ => relF_sendInReplyTo s _ (Or.inr rfl)) s b e

omit hp in
theorem resetLogon_rejectMsg (cfg : Cfg) (m : InMsg) (r : Nat) (t : Option Nat) (b : Bool) : resetLogon (rejectMsg cfg m r t b) = false := by
  unfold resetLogon; rw [replyKinds_ne_logon (rejectMsg_replyKind cfg m r t b)]; rfl

/-- the sending layer of SessWalk: nothing there resets -/
theorem relFSend : SendRel (RelF N S) where
  refl := RelF.refl
  trans := RelF.trans
  quiet := fun _ _ _ _ => RelF.of_eq rfl rfl rfl rfl rfl
  arm := fun s n => RelF.emit s _ (hp.nArm n)
  incrTarget := relF_incrTarget
  sendInReplyTo := fun s m hm => relF_sendInReplyTo s m (Or.inr (by unfold resetLogon; rw [replyKinds_ne_logon hm]; rfl))
  enqueueAndSend := fun s m _ => relF_enqueueAndSend s m

theorem relF_sendLogout (s : Sess) : RelF N S s (sendLogout s) := relFSend.sendLogout s
theorem relF_initiateLogout (s : Sess) : RelF N S s (initiateLogout s) := relFSend.sendLogout s
section peel
variable {s x : Sess}
theorem rpeel_storeReset (hro : ResetOK N S) (h : RelF N S s x) : RelF N S s x.storeReset := h.trans (relF_storeReset x hro)
theorem rpeel_sendQueued (h : RelF N S s x) : RelF N S s (sendQueued x) := h.trans (relF_sendQueued x)
theorem rpeel_sendLogonInReplyTo (r : Bool) (hr : ResetOK N S ∨ r = false) (h : RelF N S s x) : RelF N S s (sendLogonInReplyTo x r) := h.trans (relF_sendLogonInReplyTo x r hr)
theorem rpeel_sendResendRequest (b e : Int) (h : RelF N S s x) : RelF N S s (sendResendRequest x b e).1 := h.trans (relF_sendResendRequest x b e)
theorem rpeel_setToSend (q : List OutMsg) (h : RelF N S s x) : RelF N S s (x.setToSend q) := h.trans (RelF.of_eq rfl rfl rfl rfl rfl)
theorem rpeel_setPendingStop (h : RelF N S s x) : RelF N S s x.setPendingStop := h.trans (RelF.of_eq rfl rfl rfl rfl rfl)
theorem rpeel_setStopped (h : RelF N S s x) : RelF N S s x.setStopped := h.trans (RelF.of_eq rfl rfl rfl rfl rfl)
end peel

def StashOK (P : InMsg → Prop) (st : SState) : Prop := ∀ p ∈ stashOf st, P p.2

def PoolInv (P : InMsg → Prop) (s : Sess) : Prop := (∀ m ∈ s.inbox, P m) ∧ StashOK P s.st

structure HOut (N : Obs → Prop) (S : Store → Store → Prop) (P : InMsg → Prop) (s : Sess) (r : Sess × SState) : Prop where
  rel : RelF N S s r.1
  stash : StashOK P r.2

omit hp in
theorem stashOK_plain {P : InMsg → Prop} (st : SState) (h : stashOf st = []) : StashOK P st := by
  intro p hp; rw [h] at hp; cases hp

/-- what the policy must allow for one inbound message `m` of the pool -/
structure MsgHyp (N : Obs → Prop) (S : Store → Store → Prop) (P : InMsg → Prop) (cfg : Cfg) (m : InMsg) : Prop where
  p : P m
  cb : GateMsg cfg m → ∀ s' : Sess, N (cbObs s' m)
  /-- a Logon is shown to FromAdmin after validation only -/
  cbA : kindOf m = "A" → Valid cfg m → ∀ s' : Sess, N (cbObs s' m)
  onLogon : kindOf m = "A" → GateMsg cfg m → callbackVerdict m = none → N .onLogon
  ro : ResetOK N S ∨ (kindOf m = "A" → logonResetFlag m = false)

def NoResetCfg (cfg : Cfg) : Prop := cfg.resetOnLogon = false ∧ cfg.resetOnLogout = false ∧ cfg.resetOnDisconnect = false

def CfgHyp (N : Obs → Prop) (S : Store → Store → Prop) (cfg : Cfg) : Prop := ResetOK N S ∨ NoResetCfg cfg

theorem relF_resetIf {s x : Sess} (hc : CfgHyp N S s.cfg) (hx : RelF N S s x) {flag : Bool} (hflag : NoResetCfg s.cfg → flag = false) :
    RelF N S s (if flag = true then dropAndReset x else x) := by
  split
  · rename_i hf
    rcases hc with hro | hno
    · exact hx.trans (relF_dropAndReset x hro)
    · rw [hflag hno] at hf; cases hf
  · exact hx

theorem relF_verifySelect {P : InMsg → Prop} (s : Sess) (m : InMsg) (th tl ai : Bool) (h : MsgHyp N S P s.cfg m) :
    RelF N S s (verifySelect s m th tl ai).1 := by
  rcases verifySelect_cases s m th tl ai with h1 | ⟨_, hg, _, _, he⟩
  · rw [h1]; exact RelF.refl s
  · rw [he]; exact RelF.emit s _ (h.cb hg s)

theorem relF_verifySelect_eq {P : InMsg → Prop} {s : Sess} {m : InMsg} {th tl ai : Bool} {r : Sess × Option Rej}
    (hr : verifySelect s m th tl ai = r) (h : MsgHyp N S P s.cfg m) : RelF N S s r.1 := by
  rw [← hr]; exact relF_verifySelect s m th tl ai h

omit hp in
theorem MsgHyp.of_cfg {P : InMsg → Prop} {cfg cfg' : Cfg} {m : InMsg} (h : MsgHyp N S P cfg m) (hc : cfg' = cfg) : MsgHyp N S P cfg' m := by
  rw [hc]; exact h

theorem relF_logonFinish (s : Sess) (m : InMsg) (ns : Int) (h : N .onLogon) : RelF N S s (logonFinish s m ns).1 := by
  unfold logonFinish
  have h0 : RelF N S s (nxEval (((s.setSentReset false).emit (.armPeer (1200 * s.hb))).emit .onLogon) m ns).1 :=
    (((relFSend.setSentReset s false).trans (relFSend.arm _ _)).trans (RelF.emit _ _ h)).trans (relFSend.nxEval _ m ns)
  generalize nxEval _ m ns = r at h0
  obtain ⟨x, o⟩ := r
  cases o with
  | some r => exact h0
  | none =>
    dsimp only at h0 ⊢
    split
    · exact h0
    · exact h0.trans (relF_incrTarget x)

theorem relF_logonRefused (s : Sess) (m : InMsg) : RelF N S s (logonRefused s m) := relFSend.logonRefused s m

/-- what the policy must allow for one inbound Logon `m` processed in state `s` -/
structure LogonHyp (N : Obs → Prop) (S : Store → Store → Prop) (s : Sess) (m : InMsg) : Prop where
  cbA : Valid s.cfg m → ∀ s' : Sess, N (cbObs s' m)
  onLogon : GateMsg s.cfg m → TimeGate s m → callbackVerdict m = none → N .onLogon
  ro : ResetOK N S ∨ logonResetFlag m = false

omit hp in
theorem timeGate_congr {a b : Sess} (m : InMsg) (h1 : a.st = b.st) (h2 : a.cfg = b.cfg) (h : TimeGate b m) : TimeGate a m := by
  unfold TimeGate at h ⊢; rw [curResend_congr h1 h2, h2]; exact h

omit hp in
theorem gate_of_early {x : Sess} {m : InMsg} (h : earlyCheck x m = none) (hv : validate x.cfg m = none) : GateMsg x.cfg m ∧ TimeGate x m :=
  have g := (earlyCheck_none_iff x m).1 h
  ⟨⟨g.1, g.2.1, hv⟩, g.2.2⟩

/-- what the policy must allow at `x` for the steps of handling `m` -/
structure ActOK (N : Obs → Prop) (S : Store → Store → Prop) (m : InMsg) (x : Sess) : Prop where
  cb : validate x.cfg m = none → (kindOf m = "A" ∨ earlyCheck x m = none) → N (cbOf x m)
  onLogon : kindOf m = "A" → validate x.cfg m = none → earlyCheck x m = none → callbackVerdict m = none → N .onLogon
  reset : ResetAt x m → ResetOK N S
  logonRe : kindOf m = "A" → ResetOK N S ∨ logonResetFlag m = false

theorem relF_ofAct {m : InMsg} {x y : Sess} (h : ActOK N S m x) (a : Act m x y) : RelF N S x y := by
  cases a with
  | quiet hb sr rl => exact RelF.of_eq rfl rfl rfl rfl rfl
  | refresh => exact RelF.emit x _ hp.nRefresh
  | arm n => exact RelF.emit x _ (hp.nArm n)
  | callback hv hck => exact RelF.emit x _ (h.cb hv hck)
  | onLogon hk hv hck hcv => exact RelF.emit x _ (h.onLogon hk hv hck hcv)
  | incrTarget => exact relF_incrTarget x
  | setT n hn => exact relF_setT x n (by omega)
  | reply o ho => exact relFSend.sendInReplyTo x o ho.kind
  | replay o ho => exact relF_enqueueAndSend x o
  | reset hr => exact relF_dropAndReset x (h.reset hr)
  | logonRe hk => exact relF_sendLogonRe x _ m (h.logonRe hk)

theorem relF_ofDoes {m : InMsg} {k : Nat} {b : Bool} {s x : Sess} (h : ∀ y : Sess, y.st = s.st → y.cfg = s.cfg → ActOK N S m y)
    (d : Does m k b s x) : RelF N S s x :=
  Does.fold (R := fun _ _ s x => (∀ y : Sess, y.st = s.st → y.cfg = s.cfg → ActOK N S m y) → RelF N S s x) (fun s _ => RelF.refl s)
    (fun r h1 h2 a h => (r h).trans (relF_ofAct (h _ h1 h2) a))
    (fun lo hi r h => (r h).trans (relF_sendResendRequest _ lo hi))
    (fun r _ _ o h => (r h).trans (relF_sendInReplyTo _ _ (Or.inr (by cases o <;> rfl))))
    (fun r h => (r h).trans (relF_dropAndSend _ _ (Or.inr rfl))) (fun r _ _ => r) d h

omit hp in
/-- the flag that guards a reset is off in a configuration without reset options; the peer's ResetSeqNumFlag is the message's business -/
theorem resetOK_at {x : Sess} {m : InMsg} (hc : CfgHyp N S x.cfg) (hro : ResetOK N S ∨ (kindOf m = "A" → logonResetFlag m = false))
    (hr : ResetAt x m) : ResetOK N S := by
  rcases hc with hc | hno
  · exact hc
  · rcases hr with ⟨_, hr⟩ | ⟨hk, ⟨_, hr⟩ | ⟨hr, _⟩⟩
    · rw [hno.2.1] at hr; cases hr
    · rw [hno.1] at hr; cases hr
    · exact hro.resolve_right fun hf => by rw [hf hk] at hr; cases hr

omit hp in
theorem MsgHyp.actOK {P : InMsg → Prop} {x : Sess} {m : InMsg} (h : MsgHyp N S P x.cfg m) (hr : ResetAt x m → ResetOK N S) :
    ActOK N S m x where
  cb := fun hv hck => hck.elim (fun hk => h.cbA hk hv x) (fun hck => h.cb (gate_of_early hck hv).1 x)
  onLogon := fun hk hv hck hcv => h.onLogon hk (gate_of_early hck hv).1 hcv
  reset := hr
  logonRe := fun hk => h.ro.imp_right fun hf => hf hk

omit hp in
theorem MsgHyp.actOK_at {P : InMsg → Prop} {s : Sess} {m : InMsg} (h : MsgHyp N S P s.cfg m) (hc : CfgHyp N S s.cfg) (y : Sess)
    (hy : y.cfg = s.cfg) : ActOK N S m y :=
  (h.of_cfg hy).actOK (resetOK_at (by rw [hy]; exact hc) h.ro)

omit hp in
theorem LogonHyp.actOK {s x : Sess} {m : InMsg} (h : LogonHyp N S s m) (hc : CfgHyp N S s.cfg) (hst : x.st = s.st) (hcfg : x.cfg = s.cfg) :
    ActOK N S m x where
  cb := fun hv _ => h.cbA (by rw [← hcfg]; exact hv) x
  onLogon := fun _ hv hck hcv =>
    h.onLogon (by rw [← hcfg]; exact (gate_of_early hck hv).1) (timeGate_congr m hst.symm hcfg.symm (gate_of_early hck hv).2) hcv
  reset := resetOK_at (by rw [hcfg]; exact hc) (h.ro.imp_right fun hf _ => hf)
  logonRe := fun _ => h.ro

omit hp in
theorem Nx.stashOK {P M : InMsg → Prop} {nx : SState} (h : Nx M nx) (hM : ∀ a, M a → P a) : StashOK P nx := by
  cases h with
  | resend st c f hst => exact fun p hp => hM _ (hst p hp)
  | _ => exact stashOK_plain _ rfl

theorem Ret.hout {P : InMsg → Prop} {m : InMsg} {k : Nat} {s : Sess} {r : Sess × SState} (h : Ret m k s r) (hm : P m)
    (ha : ∀ y : Sess, y.st = s.st → y.cfg = s.cfg → ActOK N S m y) (hs : StashOK P s.st) : HOut N S P s r :=
  ⟨relF_ofDoes ha h.does, h.nx.stashOK fun a ha => by
    rcases ha with rfl | ⟨p, hp, rfl⟩
    · exact hm
    · exact hs p hp⟩

/-- a SequenceReset resets nothing, whatever the configuration -/
theorem hout_handleSequenceReset {P : InMsg → Prop} (s : Sess) (m : InMsg) (hk : kindOf m = "4") (h : MsgHyp N S P s.cfg m)
    (hs : StashOK P s.st) : HOut N S P s (handleSequenceReset s m) :=
  (Ret.handleSequenceReset (Does.refl s)).hout h.p
    (fun y _ hy => (h.of_cfg hy).actOK fun hr => absurd hr.kind (by rw [hk]; decide)) hs

theorem relF_logonFixMsgIn (s : Sess) (m : InMsg) (h : kindOf m = "A" → LogonHyp N S s m) (hc : CfgHyp N S s.cfg) :
    RelF N S s (logonFixMsgIn s m).1 := by
  by_cases hk : kindOf m = "A"
  · exact relF_ofDoes (fun y hst hcfg => (h hk).actOK hc hst hcfg) (Ret.logonFixMsgIn (Does.refl s)).does
  · unfold logonFixMsgIn
    rw [if_pos (by simpa using hk)]
    exact RelF.refl s

def PoolHyp (N : Obs → Prop) (S : Store → Store → Prop) (P : InMsg → Prop) (cfg : Cfg) : Prop := ∀ m, P m → MsgHyp N S P cfg m

omit hp in
theorem stashOK_resend {P : InMsg → Prop} (st : List (Int × InMsg)) (c f : Int) (h : ∀ p ∈ st, P p.2) : StashOK P (.resend st c f) := h

theorem relF_ofDoesAll {P : InMsg → Prop} {k : Nat} {b : Bool} {s x : Sess} (hP : PoolHyp N S P s.cfg) (hc : CfgHyp N S s.cfg)
    (d : DoesAll P k b s x) : RelF N S s x :=
  DoesAll.fold (R := fun _ _ s x => PoolHyp N S P s.cfg → CfgHyp N S s.cfg → RelF N S s x) (fun s _ _ => RelF.refl s)
    (fun r _ h2 hm d hP hc => (r hP hc).trans (relF_ofDoes (fun y _ hy => (hP _ hm).actOK_at hc y (hy.trans h2)) d))
    (fun r _ _ => r) d hP hc

theorem hout_fixMsgInCore {P : InMsg → Prop} (s : Sess) (m : InMsg) (h : MsgHyp N S P s.cfg m) (hP : PoolHyp N S P s.cfg)
    (hc : CfgHyp N S s.cfg) (hs : StashOK P s.st) : HOut N S P s (fixMsgInCore s m) := by
  rcases RetSome.fixMsgInCore (M := P) s m hs h.p with he | ⟨k, hr, _⟩
  · rw [he.2]; exact ⟨RelF.refl s, stashOK_plain _ rfl⟩
  · exact ⟨relF_ofDoesAll hP hc hr.does, hr.nx.stashOK fun _ ha => ha⟩

theorem relF_discMid (s : Sess) (hc : CfgHyp N S s.cfg) : RelF N S s (discMid s) := by
  unfold discMid
  dsimp only
  have h1 : RelF N S s (if (s.st.loggedOn || match s.st with | SState.logout => true | SState.logon => s.cfg.initiator | x => false) = true
      then s.emit Obs.onLogout else s) := ite_both (RelF.emit s _ hp.nOnLogout) (RelF.refl s)
  generalize (if (s.st.loggedOn || match s.st with | SState.logout => true | SState.logon => s.cfg.initiator | x => false) = true
      then s.emit Obs.onLogout else s) = s1 at h1 ⊢
  have h2 := relF_resetIf hc h1 (flag := s1.cfg.resetOnDisconnect) fun hno => by rw [h1.cfg]; exact hno.2.2
  generalize (if s1.cfg.resetOnDisconnect = true then dropAndReset s1 else s1) = s2 at h2 ⊢
  exact h2.trans (ite_both (RelF.trans (b := s2.setOut false) (RelF.of_eq rfl rfl rfl rfl rfl) (RelF.emit _ _ hp.nClosed)) (RelF.refl s2))

theorem Rel.of_eq {s s' : Sess} (h1 : s'.cfg = s.cfg) (h2 : s'.log = s.log) (h3 : s'.store = s.store) : Rel N S s s' :=
  ⟨h1, ⟨[], by simp [h2], by simp⟩, by rw [h3]; exact hp.sRefl _⟩

/-- a class of states that the events outside the handlers do not lead out of -/
structure StClass (C : SState → Prop) : Prop where
  /-- a disconnect, a lapsed timer -/
  latent : C .latent
  /-- the session time check -/
  notSessionTime : C .notSessionTime
  /-- `connect` -/
  logon : C .logon
  /-- what a timer or a stop request asks of a logged-on session -/
  active : ∀ st, C st → st.loggedOn = true → C st.pending ∧ C .logout

def Within (C : SState → Prop) (P : InMsg → Prop) (s : Sess) : Prop := (∀ m ∈ s.inbox, P m) ∧ C s.st

/-- what a client shows of the handlers -/
def FixOK (N : Obs → Prop) (S : Store → Store → Prop) (C : SState → Prop) (P : InMsg → Prop) (cfg : Cfg) : Prop :=
  ∀ s m, s.cfg = cfg → C s.st → P m → RelF N S s (fixMsgInCore s m).1 ∧ C (fixMsgInCore s m).2

def Good (N : Obs → Prop) (S : Store → Store → Prop) (C : SState → Prop) (P : InMsg → Prop) (s s' : Sess) : Prop :=
  Rel N S s s' ∧ Within C P s'

variable {C : SState → Prop} {P : InMsg → Prop}

theorem Good.refl {s : Sess} (h : Within C P s) : Good N S C P s s := ⟨Rel.refl s, h⟩

theorem Good.relF {a b c : Sess} (h1 : Good N S C P a b) (h2 : RelF N S b c) : Good N S C P a c :=
  ⟨h1.1.trans h2.toRel, ⟨by rw [h2.inbox]; exact h1.2.1, by rw [h2.st]; exact h1.2.2⟩⟩

theorem Good.setSt {a b : Sess} (h1 : Good N S C P a b) (next : SState) (hn : C next) : Good N S C P a (b.setSt next) :=
  ⟨h1.1.trans (Rel.of_eq rfl rfl rfl), ⟨h1.2.1, hn⟩⟩

omit hp in
theorem RelF.within {cfg : Cfg} {s x : Sess} (h : RelF N S s x) (hI : s.cfg = cfg ∧ Within C P s) :
    Rel N S s x ∧ (x.cfg = cfg ∧ Within C P x) :=
  ⟨h.toRel, h.cfg.trans hI.1, by rw [h.inbox]; exact hI.2.1, by rw [h.st]; exact hI.2.2⟩

omit hp in
theorem TimerRet.next {s : Sess} {r : Sess × SState} (hC : StClass C) (t : TimerRet s r) (hs : C s.st) : C r.2 := by
  cases t with
  | idle nx hn => exact hn.elim (fun h => h ▸ hs) (fun h => h ▸ hC.latent)
  | heartbeat nx _ hn => exact hn ▸ hs
  | testRequest nx hl hn => exact hn ▸ (hC.active _ hs hl).1
  | logout hl => exact (hC.active _ hs hl).2

theorem TimerRet.relF {s : Sess} {r : Sess × SState} (t : TimerRet s r) : RelF N S s r.1 := by
  cases t with
  | idle nx _ => exact RelF.refl s
  | heartbeat nx _ _ => exact relFSend.sendInReplyTo s (mkOut "0" []) (by decide)
  | testRequest nx _ _ =>
    exact (relFSend.sendInReplyTo s (mkOut "1" [(112, "TEST")]) (by decide)).trans (RelF.emit _ _ (hp.nArm _))
  | logout _ => exact relF_initiateLogout s

theorem withinMachine (hC : StClass C) (cfg : Cfg) (hf : FixOK N S C P cfg) (hc : CfgHyp N S cfg) :
    MachineBase (fun s => s.cfg = cfg ∧ Within C P s) (Rel N S) C P where
  refl := Rel.refl
  trans := Rel.trans
  latent := hC.latent
  notSessionTime := hC.notSessionTime
  setSt := fun _ _ hI hn => ⟨Rel.of_eq rfl rfl rfl, hI.1, hI.2.1, hn⟩
  closeInbox := fun _ hI => ⟨Rel.of_eq rfl rfl rfl, hI.1, (by intro m hm; cases hm), hI.2.2⟩
  setStopped := fun _ hI => ⟨Rel.of_eq rfl rfl rfl, hI⟩
  arm := fun s n hI => (RelF.emit s _ (hp.nArm n)).within hI
  discMid := fun s hI => (relF_discMid s (by rw [hI.1]; exact hc)).within hI
  sendLogout := fun s hI => (relF_sendLogout s).within hI
  pop := fun s m rest hI hib =>
    ⟨hI.2.1 m (hib ▸ List.mem_cons_self), Rel.of_eq rfl rfl rfl, hI.1,
      fun x hx => hI.2.1 x (hib ▸ List.mem_cons_of_mem _ hx), hI.2.2⟩
  fixMsgIn := fun s m hI hm =>
    have h := hf s m hI.1 hI.2.2 hm
    ⟨(h.1.within hI).1, (h.1.within hI).2, h.2⟩

omit hp in
theorem shouldSendReset_false (s : Sess) (h : NoResetCfg s.cfg) : shouldSendReset s = false := by
  unfold shouldSendReset
  split
  · rfl
  · simp [h.1, h.2.1, h.2.2]

theorem within_connect (hC : StClass C) (s : Sess) (hc : CfgHyp N S s.cfg) (h : Within C P s) : Good N S C P s (connect s).1 := by
  have g0 : Good N S C P s s.openConn := ⟨Rel.of_eq rfl rfl rfl, ⟨(by intro m hm; cases hm), h.2⟩⟩
  refine connect_cases s (motive := fun r => Good N S C P s r.1) (fun _ => Good.refl h)
    (fun _ _ => (Good.refl h).relF (relF_resetIf hc (RelF.refl s) fun hno => hno.2.2))
    (fun _ _ _ => g0.setSt _ hC.logon) (fun _ _ _ => Good.setSt (g0.relF ?_) _ hC.logon)
  -- `connectBase`: refresh, then the reset that the policy tolerates or the configuration excludes
  have h1 : RelF N S s.openConn (if s.openConn.cfg.refreshOnLogon = true then s.openConn.emit Obs.refresh else s.openConn) :=
    ite_both (RelF.emit _ _ hp.nRefresh) (RelF.refl _)
  have h2 : RelF N S s.openConn (connectBase s) := relF_resetIf (s := s.openConn) hc h1 fun hno => by rw [h1.cfg]; exact hno.1
  exact h2.trans (relF_sendLogonInReplyTo _ _ (hc.imp_right fun hno => shouldSendReset_false _ (by rw [h2.cfg]; exact hno)))

/-- what the policy needs to know about an event -/
def EvOK (N : Obs → Prop) (S : Store → Store → Prop) (P : InMsg → Prop) (cfg : Cfg) : Ev → Prop
  | .incomingMsg m => ∀ x, m = some x → P x
  | .arrive m => P m
  | .send m => ResetOK N S ∨ resetLogon m = false
  | .sessionTime _ sm => sm = true ∨ ResetOK N S
  | .resetTime _ => ResetOK N S ∨ cfg.resetSeqTime = none
  | _ => True

/-- CheckResetTime: nothing when ResetSeqTime is not configured; otherwise at most the reset Logon -/
theorem relF_checkResetTime (s : Sess) (now : Int) (h : ResetOK N S ∨ s.cfg.resetSeqTime = none) :
    RelF N S s (checkResetTime s now) := by
  have hset : ∀ x : Sess, RelF N S x (x.setLastChecked now) := fun x => RelF.of_eq rfl rfl rfl rfl rfl
  unfold checkResetTime
  split
  · exact RelF.refl s
  · rename_i rs hrs
    rcases h with hro | hno
    · repeat' split
      all_goals (try dsimp only)
      all_goals first
        | exact hset _
        | exact (relF_sendLogonInReplyTo _ _ (Or.inl hro)).trans (hset _)
    · rw [hno] at hrs; cases hrs

theorem within_stepCore (hC : StClass C) (s : Sess) (e : Ev) (hf : FixOK N S C P s.cfg) (hc : CfgHyp N S s.cfg) (h : Within C P s)
    (he : EvOK N S P s.cfg e) : Good N S C P s (stepCore s e).1 := by
  have hs : s.cfg = s.cfg ∧ Within C P s := ⟨rfl, h⟩
  have timer : ∀ {x : Sess} {r : Sess × SState}, TimerRet x r → x.cfg = s.cfg ∧ Within C P x →
      Rel N S x r.1 ∧ (r.1.cfg = s.cfg ∧ Within C P r.1) ∧ C r.2 := fun t hx =>
    ⟨((t.relF (N := N) (S := S)).within hx).1, ((t.relF (N := N) (S := S)).within hx).2, t.next hC hx.2.2⟩
  have r := (withinMachine hC s.cfg hf hc).stepCore (ResetOK N S) (fun hro x hx => (relF_dropAndReset x hro).within hx) s e hs
    (fun _ => ⟨(within_connect hC s hc h).1, (within_connect hC s hc h).1.cfg, (within_connect hC s hc h).2⟩)
    (fun m hm => by subst hm; exact he m rfl)
    (fun m hm => by
      subst hm
      refine ⟨Rel.of_eq rfl rfl rfl, rfl, fun x hx => ?_, h.2⟩
      rcases List.mem_append.1 hx with hx | hx
      · exact h.1 x hx
      · simp at hx; subst hx; exact he)
    (fun x ev hx => timer (timeoutCore_ret x ev) hx)
    (fun x hx => (RelF.of_eq (N := N) (S := S) (s := x) (s' := x.setPendingStop) rfl rfl rfl rfl rfl).within hx)
    (fun x hx => timer (stopNext_ret x) hx)
    (fun m hm => by subst hm; exact (relF_queueForSend s m he).within hs)
    (fun x hx => (relF_sendQueued x).within hx) (fun x hx => (RelF.of_eq (N := N) (S := S) (s := x) (s' := x.setToSend []) rfl rfl rfl rfl rfl).within hx)
    (fun r sm hm => by subst hm; exact he)
    (fun now hm => by subst hm; exact (relF_checkResetTime s now he).within hs)
  exact ⟨r.1, r.2.2⟩

omit hp in
theorem stashClass : StClass (StashOK P) where
  latent := stashOK_plain _ rfl
  notSessionTime := stashOK_plain _ rfl
  logon := stashOK_plain _ rfl
  active := fun st h _ => ⟨by unfold StashOK; rw [stashOf_pending]; exact h, stashOK_plain _ rfl⟩

theorem pool_fixOK (cfg : Cfg) (hP : PoolHyp N S P cfg) (hc : CfgHyp N S cfg) : FixOK N S (StashOK P) P cfg := fun s m hcfg hs hm =>
  have h := hout_fixMsgInCore s m (by rw [hcfg]; exact hP m hm) (by rw [hcfg]; exact hP) (by rw [hcfg]; exact hc) hs
  ⟨h.rel, h.stash⟩

/-! ### lifted to `step` and to `traceOf` / `runEvents` (defined in Props/C01.lean) -/

omit hp in
/-- the last mile: `step` is `stepCore` on the cleared log and hands out the log as the event's observations, so a `Rel` step of
    `stepCore` that ends where `I` holds says that every observation of the event satisfies `N`, and `I` holds afterwards -/
theorem step_of_stepCore {I : Sess → Prop} (hI : ∀ x, I x → I x.clearLog) (s : Sess) (e : Ev)
    (g : Rel N S s.clearLog (stepCore s.clearLog e).1 ∧ I (stepCore s.clearLog e).1) :
    (∀ o ∈ (step s e).2.1, N o) ∧ S s.store (step s e).1.store ∧ (step s e).1.cfg = s.cfg ∧ I (step s e).1 := by
  unfold step
  dsimp only
  generalize stepCore s.clearLog e = r at g
  obtain ⟨⟨hcfg, ⟨extra, hl, hn⟩, hst⟩, hi⟩ := g
  refine ⟨fun o ho => hn o ?_, hst, hcfg, hI _ hi⟩
  rw [hl] at ho
  simpa [Sess.clearLog] using ho

theorem step_within (hC : StClass C) (s : Sess) (e : Ev) (hf : FixOK N S C P s.cfg) (hc : CfgHyp N S s.cfg) (h : Within C P s)
    (he : EvOK N S P s.cfg e) :
    (∀ o ∈ (step s e).2.1, N o) ∧ S s.store (step s e).1.store ∧ (step s e).1.cfg = s.cfg ∧ Within C P (step s e).1 :=
  step_of_stepCore (fun _ h => h) s e (within_stepCore (N := N) (S := S) hC s.clearLog e hf hc h he)

theorem run_within (hC : StClass C) (s : Sess) (evs : List Ev) (hf : FixOK N S C P s.cfg) (hc : CfgHyp N S s.cfg) (h : Within C P s)
    (he : ∀ e ∈ evs, EvOK N S P s.cfg e) :
    (∀ o ∈ _root_.traceOf s evs, N o) ∧ S s.store (_root_.runEvents s evs).store ∧ (_root_.runEvents s evs).cfg = s.cfg
      ∧ Within C P (_root_.runEvents s evs) := by
  induction evs generalizing s with
  | nil => exact ⟨(by intro o ho; cases ho), hp.sRefl _, rfl, h⟩
  | cons e es ih =>
    obtain ⟨h1, h2, h3, h4⟩ := step_within (N := N) (S := S) hC s e hf hc h (he e List.mem_cons_self)
    obtain ⟨i1, i2, i3, i4⟩ := ih (step s e).1 (by rw [h3]; exact hf) (by rw [h3]; exact hc) h4
      (fun e' he' => by rw [h3]; exact he e' (List.mem_cons_of_mem _ he'))
    simp only [_root_.traceOf, _root_.runEvents]
    refine ⟨?_, hp.sTrans h2 i2, i3.trans h3, i4⟩
    intro o ho
    rcases List.mem_append.1 ho with ho | ho
    · exact h1 o ho
    · exact i1 o ho

theorem step_good (s : Sess) (e : Ev) (hP : PoolHyp N S P s.cfg) (hc : CfgHyp N S s.cfg) (h : PoolInv P s) (he : EvOK N S P s.cfg e) :
    (∀ o ∈ (step s e).2.1, N o) ∧ S s.store (step s e).1.store ∧ (step s e).1.cfg = s.cfg ∧ PoolInv P (step s e).1 :=
  step_within stashClass s e (pool_fixOK s.cfg hP hc) hc h he

theorem run_good (s : Sess) (evs : List Ev) (hP : PoolHyp N S P s.cfg) (hc : CfgHyp N S s.cfg) (h : PoolInv P s)
    (he : ∀ e ∈ evs, EvOK N S P s.cfg e) :
    (∀ o ∈ _root_.traceOf s evs, N o) ∧ S s.store (_root_.runEvents s evs).store ∧ (_root_.runEvents s evs).cfg = s.cfg
      ∧ PoolInv P (_root_.runEvents s evs) :=
  run_within stashClass s evs (pool_fixOK s.cfg hP hc) hc h he

omit hp in
theorem poolInv_clearLog (s : Sess) (h : PoolInv P s) : PoolInv P s.clearLog := h

omit hp in
theorem poolInv_init (cfg : Cfg) (s0 t0 : Int) : PoolInv P (initSess cfg s0 t0) :=
  ⟨(by intro m hm; cases hm), (by intro p hp; cases hp)⟩

end

end Qfx.Sess
