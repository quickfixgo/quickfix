/-
  Qfx.Lemmas.Float — binary64 as exact arithmetic: the value function `scaled` is strictly increasing in the ordinal,
  the model's rounding `roundOrd` meets the declarative `Spec.Nearest`, and `Nearest` determines the ordinal.
  Then the read side of the text: the model splits a text at the first '.', the specification at the first non-digit, and on
  texts of the grammar the two agree (`text_spec`); `readFloat` on such a text in the specification's words; out of range =
  at or beyond the overflow midpoint (`nearest_inf_iff`).  The write side and the round trip are in FloatWrite.lean.
-/
import Qfx.Spec.Float
import Qfx.Lemmas.Bytes
namespace Qfx.F64
open Qfx Qfx.Spec

theorem two_pow_succ' (k : Nat) (h : 0 < k) : 2 ^ k = 2 * 2 ^ (k - 1) := by
  cases k with
  | zero => omega
  | succ k => simp [Nat.pow_succ]; omega

theorem scaled_split (k m : Nat) (h : m < P52) :
    scaled (P52 * k + m) = if k = 0 then m else (P52 + m) * 2 ^ (k - 1) := by
  unfold scaled
  rw [Nat.mul_add_div (by decide), Nat.div_eq_of_lt h, Nat.mul_add_mod, Nat.mod_eq_of_lt h, Nat.add_zero]
  by_cases hk : k = 0
  · rw [if_pos hk, if_pos hk, hk, Nat.mul_zero, Nat.zero_add]
  · rw [if_neg hk, if_neg hk]

/-- normal form of an ordinal: `sh` = exponent above the first binade, `M` = the full (up to 53 bit) mantissa -/
theorem scaled_norm (sh M : Nat) (h1 : M < P53) (h2 : sh = 0 ∨ P52 ≤ M) :
    scaled (P52 * sh + M) = M * 2 ^ sh := by
  by_cases hM : M < P52
  · obtain rfl : sh = 0 := h2.resolve_right (Nat.not_le_of_lt hM)
    rw [scaled_split 0 M hM, if_pos rfl, Nat.pow_zero, Nat.mul_one]
  · obtain ⟨m, rfl⟩ := Nat.exists_eq_add_of_le (Nat.le_of_not_lt hM)
    have hm : m < P52 := by omega
    rw [← Nat.add_assoc, ← Nat.mul_succ, scaled_split _ m hm, if_neg (Nat.succ_ne_zero sh), Nat.succ_sub_one]

theorem ord_norm (n : Nat) : ∃ sh M, n = P52 * sh + M ∧ M < P53 ∧ (sh = 0 ∨ P52 ≤ M) := by
  have e := Nat.div_add_mod n P52
  have hm : n % P52 < P52 := Nat.mod_lt n (by decide)
  generalize n / P52 = k at e
  generalize n % P52 = m at e hm
  subst e
  cases k with
  | zero => exact ⟨0, m, rfl, Nat.lt_trans hm (by decide), Or.inl rfl⟩
  | succ k =>
    exact ⟨k, P52 + m, by rw [Nat.mul_succ, Nat.add_assoc], Nat.add_lt_add_left hm P52, Or.inr (Nat.le_add_right _ _)⟩

theorem scaled_succ_norm (sh M : Nat) (h1 : M < P53) (h2 : sh = 0 ∨ P52 ≤ M) :
    scaled (P52 * sh + M + 1) = (M + 1) * 2 ^ sh := by
  by_cases hM : M + 1 < P53
  · rw [Nat.add_assoc]; exact scaled_norm sh (M + 1) hM (h2.imp_right Nat.le_succ_of_le)
  · have top := scaled_split (sh + 2) 0 (by decide)
    rw [if_neg (Nat.succ_ne_zero _)] at top
    have hM' : M + 1 = P53 := Nat.le_antisymm h1 (Nat.le_of_not_lt hM)
    rw [Nat.add_assoc, hM', show P53 = P52 * 2 from rfl, ← Nat.mul_add, ← Nat.add_zero (P52 * (sh + 2)), top,
      show sh + 2 - 1 = sh + 1 from rfl, Nat.pow_succ, Nat.mul_comm (2 ^ sh) 2, Nat.mul_assoc]

theorem scaled_lt_succ (n : Nat) : scaled n < scaled (n + 1) := by
  obtain ⟨sh, M, rfl, h1, h2⟩ := ord_norm n
  rw [scaled_norm sh M h1 h2, scaled_succ_norm sh M h1 h2]
  exact Nat.mul_lt_mul_of_pos_right (by omega) (Nat.two_pow_pos sh)

theorem scaled_strictMono {a b : Nat} (h : a < b) : scaled a < scaled b := by
  induction b with
  | zero => omega
  | succ b ih =>
    by_cases hab : a = b
    · subst hab; exact scaled_lt_succ a
    · exact Nat.lt_trans (ih (by omega)) (scaled_lt_succ b)

theorem scaled_mono {a b : Nat} (h : a ≤ b) : scaled a ≤ scaled b := by
  by_cases hab : a = b
  · subst hab; exact Nat.le_refl _
  · exact Nat.le_of_lt (scaled_strictMono (by omega))

theorem p53_eq : (2 : Nat) ^ 53 = P53 := by decide
theorem p52_eq : (2 : Nat) ^ 52 = P52 := by decide

theorem roundOrd_parts (num den : Nat) (hd : 0 < den) :
    let Q := 2 ^ 1074 * num
    let F := Q / den
    let sh := F.log2 + 1 - 53
    let M := F / 2 ^ sh
    M < P53 ∧ (sh = 0 ∨ P52 ≤ M) ∧ M * 2 ^ sh * den ≤ Q ∧ Q < (M + 1) * 2 ^ sh * den := by
  intro Q F sh M
  have hF1 : F < 2 ^ (F.log2 + 1) := Nat.lt_log2_self
  have hp : 0 < 2 ^ sh := Nat.two_pow_pos sh
  -- `M` is `Q` divided by `2^sh * den` in one step
  have hM : M = Q / (2 ^ sh * den) := by show Q / den / 2 ^ sh = _; rw [Nat.div_div_eq_div_mul, Nat.mul_comm]
  have h3 : M * 2 ^ sh * den ≤ Q := by rw [hM, Nat.mul_assoc]; exact Nat.div_mul_le_self _ _
  have h4 : Q < (M + 1) * 2 ^ sh * den := by
    rw [hM, Nat.mul_assoc, Nat.mul_comm]; exact Nat.lt_mul_div_succ Q (Nat.mul_pos hp hd)
  by_cases hL : F.log2 + 1 ≤ 53
  · -- `F` has at most 53 bits: all of it is kept
    have hsh : sh = 0 := Nat.sub_eq_zero_of_le hL
    have hMF : M = F := by show F / 2 ^ sh = F; rw [hsh]; simp
    have : 2 ^ (F.log2 + 1) ≤ 2 ^ 53 := Nat.pow_le_pow_right (by decide) hL
    rw [p53_eq] at this
    exact ⟨hMF ▸ Nat.lt_of_lt_of_le hF1 this, Or.inl hsh, h3, h4⟩
  · -- otherwise exactly the 53 leading bits are kept
    have hF0 : F ≠ 0 := by
      intro h0; rw [h0] at hL; simp at hL
    have hF2 := Nat.log2_self_le hF0
    have e : 53 + sh = F.log2 + 1 := Nat.add_sub_of_le (Nat.le_of_not_le hL)
    rw [← e, Nat.pow_add, p53_eq] at hF1
    rw [Nat.add_right_cancel (e.symm.trans (Nat.add_right_comm 52 1 sh)), Nat.pow_add, p52_eq] at hF2
    exact ⟨(Nat.div_lt_iff_lt_mul hp).2 hF1, Or.inr ((Nat.le_div_iff_mul_le hp).2 hF2), h3, h4⟩

theorem scaled_mul_lt {a b den : Nat} (h : a < b) (hd : 0 < den) : scaled a * den < scaled b * den :=
  Nat.mul_lt_mul_of_pos_right (scaled_strictMono h) hd

/-! ## `Nearest` as a position between midpoints

For `a < b` the comparison of the distances from `q` to `a` and to `b` is the comparison of `2q` with `a + b`;
so `Nearest` says that `2·num/den` lies between the midpoint below `n` and the midpoint above it, and touches
one of them only when `n` is even.  In this form there is no truncated subtraction left. -/

theorem dist_le_iff {q a b : Nat} (h : a < b) : dist q a ≤ dist q b ↔ 2 * q ≤ a + b := by unfold dist; omega
theorem dist_ge_iff {q a b : Nat} (h : a < b) : dist q b ≤ dist q a ↔ a + b ≤ 2 * q := by unfold dist; omega
theorem dist_eq_iff {q a b : Nat} (h : a < b) : dist q a = dist q b ↔ 2 * q = a + b := by
  rw [Nat.le_antisymm_iff, dist_le_iff h, dist_ge_iff h, ← Nat.le_antisymm_iff]

theorem nearest_iff (num den n : Nat) (hd : 0 < den) : Nearest num den n ↔
    (2 * (2 ^ 1074 * num) ≤ scaled n * den + scaled (n + 1) * den ∧
      (2 * (2 ^ 1074 * num) = scaled n * den + scaled (n + 1) * den → n % 2 = 0)) ∧
    (n = 0 ∨ (scaled (n - 1) * den + scaled n * den ≤ 2 * (2 ^ 1074 * num) ∧
      (2 * (2 ^ 1074 * num) = scaled (n - 1) * den + scaled n * den → n % 2 = 0))) := by
  unfold Nearest distTo
  have hu := scaled_mul_lt (Nat.lt_add_one n) hd
  rw [dist_le_iff hu, dist_eq_iff hu]
  rcases Nat.eq_zero_or_pos n with rfl | hn
  · simp only [true_or]
  · have hl := scaled_mul_lt (Nat.sub_lt hn Nat.one_pos) hd
    rw [dist_ge_iff hl, eq_comm (a := dist _ (scaled n * den)), dist_eq_iff hl]

theorem nearest_of_lower (num den n : Nat) (hd : 0 < den)
    (h1 : scaled n * den ≤ 2 ^ 1074 * num)
    (h3 : 2 * (2 ^ 1074 * num) ≤ scaled n * den + scaled (n + 1) * den)
    (h4 : 2 * (2 ^ 1074 * num) = scaled n * den + scaled (n + 1) * den → n % 2 = 0) :
    Nearest num den n := by
  refine (nearest_iff num den n hd).2 ⟨⟨h3, h4⟩, ?_⟩
  rcases Nat.eq_zero_or_pos n with hn | hn
  · exact Or.inl hn
  · have := scaled_mul_lt (Nat.sub_lt hn Nat.one_pos) hd
    generalize 2 ^ 1074 * num = Q at *
    exact Or.inr ⟨by omega, fun h => by omega⟩

theorem nearest_of_upper (num den n : Nat) (hd : 0 < den)
    (h2 : 2 ^ 1074 * num < scaled (n + 1) * den)
    (h3 : scaled n * den + scaled (n + 1) * den ≤ 2 * (2 ^ 1074 * num))
    (h4 : 2 * (2 ^ 1074 * num) = scaled n * den + scaled (n + 1) * den → (n + 1) % 2 = 0) :
    Nearest num den (n + 1) := by
  have := scaled_mul_lt (Nat.lt_add_one (n + 1)) hd
  refine (nearest_iff num den (n + 1) hd).2 ⟨?_, Or.inr (by rw [Nat.add_sub_cancel]; exact ⟨h3, h4⟩)⟩
  generalize 2 ^ 1074 * num = Q at *
  exact ⟨by omega, fun h => by omega⟩

theorem nearest_of_bracket (num den n : Nat) (hd : 0 < den)
    (h1 : scaled n * den ≤ 2 ^ 1074 * num) (h2 : 2 ^ 1074 * num < scaled (n + 1) * den) :
    Nearest num den
      (if 2 * (2 ^ 1074 * num) < scaled n * den + scaled (n + 1) * den then n
       else if scaled n * den + scaled (n + 1) * den < 2 * (2 ^ 1074 * num) then n + 1
       else if n % 2 = 0 then n else n + 1) := by
  by_cases hlt : 2 * (2 ^ 1074 * num) < scaled n * den + scaled (n + 1) * den
  · rw [if_pos hlt]
    exact nearest_of_lower num den n hd h1 (Nat.le_of_lt hlt) (fun h => absurd h (Nat.ne_of_lt hlt))
  · rw [if_neg hlt]
    by_cases hgt : scaled n * den + scaled (n + 1) * den < 2 * (2 ^ 1074 * num)
    · rw [if_pos hgt]
      exact nearest_of_upper num den n hd h2 (Nat.le_of_lt hgt) (fun h => absurd h.symm (Nat.ne_of_lt hgt))
    · rw [if_neg hgt]
      by_cases hev : n % 2 = 0
      · rw [if_pos hev]
        exact nearest_of_lower num den n hd h1 (Nat.le_of_not_lt hgt) (fun _ => hev)
      · rw [if_neg hev]
        exact nearest_of_upper num den n hd h2 (Nat.le_of_not_lt hlt) (fun _ => by omega)

theorem roundOrd_nearest (num den : Nat) (hd : 0 < den) : Nearest num den (roundOrd num den) := by
  -- the ordinal `P52 * sh + M` has value `M * 2^sh` and its successor `(M + 1) * 2^sh`, so `roundOrd`'s `mid` is the sum of the
  -- two neighbours' values, and the ordinal is even exactly when the mantissa `M` is (`P52` is even)
  have key := roundOrd_parts num den hd
  simp only at key
  unfold roundOrd
  simp only
  generalize 2 ^ 1074 * num / den = F at key ⊢
  generalize F.log2 + 1 - 53 = sh at key ⊢
  generalize F / 2 ^ sh = M at key ⊢
  obtain ⟨hM, hn, hlo, hhi⟩ := key
  have hmid : (2 * M + 1) * 2 ^ sh * den = M * 2 ^ sh * den + (M + 1) * 2 ^ sh * den := by
    rw [← Nat.add_mul, ← Nat.add_mul, show M + (M + 1) = 2 * M + 1 by omega]
  rw [← scaled_norm sh M hM hn] at hlo hmid
  rw [← scaled_succ_norm sh M hM hn] at hhi hmid
  rw [hmid, show M % 2 = (P52 * sh + M) % 2 by omega]
  exact nearest_of_bracket num den _ hd hlo hhi

theorem nearest_not_lt (num den a b : Nat) (hd : 0 < den) (hab : a < b)
    (ha : Nearest num den a) (hb : Nearest num den b) : False := by
  obtain ⟨⟨ha1, ha2⟩, -⟩ := (nearest_iff num den a hd).1 ha
  obtain ⟨-, hb0 | ⟨hb1, hb2⟩⟩ := (nearest_iff num den b hd).1 hb
  · omega
  · -- midpoint above `a` ≤ midpoint below `b`, with equality only for `b = a + 1`: then both are even
    have h1 : scaled a * den ≤ scaled (b - 1) * den := Nat.mul_le_mul_right den (scaled_mono (Nat.le_sub_one_of_lt hab))
    generalize 2 ^ 1074 * num = Q at *
    by_cases h : b = a + 1
    · subst h
      rw [Nat.add_sub_cancel] at hb1 hb2
      have e := Nat.le_antisymm ha1 hb1
      have p1 := ha2 e
      have p2 := hb2 e
      rw [Nat.add_mod, p1] at p2
      exact absurd p2 (by decide)
    · have := scaled_mul_lt (show a + 1 < b by omega) hd
      exact Nat.lt_irrefl _ (Nat.lt_of_lt_of_le (Nat.add_lt_add_of_le_of_lt h1 this) (Nat.le_trans hb1 ha1))

theorem nearest_unique (num den a b : Nat) (hd : 0 < den)
    (ha : Nearest num den a) (hb : Nearest num den b) : a = b := by
  by_cases h1 : a < b
  · exact (nearest_not_lt num den a b hd h1 ha hb).elim
  · by_cases h2 : b < a
    · exact (nearest_not_lt num den b a hd h2 hb ha).elim
    · omega

theorem body_split (r : Bytes) (hg : floatBody r = true) :
    r.takeWhile (· ≠ cDot) = r.takeWhile isDigit ∧
    (r.dropWhile (· ≠ cDot)).drop 1 = (r.dropWhile isDigit).drop 1 ∧
    ((r.dropWhile isDigit).drop 1).all isDigit = true := by
  have hsplit : r.takeWhile isDigit ++ r.dropWhile isDigit = r := List.takeWhile_append_dropWhile
  have hip : (r.takeWhile isDigit).all isDigit = true := List.all_takeWhile
  have hno : cDot ∉ r.takeWhile isDigit := all_digit_ne _ hip cDot (by decide)
  unfold floatBody at hg
  simp only at hg
  cases hrest : r.dropWhile isDigit with
  | nil =>
    rw [hrest] at hsplit hg
    rw [List.append_nil] at hsplit
    rw [hsplit] at hno
    exact ⟨by rw [takeWhile_nosep r hno, hsplit], by rw [dropWhile_nosep r hno], rfl⟩
  | cons c fp =>
    rw [hrest] at hsplit hg
    simp only [Bool.and_eq_true, beq_iff_eq] at hg
    obtain ⟨⟨hc, hfp⟩, _⟩ := hg
    subst hc
    refine ⟨?_, ?_, by simpa using hfp⟩
    · conv => lhs; rw [← hsplit]
      exact takeWhile_sep _ _ hno
    · conv => lhs; rw [← hsplit]
      exact congrArg (List.drop 1) (dropWhile_sep _ _ hno)

theorem text_sign (b : Bytes) :
    textNeg b = floatNeg b ∧ textBody b = floatBodyOf b ∧ FloatGrammar b = floatBody (floatBodyOf b) := by
  unfold textNeg textBody floatNeg floatBodyOf FloatGrammar
  split
  · exact ⟨rfl, rfl, rfl⟩
  · rename_i h
    rcases b with _ | ⟨c, cs⟩
    · exact ⟨rfl, rfl, rfl⟩
    · have hc : c ≠ cMinus := fun e => h cs (by rw [e]; rfl)
      simp [textNeg, hc]

theorem text_spec (b : Bytes) (hg : FloatGrammar b = true) :
    textNeg b = floatNeg b ∧ textMag b = floatNum b ∧ textScale b = (floatFrac b).length := by
  obtain ⟨hN, hB, hG⟩ := text_sign b
  obtain ⟨h1, h2, -⟩ := body_split (floatBodyOf b) (hG ▸ hg)
  unfold textMag textScale floatNum floatFrac
  rw [hB, h1, h2, digitsVal_append]
  exact ⟨hN, rfl, rfl⟩

theorem ordOf_mkBits (neg : Bool) (n : Nat) (h : n < infOrd) : ordOf (mkBits neg n) = n := by
  unfold ordOf mkBits; cases neg <;> simp <;> omega

theorem rne_some (neg : Bool) (num den : Nat) (h : roundOrd num den < infOrd) :
    roundNearestEven neg num den = some (mkBits neg (roundOrd num den)) := by
  unfold roundNearestEven; exact if_pos h

theorem rne_none (neg : Bool) (num den : Nat) (h : ¬ roundOrd num den < infOrd) :
    roundNearestEven neg num den = none := by
  unfold roundNearestEven; exact if_neg h

theorem readFloat_reject (b : Bytes) (hg : acceptFloat b = false) : readFloat b = .err "invalid syntax" := by
  unfold readFloat; rw [if_neg (by simp [hg])]

theorem readFloat_fin (b : Bytes) (hg : acceptFloat b = true) (hg' : FloatGrammar b = true)
    (hfin : roundOrd (floatNum b) (floatDen b) < infOrd) :
    readFloat b = .ok (mkBits (floatNeg b) (roundOrd (floatNum b) (floatDen b))) := by
  unfold readFloat
  rw [if_pos hg]
  obtain ⟨e1, e2, e3⟩ := text_spec b hg'
  have e4 : 10 ^ textScale b = floatDen b := by rw [e3]; rfl
  rw [e1, e2, e4, rne_some _ _ _ hfin]

theorem readFloat_inf (b : Bytes) (hg : acceptFloat b = true) (hg' : FloatGrammar b = true)
    (hfin : ¬ roundOrd (floatNum b) (floatDen b) < infOrd) :
    readFloat b = .err "value out of range" := by
  unfold readFloat
  rw [if_pos hg]
  obtain ⟨e1, e2, e3⟩ := text_spec b hg'
  have e4 : 10 ^ textScale b = floatDen b := by rw [e3]; rfl
  rw [e1, e2, e4, rne_none _ _ _ hfin]

theorem nearest_inf_iff (num den n : Nat) (hd : 0 < den) (hn : Nearest num den n) :
    ¬ n < infOrd ↔ Overflows num den = true := by
  unfold Overflows
  rw [decide_eq_true_iff, Nat.add_mul]
  obtain ⟨⟨hu1, hu2⟩, hl⟩ := (nearest_iff num den n hd).1 hn
  generalize 2 ^ 1074 * num = Q at *
  constructor
  · intro hge
    rcases hl with h0 | ⟨hl1, -⟩
    · omega
    · have h2 : scaled (infOrd - 1) * den ≤ scaled (n - 1) * den :=
        Nat.mul_le_mul_right den (scaled_mono (Nat.sub_le_sub_right (Nat.le_of_not_lt hge) 1))
      have h3 : scaled infOrd * den ≤ scaled n * den := Nat.mul_le_mul_right den (scaled_mono (Nat.le_of_not_lt hge))
      exact Nat.le_trans (Nat.add_le_add h2 h3) hl1
  · intro hov hlt
    have h3 : scaled (n + 1) * den ≤ scaled infOrd * den := Nat.mul_le_mul_right den (scaled_mono hlt)
    by_cases htop : n = infOrd - 1
    · -- the largest finite double is odd: it does not win the tie
      subst htop
      exact absurd (hu2 (Nat.le_antisymm hu1 (Nat.le_trans (Nat.add_le_add_left h3 _) hov))) (by decide)
    · have h2 : scaled n * den < scaled (infOrd - 1) * den := scaled_mul_lt (by omega) hd
      exact Nat.lt_irrefl _ (Nat.lt_of_lt_of_le (Nat.add_lt_add_of_lt_of_le h2 h3) (Nat.le_trans hov hu1))

theorem floatDen_pos (b : Bytes) : 0 < floatDen b := pow10_pos _

end Qfx.F64
