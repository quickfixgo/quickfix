/- C13, templates without nesting: what `Read` is to return for entries on the wire (`readSpec`, `EntryOK`), one iteration of its loop per
   kind of field (`step_member`, `step_delim`, `step_stop`, `step_nil`; `step_group` is in CodecGroupNested.lean), the group comparator (template order: `sortTags_group`), and the
   canonical form `canon` of an entry set by plain setter calls.  That `Read` inverts the serialisation (`readGroup_flat`,
   `read_canon_flat`) and what `Write` emits (`writeEntries_flat`) are in CodecGroupNested.lean, as the case of one-field members.
-/
import Qfx.Lemmas.CodecBuild
import Qfx.Lemmas.Values
namespace Qfx

def flatTmpl (ts : List Tag) : List Item := ts.map Item.elem

theorem findItem_flat (ts : List Tag) (t : Tag) : findItem (flatTmpl ts) t = if t ∈ ts then some (.elem t) else none := by
  induction ts with
  | nil => simp [flatTmpl, findItem]
  | cons x r ih =>
    simp only [flatTmpl, List.map_cons, findItem, Item.tag] at ih ⊢
    by_cases h : x = t
    · subst h; simp
    · have h' : ¬ t = x := fun e => h e.symm
      simp only [h, if_false, List.mem_cons, h', false_or]
      exact ih

/-- one entry on the wire -/
def serEntry (e : List (Tag × Bytes)) : List TagValue := e.map (fun p => TagValue.init p.1 p.2)

/-- the entry `Read` builds from the remaining fields `r` of an entry, `after` being everything behind the entry -/
def putAll : GEntry → List (Tag × Bytes) → List TagValue → GEntry
  | g, [], _ => g
  | g, (t, v) :: r, after => putAll (g.put t (TagValue.init t v :: (serEntry r ++ after))) r after

/-- what `Read` returns for the entries `es` followed by `after` -/
def readSpec (after : List TagValue) : List (List (Tag × Bytes)) → List GEntry
  | [] => []
  | [] :: es => GEntry.empty :: readSpec after es
  | ((t, v) :: e) :: es =>
    putAll (GEntry.empty.put t (TagValue.init t v :: (serEntry e ++ ((es.flatMap serEntry) ++ after)))) e ((es.flatMap serEntry) ++ after)
      :: readSpec after es

/-- a well-formed entry: starts with the delimiter, which does not occur again, template tags only -/
def EntryOK (d : Tag) (ts : List Tag) (e : List (Tag × Bytes)) : Prop :=
  ∃ v e', e = (d, v) :: e' ∧ ∀ p ∈ e', p.1 ≠ d ∧ p.1 ∈ ts

/-- the follower: nothing, or a field whose tag is not in the template -/
def FollowerOK (ts : List Tag) (rest : List TagValue) : Prop := ∀ f r, rest = f :: r → f.tag ∉ ts

theorem init_tag (t : Tag) (v : Bytes) : (TagValue.init t v).tag = t := rfl

theorem step_member (fuel : Nat) (d : Item) (tmpl : List Item) (f : TagValue) (rest : List TagValue)
    (done : List GEntry) (g : GEntry) (t : Tag) (hf : findItem (d :: tmpl) f.tag = some (.elem t)) (hd : f.tag ≠ d.tag) :
    readLoop (fuel + 1) (d :: tmpl) (f :: rest) done (some g) =
      readLoop fuel (d :: tmpl) rest done (some (g.put f.tag (f :: rest))) := by
  simp [readLoop, hf, hd]

theorem step_delim (fuel : Nat) (d : Tag) (tmpl : List Item) (f : TagValue) (rest : List TagValue)
    (done : List GEntry) (cur : Option GEntry) (hd : f.tag = d) :
    readLoop (fuel + 1) (.elem d :: tmpl) (f :: rest) done cur =
      readLoop fuel (.elem d :: tmpl) rest (finishGroups done cur) (some (GEntry.empty.put f.tag (f :: rest))) := by
  simp [readLoop, findItem, Item.tag, hd]

theorem step_stop (fuel : Nat) (tmpl : List Item) (f : TagValue) (rest : List TagValue)
    (done : List GEntry) (cur : Option GEntry) (hf : findItem tmpl f.tag = none) :
    readLoop (fuel + 1) tmpl (f :: rest) done cur = .ok (f :: rest, finishGroups done cur) := by
  simp [readLoop, hf]

theorem step_nil (fuel : Nat) (tmpl : List Item) (done : List GEntry) (cur : Option GEntry) :
    readLoop (fuel + 1) tmpl [] done cur = .ok ([], finishGroups done cur) := by
  simp [readLoop]

theorem flatTmpl_cons (d : Tag) (ts : List Tag) : flatTmpl (d :: ts) = .elem d :: flatTmpl ts := rfl

theorem serEntry_cons (t : Tag) (v : Bytes) (r : List (Tag × Bytes)) : serEntry ((t, v) :: r) = TagValue.init t v :: serEntry r := rfl

theorem idxOf_cons_ne (x t : Tag) (r : List Tag) (h : x ≠ t) : (x :: r).idxOf t = r.idxOf t + 1 := by
  rw [List.idxOf_cons]
  have : (x == t) = false := by simpa using h
  simp [this]

theorem idxOf_inj (l : List Tag) (a b : Tag) (ha : a ∈ l) (hb : b ∈ l) (h : l.idxOf a = l.idxOf b) : a = b := by
  have h3 : l[l.idxOf a]? = some a := by
    rw [List.getElem?_eq_getElem (List.idxOf_lt_length_of_mem ha), List.getElem_idxOf]
  have h4 : l[l.idxOf b]? = some b := by
    rw [List.getElem?_eq_getElem (List.idxOf_lt_length_of_mem hb), List.getElem_idxOf]
  rw [h, h4] at h3
  exact (Option.some.inj h3).symm

theorem groupRankAux_notMem (xs : List Tag) (i : Nat) (t : Tag) (acc : Nat) (h : t ∉ xs) : groupRankAux xs i t acc = acc := by
  induction xs generalizing i acc with
  | nil => rfl
  | cons x r ih =>
    have hx : ¬ x = t := fun e => h (by simp [e])
    simp only [groupRankAux, hx, if_false]
    exact ih _ _ (fun hm => h (by simp [hm]))

theorem groupRankAux_nodup (xs : List Tag) (i : Nat) (t : Tag) (acc : Nat) (hn : xs.Nodup) (h : t ∈ xs) :
    groupRankAux xs i t acc = i + xs.idxOf t := by
  induction xs generalizing i acc with
  | nil => simp at h
  | cons x r ih =>
    rw [List.nodup_cons] at hn
    by_cases hx : x = t
    · subst hx
      simp only [groupRankAux, if_true]
      rw [groupRankAux_notMem r _ _ _ hn.1]; simp
    · have hm : t ∈ r := by
        rcases List.mem_cons.1 h with e | e
        · exact absurd e.symm hx
        · exact e
      simp only [groupRankAux, hx, if_false]
      rw [ih _ _ hn.2 hm, idxOf_cons_ne _ _ _ hx]; omega

theorem groupRank_mem (ts : List Tag) (t : Tag) (hn : ts.Nodup) (h : t ∈ ts) : groupRank ts t = ts.idxOf t := by
  unfold groupRank; rw [groupRankAux_nodup ts 0 t _ hn h]; simp

theorem idxOf_pairwise (l : List Tag) (hn : l.Nodup) : l.Pairwise (fun a b => l.idxOf a < l.idxOf b) :=
  List.pairwise_iff_getElem.2 fun i j hi hj hij => by rw [hn.idxOf_getElem i hi, hn.idxOf_getElem j hj]; exact hij

theorem sortTags_group (ts tags : List Tag) (hts : ts.Nodup) (hn : tags.Nodup) (hsub : ∀ t ∈ tags, t ∈ ts) :
    sortTags (.group ts) tags = ts.filter (fun t => tags.contains t) := by
  have hle : ∀ a b, OrdKind.le (.group ts) a b = true ↔ groupRank ts a ≤ groupRank ts b := by
    intro a b; rw [OrdKind.le_iff]; simp only [OrdKind.key]; omega
  apply List.Perm.eq_of_pairwise (le := fun a b => OrdKind.le (.group ts) a b = true)
  · intro a b ha hb h1 h2
    have hma : a ∈ ts := hsub a ((sortTags_perm _ _).mem_iff.1 ha)
    have hmb : b ∈ ts := (List.mem_filter.1 hb).1
    rw [hle, groupRank_mem ts a hts hma, groupRank_mem ts b hts hmb] at h1 h2
    exact idxOf_inj ts a b hma hmb (by omega)
  · exact sortTags_sorted _ _
  · refine List.Pairwise.sublist List.filter_sublist ?_
    refine List.Pairwise.imp_of_mem ?_ (idxOf_pairwise ts hts)
    intro a b ha hb hab
    rw [hle, groupRank_mem ts a hts ha, groupRank_mem ts b hts hb]; omega
  · refine (sortTags_perm _ _).trans ?_
    apply (List.perm_ext_iff_of_nodup hn (hts.sublist List.filter_sublist)).2
    intro x
    simp only [List.mem_filter, List.contains_iff_mem]
    exact ⟨fun h => ⟨hsub x h, h⟩, fun h => h.2⟩

/-- the latest value a sequence of setter calls gives to `t` -/
def latest : List (Tag × Bytes) → Tag → Option Bytes
  | [], _ => none
  | (k, v) :: r, t => match latest r t with
                      | some x => some x
                      | none => if k = t then some v else none

/-- plain setter calls as the API's entry description -/
def fldsOf (e : List (Tag × Bytes)) : List GFld := e.map (fun p => GFld.fld p.1 p.2)

theorem latest_mem (e : List (Tag × Bytes)) (t : Tag) (v : Bytes) (h : latest e t = some v) : (t, v) ∈ e := by
  -- case2: a later call sets `t`; case3: this one does; case4: neither
  fun_induction latest e t with
  | case1 => cases h
  | case2 k x r t y hl ih => cases h; exact List.mem_cons_of_mem _ (ih hl)
  | case3 x r t hl ih => cases h; exact List.mem_cons_self ..
  | case4 k x r t hl hk ih => cases h

/-- the fields of an entry as `Write` emits them: template order, each tag once, latest value -/
def canon (ts : List Tag) (e : List (Tag × Bytes)) : List (Tag × Bytes) :=
  ts.filterMap (fun t => (latest e t).map (fun v => (t, v)))

theorem tmplTags_flat (ts : List Tag) : tmplTags (flatTmpl ts) = ts := by
  simp [tmplTags, flatTmpl, List.map_map, Function.comp_def, Item.tag]

theorem canon_mem (ts : List Tag) (e : List (Tag × Bytes)) (t : Tag) (v : Bytes) :
    (t, v) ∈ canon ts e ↔ t ∈ ts ∧ latest e t = some v := by
  unfold canon
  rw [List.mem_filterMap]
  constructor
  · rintro ⟨a, ha, hm⟩
    obtain ⟨x, hl, e⟩ := Option.map_eq_some_iff.1 hm
    cases e; exact ⟨ha, hl⟩
  · rintro ⟨ha, hl⟩
    exact ⟨t, ha, by rw [hl]; rfl⟩

theorem canon_tags_sublist (ts : List Tag) (e : List (Tag × Bytes)) : ((canon ts e).map (·.1)).Sublist ts := by
  unfold canon
  induction ts with
  | nil => simp
  | cons t r ih =>
    rw [List.filterMap_cons]
    cases hl : latest e t with
    | none => simp only [Option.map_none]; exact ih.cons _
    | some v => simp only [Option.map_some, List.map_cons]; exact ih.cons_cons _

theorem canon_entryOK (d : Tag) (ts : List Tag) (hn : (d :: ts).Nodup) (e : List (Tag × Bytes)) (hd : (latest e d).isSome = true) :
    EntryOK d (d :: ts) (canon (d :: ts) e) := by
  cases hl : latest e d with
  | none => rw [hl] at hd; cases hd
  | some v0 =>
    refine ⟨v0, canon ts e, ?_, ?_⟩
    · unfold canon; rw [List.filterMap_cons, hl]; rfl
    · intro p hp
      obtain ⟨t, v⟩ := p
      have hm := ((canon_mem ts e t v).1 hp).1
      rw [List.nodup_cons] at hn
      exact ⟨fun e' => hn.1 (e' ▸ hm), List.mem_cons_of_mem _ hm⟩

end Qfx
