/-
  The link while the two engines resynchronise, one step lemma per event of a settling schedule.

  `EV` is what the resynchronisation has to know of one engine, as a value: state, expected number, next number, queue,
  connection.  `At cfgA cfgB l0 l va vb a2b b2a` says what both engines and both links ARE in `l`, and that `l` was reached
  from `l0` without a submission (`Live`: the invariant holds, the stores only grew by administrative messages, the submitted
  lists are those of `l0`).  A step lemma takes an `At` with the values it needs in the indices and returns the `At` of the next
  state, so a schedule is a chain of such steps and nothing is threaded by hand; the handler's exact result comes from LinkEff
  (`Res`).  A's steps are B's on the link seen from the other side (`At.swap`).  A fact about a store found on the way (a replay
  plan) is carried on by describing the state from itself (`At.anchor`) and using the growth recorded from there.

  No chunking (`cfg.chunk = 0`: one ResendRequest asks for everything up to infinity) is assumed throughout, and not as one
  hypothesis: it sits in the constants of `res_resendFix` (LinkEff: stash `[]`, chunk end `0`), of `RecvSt` / `stAt`
  (`.resend [] 0 fin`) and with them `res_recv`, in `IsRR` (EndSeqNo = infinity), `rrCur_chunk0`, `afterLogon`, and in the
  hypothesis `hch` of `At.logonB`.  `At.recvB` / `chain_B` rest on the receiver answering a replayed message with nothing
  (`Res … 0 [] …`): with a chunk outstanding it writes the next ResendRequest when the expected number passes the end of the
  chunk, so a run `Seg` is not worked off by deliveries to one side alone — a further step lemma and an interleaved schedule
  would be needed.  (The chunk bookkeeping as equations is in SessC04 — `resendFixMsgIn_eq`, `resendBook_out` — which the link
  cannot import: Spec/SessionTypedC04 and the link's Spec/SessionTypedC06 both declare `cbObs`.)
-/
import Qfx.Lemmas.LinkInv
import Qfx.Lemmas.LinkEff
namespace Qfx.Link
open Qfx Qfx.Sess

variable {cfgA cfgB : Cfg}

theorem ctxOK_B (hcf : CfgsOK cfgA cfgB) {l : LSt} (h : LInv cfgA cfgB l) (hb : l.a.store.sender ≤ maxSeq)
    (rcv : List (String × String)) (d : List String) : CtxOK (mkCtx l.b l.a rcv d) :=
  ctxOK_mk hcf h.ca h.cb h.ab.sok hb rcv d

theorem ctxOK_A {cfgA cfgB : Cfg} (hcf : CfgsOK cfgA cfgB) {l : LSt} (h : LInv cfgA cfgB l) (hb : l.b.store.sender ≤ maxSeq)
    (rcv : List (String × String)) (d : List String) : CtxOK (mkCtx l.a l.b rcv d) :=
  ctxOK_B hcf.symm (l := swapL l) (LInv_swap h) hb rcv d

/-- kinds that need no answer and no special treatment -/
def QuietK (k : String) : Prop := k ≠ "A" ∧ k ≠ "5" ∧ k ≠ "2" ∧ k ≠ "4" ∧ k ≠ "1"

/-- a run of messages written from store `st` that covers the numbers from `t` to `E` without holes: gap fills and
    messages that need no answer, each starting where the previous one ended -/
inductive Seg (st : Store) : Int → List OutMsg → Int → Prop
  | nil (t : Int) : Seg st t [] t
  | gap {t e E : Int} {lt : Option Int} {rest : List OutMsg} (hw : Wire st (gapFillL t e lt)) (h : Seg st e rest E) :
      Seg st t (gapFillL t e lt :: rest) E
  | msg {t E : Int} {m : OutMsg} {rest : List OutMsg} (hw : Wire st m) (hs : m.seq = t) (hk : QuietK m.kind)
      (h : Seg st (t + 1) rest E) : Seg st t (m :: rest) E

theorem Seg.le {st : Store} (hs : StoreOK st) {t E : Int} {l : List OutMsg} (h : Seg st t l E) : t ≤ E := by
  induction h with
  | nil t => exact Int.le_refl _
  | gap hw _ ih => have := (wire_gap hs hw).1; omega
  | msg _ _ _ _ ih => omega

/-- the receiver's state while a replay is worked off: in session, or in the resend state with nothing stashed and the
    whole gap requested at once -/
def RecvSt (st : SState) : Prop := st = .inSession ∨ ∃ fin, st = .resend [] 0 fin

/-- the state after the expected number has reached `t'` -/
def stAt (st : SState) (t' : Int) : SState :=
  match st with
  | .resend [] 0 fin => if fin ≥ t' then .resend [] 0 fin else .inSession
  | st => st

theorem recvSt_stAt {st : SState} (h : RecvSt st) (t' : Int) : RecvSt (stAt st t') := by
  rcases h with rfl | ⟨fin, rfl⟩
  · exact Or.inl rfl
  · simp only [stAt]; split
    · exact Or.inr ⟨fin, rfl⟩
    · exact Or.inl rfl

theorem stAt_stAt {st : SState} (h : RecvSt st) (t1 t2 : Int) (hle : t1 ≤ t2) : stAt (stAt st t1) t2 = stAt st t2 := by
  rcases h with rfl | ⟨fin, rfl⟩
  · rfl
  · simp only [stAt]
    by_cases h1 : fin ≥ t1
    · simp [h1]
    · have h2 : ¬ fin ≥ t2 := by omega
      simp [h1, h2]

theorem recvSt_loggedOn {st : SState} (h : RecvSt st) : st.loggedOn = true := by
  rcases h with rfl | ⟨fin, rfl⟩ <;> rfl

theorem recvSt_connected {st : SState} (h : RecvSt st) : st.connected = true := by
  rcases h with rfl | ⟨fin, rfl⟩ <;> rfl

theorem res_recv {s : Sess} {im : InMsg} {n : Int} {W q : List OutMsg} {t' : Int} (hst : RecvSt s.st)
    (h : Res s (inSessionFixMsgIn s im) n W q t' .inSession) (hg : getBool im 123 ≠ .garbled) :
    Res s (fixMsgInCore s im) n W q t' (stAt s.st t') := by
  rcases hst with h1 | ⟨fin, h1⟩
  · rw [fixMsgInCore_inSession s im (Or.inl h1), h1]; exact h
  · have : fixMsgInCore s im = resendFixMsgIn s [] 0 fin im := by unfold fixMsgInCore; rw [h1]
    rw [this, h1]
    exact res_resendFix fin h hg

theorem Seg.mono {adm : Bool} {st st' : Store} (hg : Grow adm st st') {t E : Int} {l : List OutMsg} (h : Seg st t l E) : Seg st' t l E := by
  induction h with
  | nil t => exact .nil t
  | gap hw _ ih => exact .gap (hw.mono hg) ih
  | msg hw hs hk _ ih => exact .msg (hw.mono hg) hs hk ih

theorem delivered_all_B {l : LSt} (h : LInv cfgA cfgB l) (ht : l.b.store.target = l.a.store.sender) : l.dlvB = l.sentA := by
  rw [h.ab.dlv, h.ab.sent, ht, below_all _ _ (fun p hp => (h.ab.sok.ent p hp).2.2.1)]

theorem delivered_all_A {l : LSt} (h : LInv cfgA cfgB l) (ht : l.a.store.target = l.b.store.sender) : l.dlvA = l.sentB :=
  delivered_all_B (LInv_swap h) ht

/-- the receiving state is stable at the current expected number: a resend state still has its gap ahead -/
def RecvAt (st : SState) (t : Int) : Prop := RecvSt st ∧ stAt st t = st

theorem quiet_of_app {k : String} (h : isAdminKind k = false) : QuietK k := by
  refine ⟨?_, ?_, ?_, ?_, ?_⟩ <;> (intro hk; rw [hk] at h; revert h; decide)

theorem seg_of_chain (st : Store) (lt : Option Int) {a c : Int} {reps : List Rep} (hc : Chain a reps c)
    (hw : ∀ r ∈ reps, Wire st (Rep.outR lt r)) (hm : ∀ n m, Rep.msg n m ∈ reps → (n, m) ∈ st.msgs ∧ m.seq = n ∧ isAdminKind m.kind = false) :
    Seg st a (reps.map (Rep.outR lt)) c := by
  induction hc with
  | nil a => exact .nil a
  | @cons a c r rest hlo hne h ih =>
    have ih' := ih (fun r' hr' => hw r' (List.mem_cons_of_mem _ hr')) (fun n m hr' => hm n m (List.mem_cons_of_mem _ hr'))
    cases r with
    | gap x y =>
      simp only [Rep.lo] at hlo
      subst hlo
      exact .gap (lt := lt) (hw _ List.mem_cons_self) ih'
    | msg n m =>
      simp only [Rep.lo] at hlo
      subst hlo
      obtain ⟨_, h1, h2⟩ := hm n m List.mem_cons_self
      exact .msg (hw _ List.mem_cons_self) (show (resent m).seq = n from h1) (quiet_of_app (show isAdminKind (resent m).kind = false from h2)) ih'

theorem seg_reply (st : Store) (hs : StoreOK st) (b e : Int) (hlo : -9223372036854775808 ≤ b) (hbe : b ≤ e) (he : e ≤ st.sender - 1)
    (lt : Option Int) (hall : st.HoldsAll b e) : Seg st b (replyPlanR lt true st b e) (e + 1) :=
  seg_of_chain st lt (C03_cover st b e hbe hall)
    (fun r hr => wire_reply st hs lt b e hlo he (Rep.outR lt r) (List.mem_map.2 ⟨r, hr, rfl⟩))
    (fun n m hr => reply_msg_facts st hs b e n m hr)

theorem clipEnd_infinity (cfg cfg' : Cfg) (hbs : cfg.bs = cfg'.bs) (sender : Int) : clipEnd cfg sender (infinityEnd cfg') = sender - 1 := by
  unfold clipEnd isInfinity infinityEnd
  rw [hbs]
  by_cases h : cfg'.bs < 2
  · have h2 : cfg'.bs ≤ 2 := by omega
    simp [h, h2]
  · have h2 : cfg'.bs ≥ 2 := by omega
    simp [h, h2]

/-- a ResendRequest for "everything from `t`" as an engine with configuration `cfg` (no chunking) composes it -/
def IsRR (cfg : Cfg) (t : Int) (m : OutMsg) : Prop :=
  m.kind = "2" ∧ m.f.get? 7 = some (toString t) ∧ m.f.get? 16 = some (toString (infinityEnd cfg))

theorem isRR_rrOut (cfg : Cfg) (hch : cfg.chunk = 0) (t e n : Int) : IsRR cfg t { rrOut cfg t e with seq := n } :=
  ⟨rfl, by simp [rrOut, mkOut, get?_cons], by simp [rrOut, rrEnd, mkOut, get?_cons, hch]⟩

theorem rrCur_chunk0 (cfg : Cfg) (hch : cfg.chunk = 0) (t e : Int) : rrCur cfg t e = 0 := by simp [rrCur, hch]

theorem res_rr_fix {c : Ctx} (hc : CtxOK c) {s : Sess} (hs : s.cfg = c.cfg) {m : OutMsg} (hw : Wire c.P m) (b : Int)
    (hrr : IsRR c.pcfg b m) (hb1 : 1 ≤ b) (hb2 : b ≤ maxSeq) (hst : RecvSt s.st) (ho : s.out = true) (hge : s.store.target ≤ m.seq) :
    ∃ W q, ((replyPlanR (replyLastOf s (toIn c.pcfg m)) true s.store b (s.store.sender - 1) = [] ∧ W = [] ∧ q = s.toSend) ∨
            (replyPlanR (replyLastOf s (toIn c.pcfg m)) true s.store b (s.store.sender - 1) ≠ [] ∧
              W = s.toSend ++ replyPlanR (replyLastOf s (toIn c.pcfg m)) true s.store b (s.store.sender - 1) ∧ q = [])) ∧
      Res s (fixMsgInCore s (toIn c.pcfg m)) 0 W q (if m.seq = s.store.target then s.store.target + 1 else s.store.target)
        (stAt s.st (if m.seq = s.store.target then s.store.target + 1 else s.store.target)) := by
  obtain ⟨hk2, h7, h16⟩ := hrr
  have hinf : inInt64 (infinityEnd c.pcfg) := by unfold infinityEnd inInt64; split <;> omega
  obtain ⟨W, q, hWq, hres⟩ := res_resendRequest hc hs hw hk2 b (infinityEnd c.pcfg) h7 h16 (in64_of_range b hb1 hb2) hinf
    (recvSt_loggedOn hst) ho hge
  rw [clipEnd_infinity s.cfg c.pcfg (by rw [hs]; exact hc.bs) s.store.sender] at hWq
  refine ⟨W, q, hWq, ?_⟩
  have hfx := inSession_resendRequest s _ ((toIn_kind c.pcfg m).trans hk2)
  have hg : getBool (toIn c.pcfg m) 123 ≠ .garbled := by
    rw [getBool_missing _ _ (by rw [toIn_get_body _ _ 123 (by decide)]; exact wire_no123 hc.pok hw (by rw [hk2]; decide))]; simp
  exact res_recv hst (by rw [hfx]; exact hres) hg

theorem seg_nil_eq {st : Store} {t E : Int} (h : Seg st t [] E) : t = E := by
  cases h; rfl

/-- both engines persist (`CfgsOK`), so the stores stay complete -/
theorem LFull_step (hcf : CfgsOK cfgA cfgB) {l : LSt} (h : LInv cfgA cfgB l) (hf : LFull l) (e : LEv) : LFull (lstep l e).1 :=
  LFull_lstep (by rw [h.ca]; exact hcf.pa) (by rw [h.cb]; exact hcf.pb) hf e

/-- state, expected inbound number, next outbound number, send queue, connection -/
structure EV where
  st : SState
  t : Int
  n : Int
  q : List OutMsg
  o : Bool

def EV.of (s : Sess) : EV := ⟨s.st, s.store.target, s.store.sender, s.toSend, s.out⟩

/-- `l` is reached from `l0` without a submission -/
structure Live (cfgA cfgB : Cfg) (l0 l : LSt) : Prop where
  inv : LInv cfgA cfgB l
  /-- an implication, because `settle_nogap` and `deliverA_gen` start from states not known to hold every used number; the
      steps that need it (a replay plan without holes: `At.rrB`) take `LFull l0` -/
  full : LFull l0 → LFull l
  ga : Grow true l0.a.store l.a.store
  gb : Grow true l0.b.store l.b.store
  sa : l.sentA = l0.sentA
  sb : l.sentB = l0.sentB

/-- what both engines (`va`, `vb`) and both links are in `l`, reached from `l0` without a submission -/
structure At (cfgA cfgB : Cfg) (l0 l : LSt) (va vb : EV) (a2b b2a : List OutMsg) : Prop where
  live : Live cfgA cfgB l0 l
  a : EV.of l.a = va
  b : EV.of l.b = vb
  a2b : l.a2b = a2b
  b2a : l.b2a = b2a

section view
variable {l0 l : LSt} {va vb : EV} {a2b b2a : List OutMsg}

theorem At.init (h : LInv cfgA cfgB l) : At cfgA cfgB l l (.of l.a) (.of l.b) l.a2b l.b2a :=
  ⟨⟨h, id, Grow.refl _ _, Grow.refl _ _, rfl, rfl⟩, rfl, rfl, rfl, rfl⟩

theorem At.anchor (h : At cfgA cfgB l0 l va vb a2b b2a) : At cfgA cfgB l l va vb a2b b2a :=
  ⟨⟨h.live.inv, id, Grow.refl _ _, Grow.refl _ _, rfl, rfl⟩, h.a, h.b, h.a2b, h.b2a⟩

theorem At.swap (h : At cfgA cfgB l0 l va vb a2b b2a) : At cfgB cfgA (swapL l0) (swapL l) vb va b2a a2b :=
  ⟨⟨LInv_swap h.live.inv, fun hf => LFull_swap (h.live.full (LFull_swap hf)), h.live.gb, h.live.ga, h.live.sb, h.live.sa⟩, h.b, h.a, h.b2a, h.a2b⟩

theorem At.bnd (h : At cfgA cfgB l0 l va vb a2b b2a) (ha : va.n ≤ maxSeq) (hb : vb.n ≤ maxSeq) : Bnd l :=
  ⟨by rw [← h.a] at ha; exact ha, by rw [← h.b] at hb; exact hb⟩

theorem At.after {l1 : LSt} (h : At cfgA cfgB l1 l va vb a2b b2a) (h0 : Live cfgA cfgB l0 l1) : At cfgA cfgB l0 l va vb a2b b2a :=
  ⟨⟨h.live.inv, fun hf => h.live.full (h0.full hf), h0.ga.trans h.live.ga, h0.gb.trans h.live.gb, h.live.sa.trans h0.sa, h.live.sb.trans h0.sb⟩, h.a, h.b, h.a2b, h.b2a⟩

theorem deliverB_fields (l : LSt) (m : OutMsg) (rest : List OutMsg) (hq : l.a2b = m :: rest) :
    (lstep l (.deliver .B)).1.a = l.a ∧ (lstep l (.deliver .B)).1.a2b = rest ∧
    (lstep l (.deliver .B)).1.b = (step l.b (.incomingMsg (some (toIn l.a.cfg m)))).1 ∧
    (lstep l (.deliver .B)).1.b2a = l.b2a ++ wiresOf (step l.b (.incomingMsg (some (toIn l.a.cfg m)))).2.1 ∧
    (lstep l (.deliver .B)).1.sentA = l.sentA ∧ (lstep l (.deliver .B)).1.sentB = l.sentB := by
  rw [lstep_deliverB_cons hq]; exact ⟨rfl, rfl, rfl, rfl, rfl, rfl⟩

/-- the oldest message in flight reaches B, the handler's result being known -/
theorem At.deliverB (hcf : CfgsOK cfgA cfgB) {m : OutMsg} {rest : List OutMsg} (h : At cfgA cfgB l0 l va vb (m :: rest) b2a)
    (hcon : vb.st.connected = true) (hna : va.n ≤ maxSeq) (hnb : vb.n ≤ maxSeq) {n : Int} {W q : List OutMsg} {t' : Int} {nx : SState}
    (hres : Res l.b.clearLog (fixMsgInCore l.b.clearLog (toIn l.a.cfg m)) n W q t' nx) (hnx : nx.connected = true)
    (hb1 : vb.n + n ≤ maxSeq) :
    At cfgA cfgB l0 (lstep l (.deliver .B)).1 va ⟨nx, t', vb.n + n, q, vb.o⟩ rest (b2a ++ W) ∧ (lstep l (.deliver .B)).1.a = l.a := by
  have eb := h.b
  subst eb
  obtain ⟨f1, f2, f3, f4, f5, f6⟩ := deliverB_fields l m rest h.a2b
  have hs := stepIs_incoming l.b (toIn l.a.cfg m) hcon hres hnx
  have hb := h.bnd hna hnb
  refine ⟨⟨⟨LInv_lstep hcf h.live.inv _ trivial hb ⟨by rw [f1]; exact hb.1, by rw [f3, hs.snd]; exact hb1⟩,
    fun hf => LFull_step hcf h.live.inv (h.live.full hf) _, by rw [f1]; exact h.live.ga, by rw [f3]; exact h.live.gb.trans hs.grow,
    f5.trans h.live.sa, f6.trans h.live.sb⟩, by rw [f1]; exact h.a, ?_, f2, by rw [f4, hs.w, h.b2a]⟩, f1⟩
  rw [f3]
  simp only [EV.of, hs.st, hs.tgt, hs.snd, hs.q, hs.out]

/-- B, in session or waiting for a gap, gets a message its handler answers with nothing, moving the expected number to `t'` -/
theorem At.recvB (hcf : CfgsOK cfgA cfgB) {m : OutMsg} {rest : List OutMsg} {sb : SState} {tb nb : Int} {qb : List OutMsg} {ob : Bool}
    (h : At cfgA cfgB l0 l va ⟨sb, tb, nb, qb, ob⟩ (m :: rest) b2a) (hst : RecvSt sb) (hna : va.n ≤ maxSeq) (hnb : nb ≤ maxSeq) {t' : Int}
    (hres : Res l.b.clearLog (inSessionFixMsgIn l.b.clearLog (toIn l.a.cfg m)) 0 [] l.b.clearLog.toSend t' .inSession)
    (hg : getBool (toIn l.a.cfg m) 123 ≠ .garbled) :
    At cfgA cfgB l0 (lstep l (.deliver .B)).1 va ⟨stAt sb t', t', nb, qb, ob⟩ rest b2a ∧ (lstep l (.deliver .B)).1.a = l.a := by
  have eb := EV.mk.inj h.b
  have hst' : RecvSt l.b.clearLog.st := eb.1 ▸ hst
  obtain ⟨d, da⟩ := h.deliverB hcf (recvSt_connected hst) hna hnb (res_recv hst' hres hg) (recvSt_connected (recvSt_stAt hst' t'))
    (by rw [Int.add_zero]; exact hnb)
  rw [show l.b.clearLog.st = sb from eb.1, show l.b.clearLog.toSend = qb from eb.2.2.2.1, Int.add_zero, List.append_nil] at d
  exact ⟨d, da⟩

/-- B works off a run without holes that starts at its expected number -/
theorem chain_B (hcf : CfgsOK cfgA cfgB) {st : Store} {t E : Int} {chain : List OutMsg} (hseg : Seg st t chain E)
    {sb : SState} {nb : Int} {qb : List OutMsg} {ob : Bool} (l : LSt) (rest : List OutMsg)
    (h : At cfgA cfgB l0 l va ⟨sb, t, nb, qb, ob⟩ (chain ++ rest) b2a) (hst : RecvSt sb) (hna : va.n ≤ maxSeq) (hnb : nb ≤ maxSeq)
    (hs : l.a.store = st) (hfix : stAt sb t = sb) :
    At cfgA cfgB l0 (runL l (List.replicate chain.length (.deliver .B))) va ⟨stAt sb E, E, nb, qb, ob⟩ rest b2a ∧
      (runL l (List.replicate chain.length (.deliver .B))).a = l.a := by
  induction hseg generalizing sb l with
  | nil t => exact ⟨hfix.symm ▸ h, rfl⟩
  | @gap t e E lt rest' hw hrest ih =>
    subst hs
    have hctx := ctxOK_B hcf h.live.inv (h.bnd hna hnb).1 (noteRcv l.rcvB (toIn l.a.cfg (gapFillL t e lt))) l.dlvB
    obtain ⟨d, da⟩ := h.recvB hcf hst hna hnb (res_gapFill hctx (s := l.b.clearLog) rfl t e lt hw (congrArg EV.t h.b).symm)
      (by rw [getBool_Y _ _ (by rw [toIn_get_body _ _ 123 (by decide)]; rfl)]; simp)
    obtain ⟨k, ka⟩ := ih _ d (recvSt_stAt hst e) (by rw [da]) (stAt_stAt hst e e (Int.le_refl _))
    rw [stAt_stAt hst e E (hrest.le h.live.inv.ab.sok)] at k
    exact ⟨k, ka.trans da⟩
  | @msg t E m rest' hw hs' hk hrest ih =>
    subst hs
    have ht : l.b.clearLog.store.target = t := congrArg EV.t h.b
    have hctx := ctxOK_B hcf h.live.inv (h.bnd hna hnb).1 (noteRcv l.rcvB (toIn l.a.cfg m)) l.dlvB
    have hr := res_plain hctx (s := l.b.clearLog) rfl hw hk (hs'.trans ht.symm)
    rw [ht] at hr
    obtain ⟨d, da⟩ := h.recvB hcf hst hna hnb hr (by
      rw [getBool_missing _ _ (by rw [toIn_get_body _ _ 123 (by decide)]; exact wire_no123 h.live.inv.ab.sok hw hk.2.2.2.1)]; simp)
    obtain ⟨k, ka⟩ := ih _ d (recvSt_stAt hst (t + 1)) (by rw [da]) (stAt_stAt hst (t + 1) (t + 1) (Int.le_refl _))
    rw [stAt_stAt hst (t + 1) E (hrest.le h.live.inv.ab.sok)] at k
    exact ⟨k, ka.trans da⟩

theorem chain_A (hcf : CfgsOK cfgA cfgB) {st : Store} {t E : Int} {chain : List OutMsg} (hseg : Seg st t chain E)
    {sa : SState} {na : Int} {qa : List OutMsg} {oa : Bool} (l : LSt) (rest : List OutMsg)
    (h : At cfgA cfgB l0 l ⟨sa, t, na, qa, oa⟩ vb a2b (chain ++ rest)) (hst : RecvSt sa) (hna : na ≤ maxSeq) (hnb : vb.n ≤ maxSeq)
    (hs : l.b.store = st) (hfix : stAt sa t = sa) :
    At cfgA cfgB l0 (runL l (List.replicate chain.length (.deliver .A))) ⟨stAt sa E, E, na, qa, oa⟩ vb a2b rest := by
  have k := (chain_B hcf.symm hseg (swapL l) rest h.swap hst hnb hna hs hfix).1
  rw [show runL (swapL l) (List.replicate chain.length (.deliver .B)) = swapL (runL l (List.replicate chain.length (.deliver .A)))
    from runL_swap_replicate (.deliver .A) chain.length l] at k
  exact k.swap

/-- B's run loop writes what is queued -/
theorem At.flushB (hcf : CfgsOK cfgA cfgB) (h : At cfgA cfgB l0 l va vb a2b b2a) (ho : vb.o = true) (hlo : vb.st.loggedOn = true)
    (hna : va.n ≤ maxSeq) (hnb : vb.n ≤ maxSeq) : At cfgA cfgB l0 (lstep l (.flush .B)).1 va { vb with q := [] } a2b (b2a ++ vb.q) := by
  have eb := h.b
  subst eb
  have hs := stepIs_flush l.b hlo ho
  have hb := h.bnd hna hnb
  refine ⟨⟨LInv_lstep hcf h.live.inv (.flush .B) trivial hb ⟨hb.1, by show (step l.b .flush).1.store.sender ≤ _; rw [hs.snd, Int.add_zero]; exact hb.2⟩,
    fun hf => LFull_step hcf h.live.inv (h.live.full hf) _, h.live.ga, h.live.gb.trans hs.grow, h.live.sa, h.live.sb⟩, h.a, ?_, h.a2b, ?_⟩
  · show EV.of (step l.b .flush).1 = _
    simp only [EV.of, hs.st, hs.tgt, hs.snd, hs.q, hs.out, Int.add_zero, show l.b.out = true from ho]
  · show l.b2a ++ wiresOf (step l.b .flush).2.1 = _
    rw [hs.w, h.b2a]; rfl

theorem At.flushA (hcf : CfgsOK cfgA cfgB) (h : At cfgA cfgB l0 l va vb a2b b2a) (ho : va.o = true) (hlo : va.st.loggedOn = true)
    (hna : va.n ≤ maxSeq) (hnb : vb.n ≤ maxSeq) : At cfgA cfgB l0 (lstep l (.flush .A)).1 { va with q := [] } vb (a2b ++ va.q) b2a := by
  have k := (h.swap.flushB hcf.symm ho hlo hnb hna).swap
  rwa [show (lstep (swapL l) (.flush .B)).1 = swapL (lstep l (.flush .A)).1 from lstep_swap l (.flush .A)] at k

/-- `connect`, both engines down: A, the initiator, writes its Logon; B, the acceptor, waits for it -/
theorem At.connect (hcf : CfgsOK cfgA cfgB) (hia : cfgA.initiator = true) (hib : cfgB.initiator = false)
    {ta na tb nb : Int} {qa qb : List OutMsg} {oa ob : Bool}
    (h : At cfgA cfgB l0 l ⟨.latent, ta, na, qa, oa⟩ ⟨.latent, tb, nb, qb, ob⟩ a2b b2a) (hna : na + 1 ≤ maxSeq) (hnb : nb ≤ maxSeq) :
    ∃ mL, IsLogon cfgA mL ∧ mL.seq = na ∧
      At cfgA cfgB l0 (lstep l .connect).1 ⟨.logon, ta, na + 1, [], true⟩ ⟨.logon, tb, nb, qb, true⟩ (a2b ++ [mL]) b2a := by
  have ea := EV.mk.inj h.a
  have eb := EV.mk.inj h.b
  have i := h.live.inv
  have sb := stepIs_connect_acceptor eb.1 (by rw [i.cb]; exact hib)
  obtain ⟨mL, h1, h2, sa⟩ := stepIs_connect_initiator ea.1 (by rw [i.ca]; exact hia) (by rw [i.ca]; exact hcf.na) (by rw [i.ca]; exact hcf.pa)
  have hb : Bnd l := h.bnd (Int.le_trans (Int.le_add_of_nonneg_right (by decide)) hna) hnb
  have hb1 : Bnd (lstep l .connect).1 :=
    ⟨by show (step l.a .connect).1.store.sender ≤ _; rw [sa.snd, ea.2.2.1]; exact hna,
     by show (step l.b .connect).1.store.sender ≤ _; rw [sb.snd, Int.add_zero]; exact hb.2⟩
  refine ⟨mL, by rw [← i.ca]; exact h1, h2.trans ea.2.2.1, ⟨LInv_lstep hcf i .connect trivial hb hb1, fun hf => LFull_step hcf i (h.live.full hf) _,
    h.live.ga.trans sa.grow, h.live.gb.trans sb.grow, h.live.sa, h.live.sb⟩, ?_, ?_, ?_, ?_⟩
  · show EV.of (step l.a .connect).1 = _
    simp only [EV.of, sa.st, sa.tgt, sa.snd, sa.q, sa.out, ea.2.1, ea.2.2.1]
  · show EV.of (step l.b .connect).1 = _
    simp only [EV.of, sb.st, sb.tgt, sb.snd, sb.q, sb.out, eb.2.1, eb.2.2.1, eb.2.2.2.1, Int.add_zero]
  · show l.a2b ++ wiresOf (step l.a .connect).2.1 = _
    rw [sa.w, h.a2b]
  · show l.b2a ++ wiresOf (step l.b .connect).2.1 = _
    rw [sb.w, h.b2a]; exact List.append_nil _

/-- B, receiving, gets A's request for everything from `b` on: it writes what it had queued and the replay, a run without holes
    from `b` to its next number -/
theorem At.rrB (hcf : CfgsOK cfgA cfgB) {sb : SState} {tb nb : Int} {qb : List OutMsg} {m : OutMsg} {rest : List OutMsg}
    (h : At cfgA cfgB l0 l va ⟨sb, tb, nb, qb, true⟩ (m :: rest) b2a) (b : Int) (hrr : IsRR cfgA b m) (hb1 : 1 ≤ b) (hblt : b ≤ nb - 1)
    (hst : RecvSt sb) (hge : tb ≤ m.seq) (hna : va.n ≤ maxSeq) (hnb : nb ≤ maxSeq) (hf : LFull l0) :
    ∃ plan, Seg (lstep l (.deliver .B)).1.b.store b plan nb ∧
      At cfgA cfgB l0 (lstep l (.deliver .B)).1 va
        ⟨stAt sb (if m.seq = tb then tb + 1 else tb), if m.seq = tb then tb + 1 else tb, nb, [], true⟩ rest (b2a ++ (qb ++ plan)) := by
  obtain ⟨e1, e2, e3, e4, e5⟩ := EV.mk.inj h.b
  have i := h.live.inv
  have hw : Wire l.a.store m := i.ab.fl m (by rw [h.a2b]; exact List.mem_cons_self)
  have hctx := ctxOK_B hcf i (h.bnd hna hnb).1 (noteRcv l.rcvB (toIn l.a.cfg m)) l.dlvB
  have hst' : RecvSt l.b.clearLog.st := e1 ▸ hst
  obtain ⟨W, q, hWq, hres⟩ := res_rr_fix hctx (s := l.b.clearLog) rfl hw b (show IsRR l.a.cfg b m by rw [i.ca]; exact hrr) hb1
    (Int.le_trans hblt (Int.le_trans (Int.sub_le_self _ (by decide)) hnb)) hst' e5 (by rw [show l.b.clearLog.store.target = tb from e2]; exact hge)
  -- `StoredAllInv p st` is under `p = true` (persistence): B's store holds every number from 1 to its next number
  obtain ⟨_, _, _, _, hall⟩ := (h.live.full hf).2 rfl
  generalize replyLastOf l.b.clearLog (toIn (mkCtx l.b l.a (noteRcv l.rcvB (toIn l.a.cfg m)) l.dlvB).pcfg m) = lt at hWq
  have hseg := seg_reply l.b.store i.ba.sok b (l.b.store.sender - 1) (by omega) (by rw [e3]; exact hblt) (Int.le_refl _) lt
    (fun n h1 h2 => hall n (by omega) h2)
  obtain ⟨hW, hq⟩ : W = qb ++ replyPlanR lt true l.b.store b (l.b.store.sender - 1) ∧ q = [] := by
    rcases hWq with ⟨he, _⟩ | ⟨_, h1, h2⟩
    · exact absurd (seg_nil_eq (he ▸ hseg)) (by omega)
    · exact ⟨by rw [← e4]; exact h1, h2⟩
  obtain ⟨d, _⟩ := h.anchor.deliverB hcf (recvSt_connected hst) hna hnb hres (recvSt_connected (recvSt_stAt hst' _)) (by rw [Int.add_zero]; exact hnb)
  rw [show l.b.clearLog.st = sb from e1, show l.b.clearLog.store.target = tb from e2, Int.add_zero, hW, hq] at d
  refine ⟨_, ?_, d.after h.live⟩
  have := hseg.mono d.live.gb
  rwa [show l.b.store.sender - 1 + 1 = nb by omega] at this

theorem At.rrA (hcf : CfgsOK cfgA cfgB) {sa : SState} {ta na : Int} {qa : List OutMsg} {m : OutMsg} {rest : List OutMsg}
    (h : At cfgA cfgB l0 l ⟨sa, ta, na, qa, true⟩ vb a2b (m :: rest)) (b : Int) (hrr : IsRR cfgB b m) (hb1 : 1 ≤ b) (hblt : b ≤ na - 1)
    (hst : RecvSt sa) (hge : ta ≤ m.seq) (hna : na ≤ maxSeq) (hnb : vb.n ≤ maxSeq) (hf : LFull l0) :
    ∃ plan, Seg (lstep l (.deliver .A)).1.a.store b plan na ∧
      At cfgA cfgB l0 (lstep l (.deliver .A)).1
        ⟨stAt sa (if m.seq = ta then ta + 1 else ta), if m.seq = ta then ta + 1 else ta, na, [], true⟩ vb (a2b ++ (qa ++ plan)) rest := by
  obtain ⟨plan, sg, k⟩ := h.swap.rrB hcf.symm b hrr hb1 hblt hst hge hnb hna (LFull_swap hf)
  rw [show (lstep (swapL l) (.deliver .B)).1 = swapL (lstep l (.deliver .A)).1 from lstep_swap l (.deliver .A)] at sg k
  exact ⟨plan, sg, k.swap⟩

/-- an engine that expected `t` and got a Logon numbered `sq ≥ t`: in session, or waiting for the gap with its ResendRequest
    `rr` queued behind `q0`; `n` is its next number after its own Logon, if it wrote one -/
def afterLogon (t n sq : Int) (q0 : List OutMsg) (rr : OutMsg) : EV :=
  if sq = t then ⟨.inSession, t + 1, n, q0, true⟩ else ⟨.resend [] 0 (sq - 1), t, n + 1, q0 ++ [rr], true⟩

theorem afterLogon_facts (t n sq : Int) (q0 : List OutMsg) (rr : OutMsg) :
    (afterLogon t n sq q0 rr).o = true ∧ (afterLogon t n sq q0 rr).st.loggedOn = true ∧ (afterLogon t n sq q0 rr).n ≤ n + 1 := by
  unfold afterLogon
  split
  · exact ⟨rfl, rfl, Int.le_add_of_nonneg_right (by decide)⟩
  · exact ⟨rfl, rfl, Int.le_refl _⟩

/-- B, waiting for it, gets a Logon numbered at or above its expected number.  An acceptor answers with its own Logon `mL`
    (dropping its queue), an initiator with nothing; either asks for the gap, if there is one -/
theorem At.logonB (hcf : CfgsOK cfgA cfgB) (hch : cfgB.chunk = 0) (hv : cfgB.bs = 5 → cfgA.applVer ≠ "")
    {tb nb : Int} {qb : List OutMsg} {m : OutMsg} {rest : List OutMsg}
    (h : At cfgA cfgB l0 l va ⟨.logon, tb, nb, qb, true⟩ (m :: rest) b2a) (hlog : IsLogon cfgA m) (hge : tb ≤ m.seq)
    (hna : va.n ≤ maxSeq) (hnb : nb + 2 ≤ maxSeq) :
    ∃ mL rr, (cfgB.initiator = false → IsLogon cfgB mL ∧ mL.seq = nb) ∧
      (tb < m.seq → IsRR cfgB tb rr ∧ rr.seq = nb + if cfgB.initiator = true then 0 else 1) ∧
      At cfgA cfgB l0 (lstep l (.deliver .B)).1 va
        (afterLogon tb (nb + if cfgB.initiator = true then 0 else 1) m.seq (if cfgB.initiator = true then qb else []) rr) rest
        (b2a ++ if cfgB.initiator = true then [] else [mL]) := by
  obtain ⟨e1, e2, e3, e4, e5⟩ := EV.mk.inj h.b
  have i := h.live.inv
  have hw : Wire l.a.store m := i.ab.fl m (by rw [h.a2b]; exact List.mem_cons_self)
  have hnb0 : nb ≤ maxSeq := Int.le_trans (Int.le_add_of_nonneg_right (by decide)) hnb
  have hctx := ctxOK_B hcf i (h.bnd hna hnb0).1 (noteRcv l.rcvB (toIn l.a.cfg m)) l.dlvB
  obtain ⟨n0, W, q0, hrole, hres1, hres2⟩ := res_logonFix hctx (s := l.b.clearLog) rfl hw
    (show IsLogon l.a.cfg m by rw [i.ca]; exact hlog) (show l.b.cfg.bs = 5 → l.a.cfg.applVer ≠ "" by rw [i.ca, i.cb]; exact hv)
    e5 e1 (by rw [show l.b.clearLog.store.target = tb from e2]; exact hge)
  unfold LogonRole at hrole
  rw [show l.b.clearLog.cfg = cfgB from i.cb, show l.b.clearLog.store.sender = nb from e3, show l.b.clearLog.toSend = qb from e4] at hrole
  obtain ⟨mL, hmL, rfl, rfl, rfl⟩ := hrole
  have hn0 : (if cfgB.initiator = true then (0 : Int) else 1) ≤ 1 := by split <;> decide
  by_cases heq : m.seq = tb
  · obtain ⟨d, _⟩ := h.deliverB hcf rfl hna hnb0 (hres1 (heq.trans e2.symm)) rfl (Int.le_trans (Int.add_le_add_left (Int.le_trans hn0 (by decide)) nb) hnb)
    rw [show l.b.clearLog.store.target = tb from e2] at d
    exact ⟨mL, m, hmL, fun hlt => absurd heq (Int.ne_of_gt hlt), by rw [afterLogon, if_pos heq]; exact d⟩
  · have hlt : tb < m.seq := Int.lt_iff_le_and_ne.2 ⟨hge, fun e => heq e.symm⟩
    obtain ⟨d, _⟩ := h.deliverB hcf rfl hna hnb0 (hres2 (by rw [show l.b.clearLog.store.target = tb from e2]; exact hlt)) rfl
      (by rw [← Int.add_assoc]; exact Int.le_trans (Int.add_le_add_right (Int.add_le_add_left hn0 nb) 1) (by rw [Int.add_assoc]; exact hnb))
    rw [show rrCur l.b.clearLog.cfg l.b.clearLog.store.target (m.seq - 1) = 0 from rrCur_chunk0 _ (by rw [← hch, ← i.cb]; rfl) _ _,
      show l.b.clearLog.store.target = tb from e2, show l.b.clearLog.store.sender = nb from e3, ← Int.add_assoc] at d
    obtain ⟨a1, a2, a3⟩ := isRR_rrOut l.b.cfg (by rw [i.cb]; exact hch) tb (m.seq - 1) (nb + if cfgB.initiator = true then 0 else 1)
    refine ⟨mL, _, hmL, ?_, by rw [afterLogon, if_neg heq]; exact d⟩
    exact fun _ => ⟨⟨a1, a2, by rw [← i.cb]; exact a3⟩, rfl⟩

theorem At.logonA (hcf : CfgsOK cfgA cfgB) (hch : cfgA.chunk = 0) (hv : cfgA.bs = 5 → cfgB.applVer ≠ "")
    {ta na : Int} {qa : List OutMsg} {m : OutMsg} {rest : List OutMsg}
    (h : At cfgA cfgB l0 l ⟨.logon, ta, na, qa, true⟩ vb a2b (m :: rest)) (hlog : IsLogon cfgB m) (hge : ta ≤ m.seq)
    (hna : na + 2 ≤ maxSeq) (hnb : vb.n ≤ maxSeq) :
    ∃ mL rr, (cfgA.initiator = false → IsLogon cfgA mL ∧ mL.seq = na) ∧
      (ta < m.seq → IsRR cfgA ta rr ∧ rr.seq = na + if cfgA.initiator = true then 0 else 1) ∧
      At cfgA cfgB l0 (lstep l (.deliver .A)).1
        (afterLogon ta (na + if cfgA.initiator = true then 0 else 1) m.seq (if cfgA.initiator = true then qa else []) rr) vb
        (a2b ++ if cfgA.initiator = true then [] else [mL]) rest := by
  obtain ⟨mL, rr, h1, h2, k⟩ := h.swap.logonB hcf.symm hch hv hlog hge hnb hna
  rw [show (lstep (swapL l) (.deliver .B)).1 = swapL (lstep l (.deliver .A)).1 from lstep_swap l (.deliver .A)] at k
  exact ⟨mL, rr, h1, h2, k.swap⟩

end view

theorem deliverA_gen {cfgA cfgB : Cfg} (hcf : CfgsOK cfgA cfgB) {l : LSt} (h : LInv cfgA cfgB l) {m : OutMsg} {rest : List OutMsg}
    (hq : l.b2a = m :: rest) (hcon : l.a.st.connected = true) (hb : Bnd l) {n : Int} {W q : List OutMsg} {t' : Int} {nx : SState}
    (hres : Res l.a.clearLog (fixMsgInCore l.a.clearLog (toIn l.b.cfg m)) n W q t' nx) (hnx : nx.connected = true)
    (hb1 : l.a.store.sender + n ≤ maxSeq) :
    let l' := (lstep l (.deliver .A)).1
    LInv cfgA cfgB l' ∧ l'.b = l.b ∧ l'.b2a = rest ∧ l'.a2b = l.a2b ++ W ∧ l'.a.st = nx ∧ l'.a.store.target = t' ∧
      l'.a.store.sender = l.a.store.sender + n ∧ l'.a.toSend = q ∧ l'.a.out = l.a.out ∧ l'.sentA = l.sentA ∧ l'.sentB = l.sentB ∧
      Grow true l.a.store l'.a.store := by
  dsimp only
  have h0 := At.init (LInv_swap h)
  rw [show (swapL l).a2b = m :: rest from hq] at h0
  obtain ⟨k, kb⟩ := h0.deliverB hcf.symm hcon hb.2 hb.1 hres hnx hb1
  rw [show (lstep (swapL l) (.deliver .B)).1 = swapL (lstep l (.deliver .A)).1 from lstep_swap l (.deliver .A)] at k kb
  exact ⟨LInv_swap k.live.inv, kb, k.a2b, k.b2a, congrArg EV.st k.b, congrArg EV.t k.b, congrArg EV.n k.b, congrArg EV.q k.b,
    congrArg EV.o k.b, k.live.sb, k.live.sa, k.live.gb⟩

/-- liveness without a gap (C05_liveness_nogap) -/
theorem settle_nogap (hcf : CfgsOK cfgA cfgB) (l : LSt) (h : LInv cfgA cfgB l) (hb : Bnd l)
    (hsa : RecvAt l.a.st l.a.store.target) (hsb : RecvAt l.b.st l.b.store.target)
    (hab : Seg l.a.store l.b.store.target l.a2b l.a.store.sender) (hba : Seg l.b.store l.a.store.target l.b2a l.b.store.sender) :
    let l' := runL l (List.replicate l.a2b.length (.deliver .B) ++ List.replicate l.b2a.length (.deliver .A))
    l'.dlvB = l'.sentA ∧ l'.dlvA = l'.sentB ∧ l'.a2b = [] ∧ l'.b2a = [] ∧ LInv cfgA cfgB l' := by
  intro l'
  have h0 := At.init h
  rw [← List.append_nil l.a2b] at h0
  obtain ⟨j, _⟩ := chain_B hcf hab l [] h0 hsb.1 hb.1 hb.2 rfl hsb.2
  rw [← List.append_nil l.b2a] at j
  have k := chain_A hcf (hba.mono j.live.gb) _ [] j hsa.1 hb.1 hb.2 rfl hsa.2
  rw [← runL_append] at k
  exact ⟨delivered_all_B k.live.inv ((congrArg EV.t k.b).trans (congrArg EV.n k.a).symm),
    delivered_all_A k.live.inv ((congrArg EV.t k.a).trans (congrArg EV.n k.b).symm), k.a2b, k.b2a, k.live.inv⟩

end Qfx.Link
