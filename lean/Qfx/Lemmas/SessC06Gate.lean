/-
  C06, whole histories: the pool instance of the history theorem of Lemmas/SessPool.lean (`run_good`) with the gate monitor
  `gateObs` (Spec/SessionTypedC06.lean), the trivial store relation and the pool of the history's inbound messages; and the Logon
  site: a logon notification means every verdict of `handleLogon` on the way to its tail was favourable (`gate_logon`).  Then the
  SendingTime clause of the gate over whole histories: the history theorem itself (`run_within`) for the class `ColdSt` of states
  and the pool `Late`.
-/
import Qfx.Lemmas.SessPool
namespace Qfx.Sess
open Qfx

instance gatePolicy (cfg : Cfg) (P : InMsg → Prop) : Policy (gateObs cfg P) (fun _ _ => True) where
  sRefl := fun _ => trivial
  sTrans := fun _ _ => trivial
  nWire := fun _ => trivial
  nSaved := fun _ _ _ => trivial
  nIncS := trivial
  nIncT := trivial
  nSetT := fun _ => trivial
  nArm := fun _ => trivial
  nClosed := trivial
  nOnLogout := trivial
  nRefresh := trivial
  sPersist := fun _ _ _ => trivial
  sIncS := fun _ => trivial
  sTarget := fun _ _ _ => trivial

theorem gate_resetOK (cfg : Cfg) (P : InMsg → Prop) : ResetOK (gateObs cfg P) (fun _ _ => True) := ⟨trivial, fun _ => trivial⟩

theorem gate_msgHyp (cfg : Cfg) (P : InMsg → Prop) (m : InMsg) (hm : P m) : MsgHyp (gateObs cfg P) (fun _ _ => True) P cfg m where
  p := hm
  cb := by
    intro hg s'
    unfold cbObs
    split
    · exact ⟨m, hm, rfl, rfl, hg.valid, fun _ => hg⟩
    · rename_i hk
      exact ⟨m, hm, rfl, by simpa using hk, hg⟩
  cbA := by
    intro hk hne s'
    unfold cbObs
    have : isAdminKind (kindOf m) = true := by rw [hk]; decide
    simp only [this, if_true]
    exact ⟨m, hm, rfl, rfl, hne, fun h => absurd hk h⟩
  onLogon := fun hk hg hv => ⟨m, hm, hk, hg, hv⟩
  ro := Or.inl (gate_resetOK cfg P)

theorem mem_msgsOf (evs : List Ev) (m : InMsg) (h : Ev.incomingMsg (some m) ∈ evs ∨ Ev.arrive m ∈ evs) : m ∈ msgsOf evs := by
  induction evs with
  | nil => rcases h with h | h <;> cases h
  | cons e es ih =>
    have tail : (Ev.incomingMsg (some m) ∈ es ∨ Ev.arrive m ∈ es) → m ∈ msgsOf (e :: es) := fun h' => by
      have := ih h'
      cases e with
      | incomingMsg o => cases o <;> simp [msgsOf, this]
      | arrive m' => simp [msgsOf, this]
      | _ => simpa [msgsOf] using this
    rcases h with h | h <;> rcases List.mem_cons.1 h with rfl | h
    · simp [msgsOf]
    · exact tail (Or.inl h)
    · simp [msgsOf]
    · exact tail (Or.inr h)

theorem mem_msgsOf_incoming (evs : List Ev) (m : InMsg) (h : Ev.incomingMsg (some m) ∈ evs) : m ∈ msgsOf evs :=
  mem_msgsOf evs m (Or.inl h)

theorem mem_msgsOf_arrive (evs : List Ev) (m : InMsg) (h : Ev.arrive m ∈ evs) : m ∈ msgsOf evs :=
  mem_msgsOf evs m (Or.inr h)

theorem evOK_of_mem {N : Obs → Prop} {S : Store → Store → Prop} {P : InMsg → Prop} (cfg : Cfg) (evs : List Ev) (hro : ResetOK N S)
    (h : ∀ m ∈ msgsOf evs, P m) : ∀ e ∈ evs, EvOK N S P cfg e := by
  intro e he
  cases e with
  | incomingMsg o => intro x hx; subst hx; exact h x (mem_msgsOf_incoming evs x he)
  | arrive m => exact h m (mem_msgsOf_arrive evs m he)
  | send m => exact Or.inl hro
  | sessionTime a b => exact Or.inr hro
  | resetTime now => exact Or.inl hro
  | _ => trivial

theorem gate_all_histories (cfg : Cfg) (s0 t0 : Int) (evs : List Ev) :
    ∀ o ∈ _root_.traceOf (initSess cfg s0 t0) evs, gateObs cfg (· ∈ msgsOf evs) o :=
  (run_good (N := gateObs cfg (· ∈ msgsOf evs)) (S := fun _ _ => True) (P := (· ∈ msgsOf evs)) (initSess cfg s0 t0) evs
    (fun m hm => gate_msgHyp cfg _ m hm) (Or.inl (gate_resetOK _ _)) (poolInv_init cfg s0 t0)
    (evOK_of_mem cfg evs (gate_resetOK _ _) fun _ h => h)).1

theorem cbObs_ne_onLogon (s : Sess) (m : InMsg) : cbObs s m ≠ Obs.onLogon := by
  unfold cbObs; split <;> simp

theorem gate_logon (s : Sess) (m : InMsg) (h0 : Obs.onLogon ∉ s.log) (h : Obs.onLogon ∈ (handleLogon s m).1.log) :
    GateMsg s.cfg m ∧ TimeGate s m ∧ callbackVerdict m = none ∧
      ∃ n, getInt m 34 = .val n ∧ (if logonResets s m then 1 else s.store.target) ≤ n := by
  -- no stage notifies: the notification is in the log only if every verdict on the way to the tail was favourable
  obtain ⟨pre, hl2, hp2⟩ := logonS2_log s m
  have h2 : Obs.onLogon ∉ (logonS2 s m).log := by
    rw [hl2]; intro hc
    rcases List.mem_append.1 hc with hc | hc
    · rcases hp2 _ hc with e | e
      · exact cbObs_ne_onLogon s m e.symm
      · cases e
    · exact h0 hc
  have h1 : Obs.onLogon ∉ (logonS1 s).log := fun hc => h2 (List.mem_cons_of_mem _ hc)
  have h3 : Obs.onLogon ∉ (logonS3 s m).log := by
    rw [logonS3_log]; split <;> simp [h2]
  obtain ⟨c1, c2, _, _, _, c6⟩ := logonS3_frame s m
  rw [handleLogon_eq] at h
  -- the ways out before the tail: the 1137 check, the validator, the callback, the session-level checks
  split at h
  · exact absurd h h0
  · split at h
    · exact absurd h h1
    · rename_i hv
      split at h
      · exact absurd h h2
      · rename_i hcv
        split at h
        · exact absurd h h3
        · rename_i hvs
          obtain ⟨hb, hcc, ht, hsq, _⟩ := verifySelect_pass (logonS3 s m) m false true false hvs
          rw [c1] at hb hcc
          obtain ⟨n, hn, hle⟩ := hsq.1 rfl
          refine ⟨⟨hb, hcc, hv⟩, timeGate_congr m c2.symm c1.symm ht, hcv, n, hn, ?_⟩
          rw [c6] at hle
          cases hR : logonResets s m <;> simp only [hR, Bool.false_eq_true, ↓reduceIte] at hle ⊢ <;> exact hle

/-! ### the SendingTime clause over whole histories (contrapositive form): with latency checking on and every inbound message
    outside the window, the session never leaves the states Latent / NotSessionTime / Logon (`ColdSt`), so nothing is ever
    delivered and no Logon is accepted: the history theorem for this class of states and the pool `Late` -/

/-- a Logon is accepted, or found "too high" (which also establishes the session and starts recovery), only past the
    SendingTime check -/
theorem handleLogon_time (s : Sess) (m : InMsg)
    (h : (handleLogon s m).2 = none ∨ ∃ r, (handleLogon s m).2 = some (.rej r) ∧ r.isHigh = true) : TimeGate s m := by
  obtain ⟨c1, c2, _⟩ := logonS3_frame s m
  exact timeGate_congr m c2.symm c1.symm
    ((firstReject_none_gate _ m false true).1 (handleLogon_inv (s := s) (m := m) rfl h).2.2.1).2.2.1

/-- no callback except FromAdmin for a Logon (which precedes the session-level checks), no logon notification -/
def coldObs : Obs → Prop
  | .fromApp .. => False
  | .fromAdmin k _ => k = "A"
  | .onLogon => False
  | _ => True

instance coldPolicy : Policy coldObs (fun _ _ => True) where
  sRefl := fun _ => trivial
  sTrans := fun _ _ => trivial
  nWire := fun _ => trivial
  nSaved := fun _ _ _ => trivial
  nIncS := trivial
  nIncT := trivial
  nSetT := fun _ => trivial
  nArm := fun _ => trivial
  nClosed := trivial
  nOnLogout := trivial
  nRefresh := trivial
  sPersist := fun _ _ _ => trivial
  sIncS := fun _ => trivial
  sTarget := fun _ _ _ => trivial

theorem cold_resetOK : ResetOK coldObs (fun _ _ => True) := ⟨trivial, fun _ => trivial⟩

/-- states in which no Logon has been accepted on the current connection (if any) -/
def ColdSt (st : SState) : Prop := st = .latent ∨ st = .notSessionTime ∨ st = .logon

def Late (m : InMsg) : Prop := ¬ TimeOK m

structure Cold (s : Sess) : Prop where
  lat : s.cfg.skipLatency = false
  st : ColdSt s.st

theorem coldSt_noResend {s : Sess} (h : ColdSt s.st) : curResend s = none := by
  unfold curResend
  rcases h with h | h | h <;> rw [h]

theorem cold_noTimeGate {s : Sess} {m : InMsg} (hc : Cold s) (hm : Late m) : ¬ TimeGate s m := by
  intro h
  rcases h with h | h | h
  · rw [hc.lat] at h; cases h
  · rw [coldSt_noResend hc.st] at h; cases h
  · exact hm h

theorem cold_logonHyp {s : Sess} {m : InMsg} (hc : Cold s) (hm : Late m) (hk : kindOf m = "A") : LogonHyp coldObs (fun _ _ => True) s m where
  cbA := by
    intro _ s'
    unfold cbObs
    have : isAdminKind (kindOf m) = true := by rw [hk]; decide
    simp only [this, if_true]
    exact hk
  onLogon := fun _ ht _ => absurd ht (cold_noTimeGate hc hm)
  ro := Or.inl cold_resetOK

theorem shutdownWithReason_latent (s : Sess) (m : InMsg) (b : Bool) : (shutdownWithReason s m b).2 = .latent := rfl

theorem cold_logonFixMsgIn {s : Sess} {m : InMsg} (hc : Cold s) (hm : Late m) :
    RelF coldObs (fun _ _ => True) s (logonFixMsgIn s m).1 ∧ (logonFixMsgIn s m).2 = .latent := by
  refine ⟨relF_logonFixMsgIn s m (fun hk => cold_logonHyp hc hm hk) (Or.inl cold_resetOK), ?_⟩
  have ht := handleLogon_time s m
  unfold logonFixMsgIn
  split
  · rfl
  · generalize handleLogon s m = r at ht
    obtain ⟨s', o⟩ := r
    simp only [] at ht
    -- the verdicts: none, RejectLogon, too low, too high, any other error
    split
    · exact absurd (ht (Or.inl (by simp_all))) (cold_noTimeGate hc hm)
    · rfl
    · rfl
    · rename_i heq
      simp only [Prod.mk.injEq] at heq
      exact absurd (ht (Or.inr ⟨_, heq.2, rfl⟩)) (cold_noTimeGate hc hm)
    · rfl

theorem coldClass : StClass ColdSt where
  latent := Or.inl rfl
  notSessionTime := Or.inr (Or.inl rfl)
  logon := Or.inr (Or.inr rfl)
  active := fun st h hl => by rcases h with h | h | h <;> rw [h] at hl <;> cases hl

theorem cold_fixOK (cfg : Cfg) (hl : cfg.skipLatency = false) : FixOK coldObs (fun _ _ => True) ColdSt Late cfg := by
  intro s m hcfg hs hm
  unfold fixMsgInCore
  rcases hs with h | h | h
  · rw [h]; exact ⟨RelF.refl s, Or.inl rfl⟩
  · rw [h]; exact ⟨RelF.refl s, Or.inr (Or.inl rfl)⟩
  · rw [h]
    have := cold_logonFixMsgIn ⟨by rw [hcfg]; exact hl, Or.inr (Or.inr h)⟩ hm
    exact ⟨this.1, Or.inl this.2⟩

theorem cold_histories (cfg : Cfg) (s0 t0 : Int) (evs : List Ev) (hl : cfg.skipLatency = false) (h : ∀ m ∈ msgsOf evs, Late m) :
    ∀ o ∈ _root_.traceOf (initSess cfg s0 t0) evs, coldObs o :=
  (run_within (C := ColdSt) (P := Late) coldClass (initSess cfg s0 t0) evs (cold_fixOK cfg hl) (Or.inl cold_resetOK)
    ⟨nofun, Or.inl rfl⟩ (evOK_of_mem cfg evs cold_resetOK h)).1

end Qfx.Sess
