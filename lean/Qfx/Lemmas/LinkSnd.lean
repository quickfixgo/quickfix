/-
  The sender role of one engine.  `Snd st0 s`: the store is well-formed and only grew (by administrative messages) since
  `st0`, everything queued or written is `Wire` of the store.  `SExt s s'`: a model function that neither delivers nor
  touches the expected number and preserves `Snd`; it extends `Ext` of SessC01.
-/
import Qfx.Lemmas.LinkStore
import Qfx.Lemmas.SessEffects
import Qfx.Props.C03
namespace Qfx.Link
open Qfx Qfx.Sess

structure Snd (st0 : Store) (s : Sess) : Prop where
  persist : s.cfg.persist = true
  sok : StoreOK s.store
  grow : Grow true st0 s.store
  q : ∀ m ∈ s.toSend, Wire s.store m
  w : ∀ m, Obs.wire m ∈ s.log → Wire s.store m

structure SExt (s s' : Sess) : Prop where
  ext : Ext s s'
  cfg : s'.cfg = s.cfg
  snd : ∀ st0, Snd st0 s → Snd st0 s'

theorem SExt.refl (s : Sess) : SExt s s := ⟨Ext.refl s, rfl, fun _ h => h⟩
theorem SExt.trans {a b c : Sess} (h1 : SExt a b) (h2 : SExt b c) : SExt a c :=
  ⟨h1.ext.trans h2.ext, h2.cfg.trans h1.cfg, fun st0 h => h2.snd st0 (h1.snd st0 h)⟩

theorem SExt.of_eq {s s' : Sess} (h1 : s'.cfg = s.cfg) (h2 : s'.store = s.store) (h3 : s'.log = s.log) (h4 : s'.toSend = s.toSend) :
    SExt s s' :=
  ⟨Ext.of_eq (by rw [h2]) h3, h1, fun st0 h => ⟨by rw [h1]; exact h.persist, by rw [h2]; exact h.sok, by rw [h2]; exact h.grow,
    by rw [h2, h4]; exact h.q, by rw [h2, h3]; exact h.w⟩⟩

theorem SExt.emit (s : Sess) (o : Obs) (hn : neutral o = true) (hw : ∀ m, o ≠ .wire m) : SExt s (s.emit o) :=
  ⟨Ext.emit s o hn, rfl, fun st0 h => ⟨h.persist, h.sok, h.grow, h.q, by
    intro m hm
    simp only [Sess.emit, List.mem_cons] at hm
    rcases hm with hm | hm
    · exact absurd hm.symm (hw m)
    · exact h.w m hm⟩⟩

theorem sext_sendQueued (s : Sess) : SExt s (sendQueued s) := by
  refine ⟨ext_sendQueued s, (fr_sendQueued s).cfg, ?_⟩
  intro st0 h
  unfold sendQueued
  split
  · refine ⟨h.persist, h.sok, h.grow, (by intro m hm; cases hm), ?_⟩
    intro m hm
    simp only [List.mem_append, List.mem_reverse, List.mem_map] at hm
    rcases hm with ⟨x, hx, he⟩ | hm
    · cases he; exact h.q _ hx
    · exact h.w m hm
  · exact h

theorem sext_setToSend (s : Sess) (q : List OutMsg) (hq : ∀ x ∈ q, x ∈ s.toSend) : SExt s (s.setToSend q) :=
  ⟨Ext.of_eq rfl rfl, rfl, fun _ h => ⟨h.persist, h.sok, h.grow, fun m hm => h.q m (hq m hm), h.w⟩⟩

/-- an administrative message an engine composes (before numbering): well-formed, never a SequenceReset -/
structure OutOK (m : OutMsg) : Prop where
  ok : MsgOK m
  adm : isAdminKind m.kind = true

theorem OutOK.stamp {m : OutMsg} (h : OutOK m) (s : Sess) : OutOK (stamp s m) := ⟨⟨h.ok.f, h.ok.ord, h.ok.k, h.ok.k4, h.ok.app, h.ok.rr⟩, h.adm⟩
theorem OutOK.asNew {m : OutMsg} (h : OutOK m) : OutOK m.asNew := ⟨⟨h.ok.f, h.ok.ord, h.ok.k, h.ok.k4, h.ok.app, h.ok.rr⟩, h.adm⟩
theorem OutOK.re {m : OutMsg} (h : OutOK m) (r : InMsg) : OutOK (m.inReplyTo r) := ⟨⟨h.ok.f, h.ok.ord, h.ok.k, h.ok.k4, h.ok.app, h.ok.rr⟩, h.adm⟩

theorem outOK_mk (k : String) (f : Fields) (ha : isAdminKind k = true) (hk4 : k ≠ "4") (hf : FOK true f)
    (hrr : k = "2" → ∃ x y : Int, Fields.get? f 7 = some (toString x) ∧ Fields.get? f 16 = some (toString y))
    (ho : SecOrd f) : OutOK (mkOut k f) := by
  refine ⟨⟨?_, ho, ?_, hk4, ?_, hrr⟩, ha⟩
  · exact ha ▸ hf
  · intro h; simp only [mkOut] at h; rw [h] at ha; revert ha; decide
  · intro h; simp only [mkOut] at h; rw [h] at ha; cases ha

theorem outOK_logout : OutOK (mkOut "5" []) :=
  outOK_mk _ _ (by decide) (by decide) fok_nil (fun h => absurd h (by decide)) (SecOrd.body rfl)

theorem outOK_heartbeat : OutOK (mkOut "0" []) :=
  outOK_mk _ _ (by decide) (by decide) fok_nil (fun h => absurd h (by decide)) (SecOrd.body rfl)

theorem outOK_hbReply (id : String) (h : id ≠ "") : OutOK (mkOut "0" [(112, id)]) :=
  outOK_mk _ _ (by decide) (by decide) (fok_one _ _ h (by decide)) (fun h => absurd h (by decide)) (SecOrd.body rfl)

theorem outOK_testRequest : OutOK (mkOut "1" [(112, "TEST")]) :=
  outOK_mk _ _ (by decide) (by decide) (fok_one _ _ (by decide) (by decide)) (fun h => absurd h (by decide)) (SecOrd.body rfl)

theorem outOK_resendRequest (b e : Int) : OutOK (mkOut "2" [(7, toString b), (16, toString e)]) :=
  outOK_mk _ _ (by decide) (by decide)
    ((fok_one 7 _ (toString_int_ne_empty b) (by decide)).append (fok_one 16 _ (toString_int_ne_empty e) (by decide)))
    (fun _ => ⟨b, e, by simp [get?_cons], by simp [get?_cons]⟩) (SecOrd.body rfl)

theorem outOK_logonX (s : Sess) (nx : Option Int) : OutOK (logonMsgX s false nx) := by
  unfold logonMsgX
  refine outOK_mk _ _ (by decide) (by decide) ?_ (fun h => absurd h (by decide)) (SecOrd.body (by
    simp only [Bool.false_eq_true, if_false, List.append_nil]
    cases nx <;> split <;> rfl))
  refine (((fok_one 108 _ (toString_int_ne_empty _) (by decide)).append (show FOK true (if false = true then [(141, "Y")] else []) from fok_nil)).append ?_).append ?_
  · split
    · exact fok_nil
    · rename_i hne
      exact fok_one _ _ (fun h => hne (by rw [show s.cfg.applVer = "" from h]; rfl)) (by decide)
  · cases nx with
    | none => exact fok_nil
    | some n => exact fok_one _ _ (toString_int_ne_empty _) (by decide)

theorem outOK_logon (s : Sess) : OutOK (logonMsg s false) := outOK_logonX s _

theorem cp_ok (im : InMsg) (src dst : Nat) (p : Nat × String)
    (hp : p ∈ (match im.f.get? src with | some v => if v.isEmpty then ([] : Fields) else [(dst, v)] | none => [])) : p.1 = dst ∧ p.2 ≠ "" := by
  split at hp
  · split at hp
    · cases hp
    · rename_i hv
      simp only [List.mem_singleton] at hp; subst hp
      exact ⟨rfl, String.isEmpty_eq_false_iff.1 (by simpa using hv)⟩
  · cases hp

/-- the tags `reverseRoute` (message.go) can write: the routing tags a Reject can carry -/
def routeTag (t : Nat) : Bool := t == 56 || t == 57 || t == 143 || t == 49 || t == 50 || t == 142 || t == 128 || t == 129 || t == 115 || t == 116 || t == 145 || t == 144

theorem reverseRoute_ok (im : InMsg) : ∀ p ∈ reverseRoute im, routeTag p.1 = true ∧ p.2 ≠ "" := by
  have cp : ∀ src dst, routeTag dst = true → ∀ p ∈ (match im.f.get? src with
      | some v => if v.isEmpty then ([] : Fields) else [(dst, v)] | none => []), routeTag p.1 = true ∧ p.2 ≠ "" :=
    fun src dst hd p hp => by obtain ⟨h1, h2⟩ := cp_ok im src dst p hp; exact ⟨h1 ▸ hd, h2⟩
  unfold reverseRoute
  simp only [List.forall_mem_append]
  refine ⟨⟨⟨⟨⟨⟨⟨⟨⟨⟨cp _ _ rfl, cp _ _ rfl⟩, cp _ _ rfl⟩, cp _ _ rfl⟩, cp _ _ rfl⟩, cp _ _ rfl⟩, cp _ _ rfl⟩, cp _ _ rfl⟩, cp _ _ rfl⟩, cp _ _ rfl⟩, ?_⟩
  split
  · split
    · simp only [List.forall_mem_append]; exact ⟨cp _ _ rfl, cp _ _ rfl⟩
    · intro p hp; cases hp
  · intro p hp; cases hp

theorem routeTag_header (t : Nat) (h : routeTag t = true) : Validate.isHeaderTag t = true := by
  unfold routeTag at h
  simp only [Bool.or_eq_true, beq_iff_eq] at h
  rcases h with ((((((((((rfl | rfl) | rfl) | rfl) | rfl) | rfl) | rfl) | rfl) | rfl) | rfl) | rfl) | rfl <;> decide

theorem outOK_reject (cfg : Cfg) (im : InMsg) (reason : Nat) (refTag : Option Nat) (hk : kindOf im ≠ "") :
    OutOK (rejectMsg cfg im reason refTag false) := by
  have hroute : FOK true ((reverseRoute im).filter (fun p => p.1 != 49 && p.1 != 56)) := by
    intro p hp
    have := reverseRoute_ok im p (List.mem_filter.1 hp).1
    refine ⟨this.2, ?_, ?_, fun _ => ?_, ?_⟩ <;> (intro h; rw [h] at this; exact absurd this.1 (by decide))
  have hseq : FOK true (match getInt im 34 with | .val i => ([(45, toString i)] : Fields) | _ => []) := by
    split
    · exact fok_one _ _ (toString_int_ne_empty _) (by decide)
    · exact fok_nil
  have horoute : hdrOnly ((reverseRoute im).filter (fun p => p.1 != 49 && p.1 != 56)) = true := by
    unfold hdrOnly
    rw [List.all_eq_true]
    intro p hp
    exact routeTag_header _ (reverseRoute_ok im p (List.mem_filter.1 hp).1).1
  have hoseq : bodyOnly (match getInt im 34 with | .val i => ([(45, toString i)] : Fields) | _ => []) = true := by
    split <;> rfl
  unfold rejectMsg
  simp only [Bool.false_eq_true, if_false]
  split
  · refine outOK_mk _ _ (by decide) (by decide) ?_ (fun h => absurd h (by decide)) (by
      simp only [List.append_assoc]
      refine SecOrd.hdr_append horoute (SecOrd.body ?_)
      refine bodyOnly_append (by split <;> rfl) (bodyOnly_append (by split <;> rfl) (bodyOnly_append rfl hoseq)))
    exact (((hroute.append (ite_both fok_nil (fok_one _ _ (toString_nat_ne_empty _) (by decide)))).append
      (by split
          · exact fok_one _ _ (toString_nat_ne_empty _) (by decide)
          · exact fok_nil)).append (fok_one _ _ hk (by decide))).append hseq
  · exact outOK_mk _ _ (by decide) (by decide) (hroute.append hseq) (fun h => absurd h (by decide))
      (SecOrd.hdr_append horoute (SecOrd.body hoseq))

theorem persistOut_eq (s : Sess) (n : Int) (m : OutMsg) (hp : s.cfg.persist = true) :
    s.persistOut n m = ({ s with store := { s.store with msgs := (n, m) :: s.store.msgs, sender := s.store.sender + 1 } }.emit
      (.saved n m.kind (resendable m))) := by
  rw [Sess.persistOut_eq, savedObs, if_pos hp, if_pos hp]; rfl

/-- the message as `prepMessageForSend` sends it: header filled (`stamp`), numbered -/
def numbered (s : Sess) (m : OutMsg) : OutMsg := { stamp s m with seq := s.store.sender }

theorem OutOK.accepted {m : OutMsg} (hm : OutOK m) : appRefuses m = false := appRefuses_admin hm.adm

/-- what an engine composes carries no ResetSeqNumFlag: it is filed as it is numbered, in the session as it is (with
    `OutOK.accepted`: the sender equations of SessVerify read for the link) -/
theorem filed_ok (s : Sess) {m : OutMsg} (hm : OutOK m) (q : List OutMsg) :
    (prepBase s m).filed q (outgoing s m) = s.filed q (numbered s m) := by
  have h : resetLogon m = false := by unfold resetLogon; rw [hm.ok.f.absent (Or.inl rfl)]; exact Bool.and_false _
  rw [prepBase_plain h, outgoing_plain h]; rfl

theorem sext_filed (s : Sess) {m : OutMsg} (hm : OutOK m) (q : List OutMsg) (hq : ∀ x ∈ q, x ∈ s.toSend) :
    SExt s (s.filed q (numbered s m)) := by
  refine ⟨(ext_persistOut s _ _).trans (Ext.of_eq rfl rfl), (fr_persistOut s _ _).cfg, ?_⟩
  intro st0 h
  unfold Sess.filed
  rw [persistOut_eq s _ _ h.persist]
  have hg := Grow.save true s.store (numbered s m) (fun _ => hm.adm)
  refine ⟨h.persist, h.sok.save _ ((hm.stamp s).ok.withSeq _) rfl, h.grow.trans hg, ?_, ?_⟩
  · intro x hx
    rcases List.mem_append.1 hx with hx | hx
    · exact (h.q x (hq x hx)).mono hg
    · rw [List.mem_singleton.1 hx]; exact .stored List.mem_cons_self
  · intro x hx
    rcases List.mem_cons.1 hx with hx | hx
    · cases hx
    · exact (h.w x hx).mono hg

theorem sext_queueForSend (s : Sess) (m : OutMsg) (hm : OutOK m) : SExt s (queueForSend s m) := by
  rw [queueForSend_eq, hm.accepted, filed_ok s hm]
  exact sext_filed s hm _ fun _ h => h

theorem sext_sendInReplyTo (s : Sess) (m : OutMsg) (hm : OutOK m) : SExt s (sendInReplyTo s m) := by
  rw [sendInReplyTo_eq, hm.accepted, filed_ok s hm]
  exact ite_both (sext_queueForSend s _ hm.asNew) ((sext_filed s hm _ fun _ h => h).trans (sext_sendQueued _))

theorem sext_dropAndSend (s : Sess) (m : OutMsg) (hm : OutOK m) : SExt s (dropAndSend s m) := by
  rw [dropAndSend_eq, hm.accepted, filed_ok s hm]
  exact (sext_filed s hm [] fun _ h => nomatch h).trans (sext_sendQueued _)

theorem sext_enqueueAndSend (s : Sess) (m : OutMsg) (hm : ∀ st0, Snd st0 s → Wire s.store m) : SExt s (enqueueAndSend s m) := by
  refine ⟨ext_enqueueAndSend s m, (fr_enqueueAndSend s m).cfg, ?_⟩
  intro st0 h
  unfold enqueueAndSend
  simp only []
  have hw := hm st0 h
  split
  · refine (sext_sendQueued _).snd st0 ⟨h.persist, h.sok, h.grow, ?_, h.w⟩
    intro x hx
    simp only [Sess.setToSend, List.nil_append, List.mem_singleton] at hx
    rw [hx]; exact hw
  · refine (sext_sendQueued _).snd st0 ⟨h.persist, h.sok, h.grow, ?_, h.w⟩
    intro x hx
    simp only [Sess.setToSend, List.mem_append, List.mem_singleton] at hx
    rcases hx with hx | hx
    · exact h.q x hx
    · rw [hx]; exact hw

theorem enqueueAndSend_store (s : Sess) (m : OutMsg) : (enqueueAndSend s m).store = s.store := by
  unfold enqueueAndSend sendQueued
  simp only []
  split <;> split <;> rfl

theorem snd_enqAll (st0 : Store) (s : Sess) (l : List OutMsg) (h : Snd st0 s) (hl : ∀ m ∈ l, Wire s.store m) :
    Snd st0 (enqAll s l) := by
  induction l generalizing s with
  | nil => exact h
  | cons m rest ih =>
    have h1 : enqAll s (m :: rest) = enqAll (enqueueAndSend s m) rest := rfl
    rw [h1]
    refine ih _ ((sext_enqueueAndSend s m (fun _ _ => hl m List.mem_cons_self)).snd st0 h) ?_
    intro x hx
    rw [enqueueAndSend_store]
    exact hl x (List.mem_cons_of_mem _ hx)

theorem reply_msg_facts (st : Store) (hs : StoreOK st) (b e n : Int) (m : OutMsg) (hr : Rep.msg n m ∈ replyReps true st b e) :
    (n, m) ∈ st.msgs ∧ m.seq = n ∧ isAdminKind m.kind = false := by
  have hmem := mem_of_lookup st n m (C03_original_number st (filed_of_ok hs) true b e n m hr).2
  have h3 := (List.mem_filter.1 (msg_mem_replyReps hr)).2
  simp only [replayable, Bool.and_eq_true, Bool.not_eq_eq_eq_not, Bool.not_true] at h3
  exact ⟨hmem, (hs.ent _ hmem).1, h3.1⟩

theorem wire_reply (st : Store) (hs : StoreOK st) (l : Option Int) (b e : Int) (hb : -9223372036854775808 ≤ b) (he : e ≤ st.sender - 1) :
    ∀ x ∈ replyPlanR l true st b e, Wire st x := by
  intro x hx
  simp only [replyPlanR, List.mem_map] at hx
  obtain ⟨r, hr, rfl⟩ := hx
  by_cases hbe : e < b
  · simp [replyReps, hbe] at hr
  · have hbe' : b ≤ e := by omega
    cases r with
    | gap x y =>
      have hw := C03_nothing_outside true st b e _ hr
      simp only [Rep.lo, Rep.hi] at hw
      refine .gap x y l hw.2.1 (by omega) (by omega) ?_
      intro p hp h1 h2
      have hl := lookup_of_mem st hs.desc p.1 p.2 hp
      rcases C03_gapfill_only_admin_or_declined st b e hbe' x y hr p.1 h1 h2 p.2 hl with h | h
      · exact h
      · cases ha : isAdminKind p.2.kind with
        | true => rfl
        | false => rw [resendable_of_ok p.2 (hs.ent p hp).2.2.2 ha] at h; cases h
    | msg n m =>
      obtain ⟨hmem, hseq, ha⟩ := reply_msg_facts st hs b e n m hr
      exact .resent (by rw [hseq]; exact hmem) ha

theorem sext_resendMessages (s : Sess) (b e : Int) (hb : -9223372036854775808 ≤ b) (he : e ≤ s.store.sender - 1) :
    SExt s (resendMessages s b e) := by
  refine ⟨ext_resendMessages s b e, (fr_resendMessages s b e).cfg, ?_⟩
  intro st0 h
  rw [resendMessages_eq, h.persist]
  exact snd_enqAll st0 s _ h (wire_reply s.store h.sok _ b e hb he)

theorem sext_sendLogout (s : Sess) : SExt s (sendLogout s) := sext_sendInReplyTo s _ outOK_logout
theorem sext_initiateLogout (s : Sess) : SExt s (initiateLogout s) := sext_sendLogout s

theorem sext_sendResendRequest (s : Sess) (b e : Int) : SExt s (sendResendRequest s b e).1 := by
  rw [sRR_eq]
  exact sext_sendInReplyTo s _ (outOK_resendRequest _ _)

theorem sext_doReject (s : Sess) (im : InMsg) (r : Nat) (t : Option Nat) (hk : kindOf im ≠ "") : SExt s (doReject s im r t false) := by
  unfold doReject
  exact sext_sendInReplyTo s _ ((outOK_reject _ _ _ _ hk).re _)

theorem sext_sendLogonInReplyTo (s : Sess) : SExt s (sendLogonInReplyTo s false) := sext_dropAndSend s _ (outOK_logon s)
theorem sext_sendLogonRe (s : Sess) (m : InMsg) : SExt s (sendLogonRe s false m) := sext_dropAndSend s _ ((outOK_logonX s _).re m)

section peel
variable {s x : Sess}
theorem xpeel_initiateLogout (h : SExt s x) : SExt s (initiateLogout x) := h.trans (sext_initiateLogout x)
theorem xpeel_sendInReplyTo (m : OutMsg) (hm : OutOK m) (h : SExt s x) : SExt s (sendInReplyTo x m) := h.trans (sext_sendInReplyTo x m hm)
theorem xpeel_dropAndSend (m : OutMsg) (hm : OutOK m) (h : SExt s x) : SExt s (dropAndSend x m) := h.trans (sext_dropAndSend x m hm)
theorem xpeel_sendResendRequest (b e : Int) (h : SExt s x) : SExt s (sendResendRequest x b e).1 := h.trans (sext_sendResendRequest x b e)
theorem xpeel_sendLogonInReplyTo (h : SExt s x) : SExt s (sendLogonInReplyTo x false) := h.trans (sext_sendLogonInReplyTo x)
theorem xpeel_sendLogonRe (m : InMsg) (h : SExt s x) : SExt s (sendLogonRe x false m) := h.trans (sext_sendLogonRe x m)
theorem xpeel_setReplyLast (v : Option Int) (h : SExt s x) : SExt s (x.setReplyLast v) := h.trans (SExt.of_eq rfl rfl rfl rfl)
theorem xpeel_sendQueued (h : SExt s x) : SExt s (sendQueued x) := h.trans (sext_sendQueued x)
theorem xpeel_emit (o : Obs) (hn : neutral o = true) (hw : ∀ m, o ≠ .wire m) (h : SExt s x) : SExt s (x.emit o) := h.trans (SExt.emit x o hn hw)
theorem xpeel_setToSend_nil (h : SExt s x) : SExt s (x.setToSend []) := h.trans (sext_setToSend x [] (by intro y hy; cases hy))
theorem xpeel_setHb (v : Int) (h : SExt s x) : SExt s (x.setHb v) := h.trans (SExt.of_eq rfl rfl rfl rfl)
theorem xpeel_setSentReset (b : Bool) (h : SExt s x) : SExt s (x.setSentReset b) := h.trans (SExt.of_eq rfl rfl rfl rfl)
theorem xpeel_setSt (st : SState) (h : SExt s x) : SExt s (x.setSt st) := h.trans (SExt.of_eq rfl rfl rfl rfl)
theorem xpeel_setOut (b : Bool) (h : SExt s x) : SExt s (x.setOut b) := h.trans (SExt.of_eq rfl rfl rfl rfl)
theorem xpeel_setInbox (ib : List InMsg) (h : SExt s x) : SExt s (x.setInbox ib) := h.trans (SExt.of_eq rfl rfl rfl rfl)
theorem xpeel_closeInbox (h : SExt s x) : SExt s x.closeInbox := h.trans (SExt.of_eq rfl rfl rfl rfl)
theorem xpeel_setPendingStop (h : SExt s x) : SExt s x.setPendingStop := h.trans (SExt.of_eq rfl rfl rfl rfl)
theorem xpeel_setStopped (h : SExt s x) : SExt s x.setStopped := h.trans (SExt.of_eq rfl rfl rfl rfl)
theorem xpeel_openConn (h : SExt s x) : SExt s x.openConn := h.trans (SExt.of_eq rfl rfl rfl rfl)
end peel

/-- a message numbered too low: the engine answers (Logout, or a Reject of a malformed duplicate) or ignores it; the
    expected number stays where it is as long as the message carries a SendingTime (always, between two engines) -/
theorem sext_doTargetTooLow (s : Sess) (im : InMsg) (d : Int) (h52 : getTime im 52 = .val d) (hk : kindOf im ≠ "") :
    SExt s (doTargetTooLow s im).1 := by
  unfold doTargetTooLow
  rw [h52]
  generalize getBool im 43 = pd
  cases pd with
  | garbled => exact sext_doReject s im _ _ hk
  | missing => exact sext_initiateLogout s
  | val b =>
    cases b with
    | false => exact sext_initiateLogout s
    | true =>
      generalize getTime im 122 = orig
      cases orig with
      | missing => exact sext_doReject s im _ _ hk
      | garbled => exact sext_doReject s im _ _ hk
      | val orig =>
        show SExt s (if d < orig then (initiateLogout (doReject s im 10 none false), SState.logout) else (s, .inSession)).1
        split
        · exact xpeel_initiateLogout (sext_doReject s im 10 none hk)
        · exact SExt.refl s

theorem sext_inSessionTimeout (s : Sess) (e : TimerEv) : SExt s (inSessionTimeout s e).1 := by
  cases e with
  | needHeartbeat => exact sext_sendInReplyTo s _ outOK_heartbeat
  | peerTimeout =>
    exact xpeel_emit _ rfl (fun _ => Obs.noConfusion) (sext_sendInReplyTo s _ outOK_testRequest)
  | logonTimeout => exact SExt.refl s
  | logoutTimeout => exact SExt.refl s

end Qfx.Link
