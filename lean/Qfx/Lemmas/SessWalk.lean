/-
  The call tree of Qfx.Model.Session for an arbitrary relation `R` between the session before and after that every step respects
  whatever the message and whatever the branch.  `R` is a preorder; what else it must allow is said by bundles of hypotheses, one per
  layer of the tree (`PrimRel R` of SessPrim, for relations that every primitive update respects, gives the first by `PrimRel.toSendRel`):

    `SendRel R`     the sending functions                      ⟹  doReject … processReject, timeoutCore, stopNext
    `HandlerRel R`  + ResendRequests, resets, Logons, notices, the
                      forward SequenceReset, plain messages    ⟹  the handlers up to `fixMsgInCore`
    `StepRel R`     + the fields only the state machine writes ⟹  setState / drainIn / incoming / checkSessionTime, `stepCore`

  To prove that `stepCore` keeps an invariant `Inv`, show the bundle for its relation `fun s s' => Inv s → Inv s'` (or for a
  stronger preorder); the head of SessC03.lean (`spPrim`, `spSend`, `spStep`, `sp_stepCore`) is the smallest instance and the
  one to copy.  The fields `quiet` and `frame` quantify over every value of hb, sentReset, replyLast, st, out, inboxOpen, inbox,
  pendingStop, stopped, lastCheckedReset: an invariant that goes through `StepRel` may mention only cfg, store, toSend and log.
  The last mile: `step` is `stepCore` on the cleared log and hands out the log as the event's observations; histories by `run_fold`.

  What does not fit: a relation for which a step is allowed only under a hypothesis on the message, on the configuration flag that
  guards it or on the state class, that counts ResendRequests, that a Logout weakens, or a statement about the state a handler asks
  for — it is shown for every `Act` of SessEffects instead; nor a fact about hb, sentReset or replyLast, which neither layer records.  Two runs compared (`c_*` of
  SessC20) are neither.

  Inside the namespaces of the bundles a model function `f` is written `Sess.f` (the namespace `Qfx.Sess`, not the structure
  `Sess`): the lemma about `f` has the same short name.
-/
import Qfx.Lemmas.SessMachine
import Qfx.Lemmas.SessEffects
namespace Qfx.Sess
open Qfx

variable {R : Sess → Sess → Prop}

structure SendRel (R : Sess → Sess → Prop) : Prop where
  refl : ∀ s, R s s
  trans : ∀ {a b c}, R a b → R b c → R a c
  quiet : ∀ (s : Sess) (hb : Int) (sentReset : Bool) (replyLast : Option Int),
    R s { s with hb := hb, sentReset := sentReset, replyLast := replyLast }
  arm : ∀ s n, R s (s.emit (.armPeer n))
  incrTarget : ∀ s, R s (incrTarget s)
  sendInReplyTo : ∀ s (m : OutMsg), m.kind ∈ replyKinds → R s (sendInReplyTo s m)
  enqueueAndSend : ∀ s (m : OutMsg), m.Replay → R s (enqueueAndSend s m)

theorem PrimRel.toSendRel (h : PrimRel R) (arm : ∀ s n, R s (s.emit (.armPeer n))) (incr : ∀ s, R s (Sess.incrTarget s)) :
    SendRel R where
  refl := h.refl
  trans := h.trans
  quiet := h.quiet
  arm := arm
  incrTarget := incr
  sendInReplyTo := fun s m _ => h.sendInReplyTo s m
  enqueueAndSend := fun s m _ => h.enqueueAndSend s m

theorem SendRel.weaken {R' : Sess → Sess → Prop} (h : SendRel R) (sub : ∀ {s s'}, R s s' → R' s s')
    (trans : ∀ {a b c}, R' a b → R' b c → R' a c) : SendRel R' where
  refl := fun s => sub (h.refl s)
  trans := trans
  quiet := fun s a b c => sub (h.quiet s a b c)
  arm := fun s n => sub (h.arm s n)
  incrTarget := fun s => sub (h.incrTarget s)
  sendInReplyTo := fun s m hm => sub (h.sendInReplyTo s m hm)
  enqueueAndSend := fun s m hm => sub (h.enqueueAndSend s m hm)

namespace SendRel
variable (h : SendRel R)
include h

theorem setHb (s : Sess) (v : Int) : R s (s.setHb v) := h.quiet s v _ _
theorem setSentReset (s : Sess) (b : Bool) : R s (s.setSentReset b) := h.quiet s _ b _
theorem doReject (s : Sess) (m : InMsg) (reason : Nat) (refTag : Option Nat) (business : Bool) :
    R s (doReject s m reason refTag business) :=
  h.sendInReplyTo s _ (rejectMsg_replyKind s.cfg m reason refTag business)

theorem sendLogout (s : Sess) : R s (sendLogout s) := h.sendInReplyTo s (mkOut "5" []) (by decide)
theorem initiateLogout (s : Sess) : R s (initiateLogout s) := h.sendLogout s

theorem doTargetTooLow (s : Sess) (m : InMsg) : R s (doTargetTooLow s m).1 := by
  unfold Sess.doTargetTooLow
  split
  · exact h.doReject s m _ _ _
  · dsimp only
    refine ite_fst_both (h.initiateLogout s) ?_
    split
    · exact h.doReject s m _ _ _
    · exact h.doReject s m _ _ _
    · split
      · exact h.trans (h.doReject s m _ _ _) (h.incrTarget _)
      · exact h.trans (h.doReject s m _ _ _) (h.incrTarget _)
      · exact ite_fst_both (h.trans (h.doReject s m _ _ _) (h.initiateLogout _)) (h.refl s)

/-- a ResendRequest is the one thing `processReject` sends that is not a reply of the fixed kinds -/
theorem processReject (rr : ∀ s b e, R s (sendResendRequest s b e).1) (s : Sess) (m : InMsg) (r : Rej) :
    R s (processReject s m r).1 := by
  unfold Sess.processReject
  split
  · split
    · exact h.refl s
    · exact rr s _ _
  · exact h.doTargetTooLow s m
  · exact h.initiateLogout s
  · exact h.trans (h.doReject s m _ _ _) (h.incrTarget _)
  · split
    · exact h.trans (h.doReject s m _ _ _) (h.initiateLogout _)
    · exact h.trans (h.doReject s m _ _ _) (h.incrTarget _)

theorem ofTimerRet {s : Sess} {r : Sess × SState} (t : TimerRet s r) : R s r.1 := by
  cases t with
  | idle nx _ => exact h.refl s
  | heartbeat nx _ _ => exact h.sendInReplyTo s (mkOut "0" []) (by decide)
  | testRequest nx _ _ => exact h.trans (h.sendInReplyTo s (mkOut "1" [(112, "TEST")]) (by decide)) (h.arm _ _)
  | logout _ => exact h.initiateLogout s

theorem timeoutCore (s : Sess) (e : TimerEv) : R s (timeoutCore s e).1 := h.ofTimerRet (timeoutCore_ret s e)

theorem stopNext (s : Sess) : R s (stopNext s).1 := h.ofTimerRet (stopNext_ret s)

theorem nxEval (s : Sess) (m : InMsg) (ns : Int) : R s (nxEval s m ns).1 := by
  unfold Sess.nxEval
  split
  · split
    · split
      · split
        · exact h.enqueueAndSend s _ (replay_gapFillRe s m _ _)
        · exact h.refl s
      · exact h.refl s
    · exact h.refl s
  · exact h.refl s

theorem logonRefused (s : Sess) (m : InMsg) : R s (logonRefused s m) := by
  unfold Sess.logonRefused
  split
  · split
    · exact h.setHb s _
    · exact h.refl s
  · exact h.refl s

end SendRel

/-- the observations that no monitor of a counter, of the connection or of the application reads: callbacks to FromAdmin,
    the logon / logout notifications, timer and close, and the store's `refresh` (a reload, not a change of its numbers) -/
def Obs.isNotice : Obs → Bool
  | .fromAdmin _ _ | .onLogon | .onLogout | .armPeer _ | .closed | .refresh => true
  | _ => false

structure HandlerRel (R : Sess → Sess → Prop) : Prop extends SendRel R where
  sendResendRequest : ∀ s b e, R s (sendResendRequest s b e).1
  notice : ∀ s (o : Obs), o.isNotice = true → R s (s.emit o)
  dropAndSend : ∀ s m, R s (dropAndSend s m)
  dropAndReset : ∀ s, R s (dropAndReset s)
  /-- SequenceReset moving the expected number forward -/
  setT : ∀ s n, s.store.target < n → R s ((s.setTarget n).emit (.setT n))
  /-- a message of no session-level kind: verification with both sequence checks, the application's verdict.  The one
      place where an application callback can move the session; `SendRel.plain_of_verify` gives it for relations that let
      every callback pass, C01 proves it by hand (the delivery) -/
  plain : ∀ s m, R s (plainFixMsgIn s m).1

theorem verifySelect_rel (refl : ∀ s, R s s) (s : Sess) (m : InMsg) (th tl ai : Bool)
    (app : ai = true → R s (verifyAppImpl s m).1) : R s (verifySelect s m th tl ai).1 := by
  unfold Sess.verifySelect
  split
  · exact refl s
  · split
    · exact refl s
    · split
      · exact refl s
      · split
        · exact refl s
        · split
          · exact refl s
          · split
            · rename_i hai; exact app hai
            · exact refl s

theorem SendRel.plain_of_verify (h : SendRel R) (rr : ∀ s b e, R s (sendResendRequest s b e).1)
    (hv : ∀ s m, R s (verifyAppImpl s m).1) (s : Sess) (m : InMsg) :
    R s (plainFixMsgIn s m).1 := by
  unfold plainFixMsgIn
  have hv := verifySelect_rel h.refl s m true true true fun _ => hv s m
  generalize verifySelect s m true true true = r at hv
  obtain ⟨s', o⟩ := r
  cases o with
  | some r => exact h.trans hv (h.processReject rr s' m r)
  | none => exact h.trans hv (h.incrTarget s')

/-! ### above the handlers: the drain, the resend state and the dispatch by state, for an invariant

  `I` need only be kept by the whole handler of a message of a class `M` (`hin`, and `hlogon` for the Logon state) and by a
  ResendRequest (`hrr`); the states stash messages of `M` only, which the walk maintains from `Ret.inSessionFixMsgIn … .nx`.
  `HandlerRel.fixMsgInCore` below is the instance `I := R s`, `M := fun _ => True`; an invariant that holds only for the
  messages a peer can have written (the link's `K`) is another.  `RetSome.fixMsgInCore` (SessEffects) describes the same
  dispatch as steps, counting the ResendRequests, for relations that every single step respects; an invariant cannot count,
  so neither replaces the other. -/
section
variable {I : Sess → Prop} {M : InMsg → Prop}
  (hin : ∀ x m, M m → I x → I (inSessionFixMsgIn x m).1)
  (hrr : ∀ x lo hi, I x → I (sendResendRequest x lo hi).1)
include hin

theorem drainStash_inv (fuel : Nat) : ∀ (x : Sess) (stash : List (Int × InMsg)) (last : SState), (∀ p ∈ stash, M p.2) → I x →
    I (drainStash fuel x stash last).1 := by
  induction fuel with
  | zero => exact fun _ _ _ _ h => h
  | succ n ih =>
    intro x stash last hst h
    unfold drainStash
    split
    · exact h
    · rename_i nn m hf
      have h1 := hin x m (hst _ (List.mem_of_find?_eq_some hf)) h
      generalize inSessionFixMsgIn x m = r at h1
      obtain ⟨y, nx⟩ := r
      dsimp only at h1 ⊢
      split
      · exact h1
      · exact ih _ _ _ (fun p hp => hst p (List.mem_filter.1 hp).1) h1

include hrr

theorem resendFixMsgIn_inv (s : Sess) (stash : List (Int × InMsg)) (cur fin : Int) (m : InMsg) (hS : ∀ p ∈ stashOf s.st, M p.2)
    (hst : ∀ p ∈ stash, M p.2) (hm : M m) (h : I s) : I (resendFixMsgIn s stash cur fin m).1 := by
  unfold resendFixMsgIn
  have h1 := hin s m hm h
  have hn := (Ret.inSessionFixMsgIn (Does.refl s) (m := m)).nx
  generalize inSessionFixMsgIn s m = r at h1 hn
  obtain ⟨y, nx⟩ := r
  dsimp (config := { zeta := false }) only at h1 hn ⊢
  by_cases hlog : (!nx.loggedOn) = true
  · rw [if_pos hlog]; exact h1
  rw [if_neg hlog]
  extract_lets st2
  -- the stash the recovery goes on with: the one the handler's next state carries (`m` added), or the old one
  have hst2 : ∀ p ∈ st2, M p.2 := by
    unfold st2
    split
    · cases hn with
      | resend _ _ _ hh =>
        intro p hp
        rcases hh p hp with e | ⟨q, hq, e⟩
        · exact e ▸ hm
        · exact e ▸ hS q hq
    · exact hst
  clear_value st2
  have hr := hrr y y.store.target fin h1
  refine ite_fst_both hr ?_
  split
  · exact h1
  all_goals
    refine ite_fst_both hr (ite_fst_both h1 ?_)
    have hd := drainStash_inv hin (st2.length + 1) y st2 nx hst2 h1
    split <;> (rename_i heq; rw [heq] at hd; exact hd)

/-- **`fixMsgInCore` keeps `I`** on a message of `M` in a state that has stashed messages of `M` only -/
theorem fixMsgInCore_inv (hlogon : ∀ x m, M m → I x → I (logonFixMsgIn x m).1) (s : Sess) (m : InMsg)
    (hS : ∀ p ∈ stashOf s.st, M p.2) (hm : M m) (h : I s) : I (fixMsgInCore s m).1 := by
  refine fixMsgInCore_cases s m (motive := fun r => I r.1) (fun _ => h) (fun _ => hlogon s m hm h) (fun _ => ?_)
    (fun _ => hin s m hm h)
    (fun st c f hs => resendFixMsgIn_inv hin hrr s st c f m hS (fun p hp => hS p (by rcases hs with e | e <;> (rw [e]; exact hp))) hm h)
  split <;> exact hin s m hm h

end

namespace HandlerRel
variable (h : HandlerRel R)
include h

/-- every step of handling a message of an administrative kind: its callback is a notice -/
theorem ofAct {m : InMsg} {x y : Sess} (hk : isAdminKind (kindOf m) = true) (a : Act m x y) : R x y := by
  cases a with
  | quiet hb sr rl => exact h.quiet x hb sr rl
  | refresh => exact h.notice x _ rfl
  | arm n => exact h.arm x n
  | callback _ _ => unfold cbOf; rw [if_pos hk]; exact h.notice x _ rfl
  | onLogon _ _ _ _ => exact h.notice x _ rfl
  | incrTarget => exact h.incrTarget x
  | setT n hn => exact h.setT x n hn
  | reply o ho => exact h.sendInReplyTo x o ho.kind
  | replay o ho => exact h.enqueueAndSend x o ho
  | reset _ => exact h.dropAndReset x
  | logonRe _ => exact h.dropAndSend x _

theorem ofDoes {m : InMsg} {k : Nat} {b : Bool} {s x : Sess} (hk : isAdminKind (kindOf m) = true) (d : Does m k b s x) : R s x :=
  Does.fold (R := fun _ _ => R) h.refl (fun r _ _ a => h.trans r (h.ofAct hk a)) (fun lo hi r => h.trans r (h.sendResendRequest _ lo hi))
    (fun r _ _ o => h.trans r (h.sendInReplyTo _ _ (by cases o <;> exact (by decide : "5" ∈ replyKinds))))
    (fun r => h.trans r (h.dropAndSend _ _)) (fun r _ _ => r) d

/-- the administrative kinds by the walk of SessEffects, the others are the field `plain` -/
theorem inSessionFixMsgIn (s : Sess) (m : InMsg) : R s (inSessionFixMsgIn s m).1 := by
  by_cases hk : isAdminKind (kindOf m) = true
  · exact h.ofDoes hk (Ret.inSessionFixMsgIn (Does.refl s)).does
  · have ne : ∀ k, isAdminKind k = true → kindOf m ≠ k := fun k ha e => hk (e ▸ ha)
    rw [inSession_other s m (ne _ (by decide)) (ne _ (by decide)) (ne _ (by decide)) (ne _ (by decide)) (ne _ (by decide))]
    exact h.plain s m

theorem logonFixMsgIn (s : Sess) (m : InMsg) : R s (logonFixMsgIn s m).1 := by
  by_cases hk : kindOf m = "A"
  · exact h.ofDoes (by rw [hk]; decide) (Ret.logonFixMsgIn (Does.refl s)).does
  · unfold Sess.logonFixMsgIn
    rw [if_pos (by simpa using hk)]
    exact h.refl s

theorem fixMsgInCore (s : Sess) (m : InMsg) : R s (fixMsgInCore s m).1 :=
  fixMsgInCore_inv (I := R s) (M := fun _ => True) (fun x m _ r => h.trans r (h.inSessionFixMsgIn x m))
    (fun x lo hi r => h.trans r (h.sendResendRequest x lo hi)) (fun x m _ r => h.trans r (h.logonFixMsgIn x m)) s m
    (fun _ _ => trivial) trivial (h.refl s)

end HandlerRel

structure StepRel (R : Sess → Sess → Prop) : Prop extends HandlerRel R where
  /-- the fields that only the state machine writes -/
  frame : ∀ (s : Sess) (st : SState) (out inboxOpen : Bool) (inbox : List InMsg) (pendingStop stopped : Bool)
    (lastChecked : Option Int),
    R s { s with st := st, out := out, inboxOpen := inboxOpen, inbox := inbox, pendingStop := pendingStop,
                 stopped := stopped, lastCheckedReset := lastChecked }
  dropQueue : ∀ s, R s (s.setToSend [])
  sendQueued : ∀ s, R s (sendQueued s)

namespace StepRel
variable (h : StepRel R)
include h

theorem setSt (s : Sess) (st : SState) : R s (s.setSt st) := h.frame s st _ _ _ _ _ _
theorem setOut (s : Sess) (b : Bool) : R s (s.setOut b) := h.frame s _ b _ _ _ _ _
theorem setInbox (s : Sess) (ib : List InMsg) : R s (s.setInbox ib) := h.frame s _ _ _ ib _ _ _
theorem closeInbox (s : Sess) : R s s.closeInbox := h.frame s _ _ false [] _ _ _
theorem setPendingStop (s : Sess) : R s s.setPendingStop := h.frame s _ _ _ _ true _ _
theorem setStopped (s : Sess) : R s s.setStopped := h.frame s _ _ _ _ _ true _
theorem setLastChecked (s : Sess) (now : Int) : R s (s.setLastChecked now) := h.frame s _ _ _ _ _ _ (some now)
theorem openConn (s : Sess) : R s s.openConn := h.trans (h.frame s _ true true [] _ _ _) (h.setSentReset _ false)

theorem discMid (s : Sess) : R s (discMid s) := by
  unfold Sess.discMid
  dsimp only
  refine h.trans ?_ (ite_both (h.trans (h.setOut _ false) (h.notice _ _ rfl)) (h.refl _))
  refine h.trans ?_ (ite_both (h.dropAndReset _) (h.refl _))
  exact ite_both (h.notice s _ rfl) (h.refl s)

theorem toMachine : Machine (fun _ => True) R (fun _ => True) (fun _ => True) where
  refl := h.refl
  trans := h.trans
  latent := trivial
  notSessionTime := trivial
  setSt := fun s next _ _ => ⟨h.setSt s next, trivial⟩
  closeInbox := fun s _ => ⟨h.closeInbox s, trivial⟩
  setStopped := fun s _ => ⟨h.setStopped s, trivial⟩
  arm := fun s n _ => ⟨h.arm s n, trivial⟩
  discMid := fun s _ => ⟨h.discMid s, trivial⟩
  sendLogout := fun s _ => ⟨h.sendLogout s, trivial⟩
  dropAndReset := fun s _ => ⟨h.dropAndReset s, trivial⟩
  pop := fun s _ rest _ _ => ⟨trivial, h.setInbox s rest, trivial⟩
  fixMsgIn := fun s m _ _ => ⟨h.fixMsgInCore s m, trivial, trivial⟩

theorem setState (fuel : Nat) (s : Sess) (next : SState) : R s (setState fuel s next) :=
  ((h.toMachine.stateMachine fuel).1 s next trivial trivial).1
theorem incoming (fuel : Nat) (s : Sess) (m : Option InMsg) : R s (incoming fuel s m) :=
  ((h.toMachine.stateMachine fuel).2.2.1 s m trivial fun _ _ => trivial).1
theorem checkSessionTime (fuel : Nat) (s : Sess) (a b : Bool) : R s (checkSessionTime fuel s a b) :=
  ((h.toMachine.stateMachine fuel).2.2.2 s a b trivial).1

theorem checkResetTime (s : Sess) (now : Int) : R s (checkResetTime s now) := by
  unfold Sess.checkResetTime
  split
  · exact h.refl s
  · split
    · exact h.setLastChecked s now
    · split
      · exact h.setLastChecked s now
      · exact h.trans (ite_both (h.dropAndSend s _) (h.refl s)) (h.setLastChecked _ now)

theorem connectBase (s : Sess) : R s (connectBase s) :=
  h.trans (h.trans (h.openConn s) (ite_both (h.notice _ _ rfl) (h.refl _))) (ite_both (h.dropAndReset _) (h.refl _))

theorem connect (s : Sess) : R s (connect s).1 :=
  Sess.connect_cases s (motive := fun r => R s r.1) (fun _ => h.refl s) (fun _ _ => ite_both (h.dropAndReset s) (h.refl s))
    (fun _ _ _ => h.trans (h.openConn s) (h.setSt _ _))
    (fun _ _ _ => h.trans (h.trans (h.connectBase s) (h.dropAndSend _ _)) (h.setSt _ _))

/-- one event; what the application submits through `send` is the caller's business -/
theorem stepCore (s : Sess) (e : Ev) (hsend : ∀ m, e = .send m → R s (queueForSend s m)) : R s (stepCore s e).1 :=
  -- `okReset := True`; the arms in the order of `MachineBase.stepCore`'s hypotheses
  (h.toMachine.toMachineBase.stepCore True (fun _ s _ => ⟨h.dropAndReset s, trivial⟩) s e trivial
    (fun _ => ⟨h.connect s, trivial⟩) (fun _ _ => trivial) (fun _ _ => ⟨h.setInbox s _, trivial⟩)
    (fun x ev _ => ⟨h.timeoutCore x ev, trivial, trivial⟩) (fun x _ => ⟨h.setPendingStop x, trivial⟩)
    (fun x _ => ⟨h.stopNext x, trivial, trivial⟩) (fun m he => ⟨hsend m he, trivial⟩)
    (fun x _ => ⟨h.sendQueued x, trivial⟩) (fun x _ => ⟨h.dropQueue x, trivial⟩) (fun _ _ _ => Or.inr trivial)
    (fun now _ => ⟨h.checkResetTime s now, trivial⟩)).1

end StepRel

end Qfx.Sess
