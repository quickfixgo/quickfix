/- C10: messages built through the API — where the header and trailer comparators put 8, 9, 35 and 10; the section invariant `SecProper`
   (owned fields, 8 / 9 / 10 only as single fields in their section) and `Built`; `FieldMap.sumOf` (`length`, `total`) is blind to
   the fields `cook` puts; what `cook` does to such a message -/
import Qfx.Lemmas.Codec
namespace Qfx

/-- not 8 / 9 / 35, the tags the header comparator ranks (`isSpecialTag` is another set: 8 / 9 / 10) -/
def nonSpecial (t : Tag) : Bool := !(t == 8 || t == 9 || t == 35)

theorem nonSpecial_iff (t : Int) : nonSpecial t = true ↔ t ≠ 8 ∧ t ≠ 9 ∧ t ≠ 35 := by
  simp [nonSpecial, and_assoc]

theorem rank8 : headerRank 8 = 1 := by simp [headerRank]
theorem rank9 : headerRank 9 = 2 := by simp [headerRank]
theorem rank35 : headerRank 35 = 3 := by simp [headerRank]

theorem special_iff (t : Int) : nonSpecial t = false ↔ t = 8 ∨ t = 9 ∨ t = 35 := by
  simp only [nonSpecial, Bool.not_eq_false', Bool.or_eq_true, beq_iff_eq, or_assoc]

theorem header_sorted_decomp (ks : List Tag) (hn : ks.Nodup) (h8 : (8 : Int) ∈ ks) (h9 : (9 : Int) ∈ ks) (h35 : (35 : Int) ∈ ks) :
    sortTags .header ks = 8 :: 9 :: 35 :: sortTags .normal (ks.filter nonSpecial) := by
  have rk : ∀ t : Tag, nonSpecial t = true → headerRank t = 4294967295 := fun t h => by
    rw [nonSpecial_iff] at h; simp [headerRank, h.1, h.2.1, h.2.2]
  have sp : ∀ t : Tag, nonSpecial t = false → headerRank t ≤ 3 := fun t h => by
    rcases (special_iff t).1 h with rfl | rfl | rfl <;> simp [headerRank]
  rw [sortTags_split .header .header .normal rfl (fun t => !nonSpecial t) ks
    (fun a b ha hb => by
      have := sp a (by simpa using ha); have := rk b (by simpa using hb)
      rw [OrdKind.le_iff]; simp only [OrdKind.key]; omega)
    (fun _ _ _ _ h => h)
    (fun a b ha hb h => by
      rw [OrdKind.le_iff] at h ⊢
      simpa [OrdKind.key, rk a (by simpa using ha), rk b (by simpa using hb)] using h),
    sortTags_filter_eq .header rfl hn _ [8, 9, 35] (by decide) (fun x => ?_) (by decide)]
  · simp only [Bool.not_not]; rfl
  · simp only [List.mem_cons, List.not_mem_nil, or_false, Bool.not_eq_true', special_iff]
    exact ⟨fun h => ⟨by rcases h with rfl | rfl | rfl <;> assumption, h⟩, And.right⟩

theorem trailer_sorted_decomp (ks : List Tag) (hn : ks.Nodup) (h10 : (10 : Int) ∈ ks) :
    sortTags .trailer ks = sortTags .trailer (ks.filter (fun t => t != 10)) ++ [10] := by
  rw [sortTags_split .trailer .trailer .trailer rfl (fun t => t != 10) ks
    (fun a b ha hb => by
      have ha' : a ≠ 10 := by simpa using ha
      have hb' : b = 10 := by simpa using hb
      rw [OrdKind.le_iff]; simp [OrdKind.key, ha', hb'])
    (fun _ _ _ _ h => h) (fun _ _ _ _ h => h),
    sortTags_filter_eq .trailer rfl hn (fun t => !(t != 10)) [10] (by simp) (fun x => by simp; rintro rfl; exact h10) (List.pairwise_singleton _ _)]

theorem sum_map_alInsert_zero {β} (g : β → Nat) (l : List (Tag × β)) (k : Tag) (v : β)
    (hv : g v = 0) (hold : ∀ o, alFind l k = some o → g o = 0) :
    ((alInsert l k v).map (fun p => g p.2)).sum = (l.map (fun p => g p.2)).sum := by
  induction l with
  | nil => simp [alInsert, hv]
  | cons p r ih =>
    obtain ⟨k', x⟩ := p
    by_cases h : k' = k
    · have hx : g x = 0 := hold x (by simp [alFind, h])
      simp [alInsert, h, hv, hx]
    · have := ih (fun o ho => hold o (by simpa [alFind, h] using ho))
      simp [alInsert, h, this]

/-- what `getOrCreate` + `initField` do to a section without views: `FieldMap.add` of the new owned field -/
def FieldMap.put (m : FieldMap) (t : Tag) (f : Field) : FieldMap :=
  { m with tags := if (alFind m.lookup t).isSome then m.tags else m.tags ++ [t], lookup := alInsert m.lookup t f }

def FieldMap.allOwned (m : FieldMap) : Prop := ∀ k f, alFind m.lookup k = some f → ∃ l, f = .owned l

theorem setTV_owned_form {m : FieldMap} (ho : m.allOwned) {tv : TagValue} {r : SetRes} (h : m.setTV tv = .ok r) :
    r.fm = m.put tv.tag (.owned [tv]) ∧ r.arrWrite = none := by
  revert h
  -- case1 / case4: a field is put; case2: fault; case3: a view (excluded by `ho`)
  fun_cases FieldMap.setTV m tv with
  | case1 x y hf | case4 hf => intro h; cases h; simp [FieldMap.put, hf]
  | case2 => nofun
  | case3 s n hf => obtain ⟨l, hl⟩ := ho _ _ hf; cases hl

/-- every field of the map is an owned non-empty TagValue list, or a non-empty view inside a field array of length `n`
    (`n = 0`: owned fields only — messages and group entries built through the API) -/
def FMOK (n : Nat) (fm : FieldMap) : Prop :=
  ∀ k f, alFind fm.lookup k = some f → (∃ tv rest, f = .owned (tv :: rest)) ∨ (∃ s l, f = .view s l ∧ 1 ≤ l ∧ s + l ≤ n)

theorem FMOK.empty (n : Nat) (o : OrdKind) : FMOK n (FieldMap.empty o) := by intro k f h; simp [FieldMap.empty, alFind] at h

theorem FMOK.insert {n : Nat} {fm : FieldMap} (h : FMOK n fm) (t : Tag) (g : Field) (tags : List Tag)
    (hg : (∃ tv rest, g = .owned (tv :: rest)) ∨ (∃ s l, g = .view s l ∧ 1 ≤ l ∧ s + l ≤ n)) :
    FMOK n { fm with lookup := alInsert fm.lookup t g, tags := tags } :=
  alFind_insert_all h hg

theorem FMOK.setTV {n : Nat} {fm : FieldMap} (h : FMOK n fm) (tv : TagValue) : ∃ r, fm.setTV tv = .ok r ∧ FMOK n r.fm := by
  unfold FieldMap.setTV
  cases hf : alFind fm.lookup tv.tag with
  | none => exact ⟨_, rfl, h.insert _ _ _ (Or.inl ⟨_, _, rfl⟩)⟩
  | some f =>
    rcases h _ _ hf with ⟨x, rest, e⟩ | ⟨s, l, e, h1, h2⟩
    · subst e; exact ⟨_, rfl, h.insert _ _ _ (Or.inl ⟨_, _, rfl⟩)⟩
    · subst e; exact ⟨_, rfl, h.insert _ _ _ (Or.inr ⟨s, 1, rfl, by omega, by omega⟩)⟩

theorem FMOK.setGroup {n : Nat} {fm : FieldMap} (h : FMOK n fm) (t : Tag) (tv : TagValue) (rest : List TagValue) :
    FMOK n (fm.setGroup t (tv :: rest)) :=
  h.insert _ _ _ (Or.inl ⟨_, _, rfl⟩)

theorem FMOK.allOwned {fm : FieldMap} (h : FMOK 0 fm) : fm.allOwned := by
  intro k f hf
  rcases h k f hf with ⟨tv, l, e⟩ | ⟨s, l, _, h1, h2⟩
  · exact ⟨_, e⟩
  · omega

theorem FMOK.setBytes_put {fm : FieldMap} (h : FMOK 0 fm) (t : Tag) (v : Bytes) :
    ∃ sr, fm.setBytes t v = .ok sr ∧ sr.fm = fm.put t (.owned [TagValue.init t v]) := by
  obtain ⟨sr, hsr, _⟩ := h.setTV (TagValue.init t v)
  exact ⟨sr, hsr, (setTV_owned_form h.allOwned hsr).1⟩

theorem put_find_self (m : FieldMap) (t : Tag) (f : Field) : alFind (m.put t f).lookup t = some f := alFind_insert_self _ _ _
theorem put_find_other (m : FieldMap) (t t' : Tag) (f : Field) (h : t' ≠ t) : alFind (m.put t f).lookup t' = alFind m.lookup t' :=
  alFind_insert_other _ _ _ _ h

theorem put_ord (m : FieldMap) (t : Tag) (f : Field) : (m.put t f).ord = m.ord := rfl

theorem put_mem_tags {m : FieldMap} (h : FMInv m) (t : Tag) (f : Field) (x : Tag) :
    x ∈ (m.put t f).tags ↔ (x = t ∨ (alFind m.lookup x).isSome = true) := by
  have hi : FMInv (m.put t f) := h.add t f
  rw [hi.same x, mem_alKeys_iff]
  by_cases e : x = t
  · subst e; simp [put_find_self]
  · simp [put_find_other _ _ _ _ e, e]

/-- `keptSum` over the fields of the lookup map; `FieldMap.length` and `FieldMap.total` are the instances by `rfl` -/
def FieldMap.sumOf (p : TagValue → Bool) (g : TagValue → Nat) (arr : List TagValue) (m : FieldMap) : Nat :=
  (m.lookup.map (fun q => keptSum p g (q.2.items arr))).sum

theorem FieldMap.sumOf_put (p : TagValue → Bool) (g : TagValue → Nat) (arr : List TagValue) (m : FieldMap) (t : Tag) (f : Field)
    (hf : keptSum p g (f.items arr) = 0) (hold : ∀ o, alFind m.lookup t = some o → keptSum p g (o.items arr) = 0) :
    (m.put t f).sumOf p g arr = m.sumOf p g arr :=
  sum_map_alInsert_zero (fun x : Field => keptSum p g (x.items arr)) m.lookup t f hf hold

def isSpecialTag (t : Tag) : Prop := t = 8 ∨ t = 9 ∨ t = 10

/-- a section without views in which every field starts with a TagValue carrying the key, and TagValues tagged 8 / 9 / 10
    occur only as one-element fields under their own key, 8 and 9 in the header, 10 in the trailer -/
structure SecProper (s : Sec) (fm : FieldMap) : Prop where
  owned : fm.allOwned
  head : ∀ k l, alFind fm.lookup k = some (.owned l) → ∃ tv rest, l = tv :: rest ∧ tv.tag = k
  special : ∀ k l, alFind fm.lookup k = some (.owned l) → ∀ tv ∈ l, isSpecialTag tv.tag →
      l = [tv] ∧ k = tv.tag ∧ (tv.tag = 10 → s = .t) ∧ (tv.tag ≠ 10 → s = .h)

theorem SecProper.putOwned {s : Sec} {fm : FieldMap} (h : SecProper s fm) (t : Tag) (tv0 : TagValue) (rest : List TagValue)
    (h0 : tv0.tag = t)
    (hs : ∀ tv ∈ tv0 :: rest, isSpecialTag tv.tag → rest = [] ∧ (tv.tag = 10 → s = .t) ∧ (tv.tag ≠ 10 → s = .h)) :
    SecProper s (fm.put t (.owned (tv0 :: rest))) := by
  refine ⟨?_, ?_, ?_⟩
  · intro k f hf
    rcases alFind_insert_inv hf with ⟨_, rfl⟩ | hf
    · exact ⟨_, rfl⟩
    · exact h.owned k f hf
  · intro k l hf
    rcases alFind_insert_inv hf with ⟨rfl, e⟩ | hf
    · cases e; exact ⟨tv0, rest, rfl, h0⟩
    · exact h.head k l hf
  · intro k l hf x hx hsp
    rcases alFind_insert_inv hf with ⟨rfl, e⟩ | hf
    · cases e
      obtain ⟨hr, h1, h2⟩ := hs x hx hsp
      subst hr
      simp only [List.mem_singleton] at hx; subst hx
      exact ⟨rfl, h0.symm, h1, h2⟩
    · exact h.special k l hf x hx hsp

theorem SecProper.put {s : Sec} {fm : FieldMap} (h : SecProper s fm) (tv : TagValue)
    (hs : isSpecialTag tv.tag → (tv.tag = 10 → s = .t) ∧ (tv.tag ≠ 10 → s = .h)) : SecProper s (fm.put tv.tag (.owned [tv])) :=
  h.putOwned tv.tag tv [] rfl (fun x hx hsp => by simp only [List.mem_singleton] at hx; subst hx; exact ⟨rfl, hs hsp⟩)

theorem SecProper.clean {s : Sec} {fm : FieldMap} (h : SecProper s fm) (arr : List TagValue) (k : Tag) (f : Field)
    (hf : alFind fm.lookup k = some f) (hk : ¬ isSpecialTag k) : ∀ tv ∈ f.items arr, ¬ isSpecialTag tv.tag := by
  obtain ⟨l, rfl⟩ := h.owned k f hf
  intro tv htv hsp
  exact hk ((h.special k l hf tv htv hsp).2.1 ▸ hsp)

theorem SecProper.single {s : Sec} {fm : FieldMap} (h : SecProper s fm) (k : Tag) (hk : isSpecialTag k) (o : Field)
    (ho : alFind fm.lookup k = some o) : ∃ tv, o = .owned [tv] ∧ tv.tag = k := by
  obtain ⟨l, rfl⟩ := h.owned k o ho
  obtain ⟨tv, rest, rfl, ht⟩ := h.head k _ ho
  exact ⟨tv, by rw [(h.special k _ ho tv (by simp) (ht ▸ hk)).1], ht⟩

theorem SecProper.sumOf_put_skipped {s : Sec} {fm : FieldMap} (h : SecProper s fm) (p : TagValue → Bool) (g : TagValue → Nat)
    (arr : List TagValue) (t : Tag) (tv : TagValue) (hsp : isSpecialTag t) (hp : ∀ x : TagValue, x.tag = t → p x = false)
    (ht : tv.tag = t) : (fm.put t (.owned [tv])).sumOf p g arr = fm.sumOf p g arr := by
  refine FieldMap.sumOf_put p g arr fm t _ (by simp [keptSum, Field.items, hp tv ht]) (fun o ho => ?_)
  obtain ⟨x, rfl, hx⟩ := h.single t hsp o ho
  simp [keptSum, Field.items, hp x hx]

theorem SecProper.put_special_length {s : Sec} {fm : FieldMap} (h : SecProper s fm) (arr : List TagValue) (t : Tag) (tv : TagValue)
    (ht : tv.tag = t) (hsp : isSpecialTag t) : (fm.put t (.owned [tv])).length arr = fm.length arr :=
  h.sumOf_put_skipped _ TagValue.length arr t tv hsp (fun x hx => by rcases hsp with e | e | e <;> simp [hx, e]) ht

theorem SecProper.put_10_total {s : Sec} {fm : FieldMap} (h : SecProper s fm) (arr : List TagValue) (tv : TagValue)
    (h10 : tv.tag = 10) : (fm.put 10 (.owned [tv])).total arr = fm.total arr :=
  h.sumOf_put_skipped _ TagValue.total arr 10 tv (Or.inr (Or.inr rfl)) (fun x hx => by simp [hx]) h10

theorem SecProper.key_special {s : Sec} {fm : FieldMap} (h : SecProper s fm) (k : Tag) (f : Field)
    (hf : alFind fm.lookup k = some f) (hk : isSpecialTag k) : (k = 10 → s = .t) ∧ (k ≠ 10 → s = .h) := by
  obtain ⟨tv, rfl, ht⟩ := h.single k hk f hf
  have := h.special k _ hf tv (by simp) (ht ▸ hk)
  rw [ht] at this
  exact ⟨this.2.2.1, this.2.2.2⟩

/-- a message as the API calls leave it (not only after `build`): bookkeeping intact, every section proper -/
structure Built (m : Message) : Prop where
  inv : MInv m
  ph : SecProper .h m.header
  pb : SecProper .b m.body
  pt : SecProper .t m.trailer

theorem Built.header8 {m : Message} (hb : Built m) (h8 : (alFind m.header.lookup 8).isSome = true) :
    ∃ tv8, alFind m.header.lookup 8 = some (.owned [tv8]) ∧ tv8.tag = 8 := by
  obtain ⟨f8, hf8⟩ := Option.isSome_iff_exists.1 h8
  obtain ⟨tv, rfl, ht⟩ := hb.ph.single 8 (Or.inl rfl) f8 hf8
  exact ⟨tv, hf8, ht⟩

theorem Built.sec {m : Message} (hb : Built m) (s : Sec) : SecProper s (m.sec s) := by
  cases s
  · exact hb.ph
  · exact hb.pb
  · exact hb.pt

theorem Built.secOwned {m : Message} (hb : Built m) (s : Sec) : (m.sec s).allOwned := (hb.sec s).owned

theorem setBytes_built_form {m m' : Message} (hb : Built m) (s : Sec) (t : Tag) (v : Bytes)
    (h : m.setBytes Fixes.cur s t v = .ok m') : m' = m.withSec s ((m.sec s).put t (.owned [TagValue.init t v])) := by
  simp only [Message.setBytes, Fixes.cur, if_true, FieldMap.setBytes] at h
  split at h
  · rename_i r hr
    obtain ⟨hfm, harr⟩ := setTV_owned_form (hb.secOwned s) hr
    rw [harr] at h
    injection h with h
    rw [← h, hfm]; rfl
  · cases h
  · cases h

theorem SecProper.empty (s : Sec) (o : OrdKind) : SecProper s (FieldMap.empty o) :=
  ⟨fun _ _ h => (by cases h), fun _ _ h => (by cases h), fun _ _ h => (by cases h)⟩

/-- a property of the map that only restricts the entries present survives anything that shrinks the map pointwise -/
theorem SecProper.of_sub {s : Sec} {fm fm' : FieldMap} (h : SecProper s fm)
    (hsub : ∀ k f, alFind fm'.lookup k = some f → alFind fm.lookup k = some f) : SecProper s fm' :=
  ⟨fun k f hf => h.owned k f (hsub k f hf), fun k l hf => h.head k l (hsub k _ hf), fun k l hf => h.special k l (hsub k _ hf)⟩

theorem alFind_remove_sub (fm : FieldMap) (t k : Tag) (f : Field) (hf : alFind (fm.remove t).lookup k = some f) :
    alFind fm.lookup k = some f := by
  by_cases e : k = t
  · subst e; rw [FieldMap.remove, alFind_erase_self] at hf; cases hf
  · rwa [FieldMap.remove, alFind_erase_other _ _ _ e] at hf

theorem SecProper.remove {s : Sec} {fm : FieldMap} (h : SecProper s fm) (t : Tag) : SecProper s (fm.remove t) :=
  h.of_sub (alFind_remove_sub fm t)

theorem SecProper.clear {s : Sec} {fm : FieldMap} : SecProper s fm.clear :=
  ⟨fun _ _ h => (by cases h), fun _ _ h => (by cases h), fun _ _ h => (by cases h)⟩

theorem alFind_copy (arr : List TagValue) (l : List (Tag × Field)) (t : Tag) :
    alFind (l.map (fun p => (p.1, Field.owned (p.2.items arr)))) t = (alFind l t).map (fun f => Field.owned (f.items arr)) := by
  induction l with
  | nil => rfl
  | cons p q ihq =>
    obtain ⟨k, f⟩ := p
    by_cases hk : k = t
    · simp [alFind, hk]
    · simpa [alFind, hk] using ihq

theorem alFind_copy_sub {fm : FieldMap} (ho : fm.allOwned) (arr : List TagValue) (k : Tag) (f : Field)
    (hf : alFind (fm.copy arr).lookup k = some f) : alFind fm.lookup k = some f := by
  simp only [FieldMap.copy, alFind_copy] at hf
  cases hfind : alFind fm.lookup k with
  | none => rw [hfind] at hf; cases hf
  | some g =>
    rw [hfind] at hf
    obtain ⟨l, hl⟩ := ho k g hfind
    subst hl
    exact hf

theorem SecProper.copy {s : Sec} {fm : FieldMap} (h : SecProper s fm) (arr : List TagValue) : SecProper s (fm.copy arr) :=
  h.of_sub (alFind_copy_sub h.owned arr)

theorem SecProper.write {s : Sec} {fm : FieldMap} (h : SecProper s fm) (arr : List TagValue) : SecProper s (fm.write arr).2 :=
  ⟨h.owned, h.head, h.special⟩

/-- a group field: the NumInGroup TagValue carries the (non-special) key, no member is tagged 8 / 9 / 10 -/
theorem SecProper.setGroup {s : Sec} {fm : FieldMap} (h : SecProper s fm) (t : Tag) (tv0 : TagValue) (rest : List TagValue)
    (h0 : tv0.tag = t) (hns : ∀ tv ∈ tv0 :: rest, ¬ isSpecialTag tv.tag) : SecProper s (fm.setGroup t (tv0 :: rest)) :=
  h.putOwned t tv0 rest h0 (fun tv htv hsp => absurd hsp (hns tv htv))

theorem Built.new : Built Message.new := ⟨MInv.new, SecProper.empty _ _, SecProper.empty _ _, SecProper.empty _ _⟩

theorem Built.withSec {m : Message} (hb : Built m) (s : Sec) (fm : FieldMap) (hi : MInv (m.withSec s fm)) (hp : SecProper s fm) :
    Built (m.withSec s fm) := by
  cases s
  · exact ⟨hi, hp, hb.pb, hb.pt⟩
  · exact ⟨hi, hb.ph, hp, hb.pt⟩
  · exact ⟨hi, hb.ph, hb.pb, hp⟩

/-- "tags in the proper section": 8 and 9 only in the header, 10 only in the trailer; group fields and their members are
    never tagged 8 / 9 / 10 -/
def MOp.proper : MOp → Prop
  | .set s t _ => isSpecialTag t → (t = 10 → s = .t) ∧ (t ≠ 10 → s = .h)
  | .setInt s t _ => isSpecialTag t → (t = 10 → s = .t) ∧ (t ≠ 10 → s = .h)
  | .setBool s t _ => isSpecialTag t → (t = 10 → s = .t) ∧ (t ≠ 10 → s = .h)
  | .setGroup _ t tm es => ∀ tvs, writeGroup t tm es = .ok tvs → ∀ tv ∈ tvs, ¬ isSpecialTag tv.tag
  | _ => True

theorem Built.setBytes {m m' : Message} (hb : Built m) (s : Sec) (t : Tag) (v : Bytes)
    (hp : isSpecialTag t → (t = 10 → s = .t) ∧ (t ≠ 10 → s = .h)) (h : m.setBytes Fixes.cur s t v = .ok m') : Built m' := by
  have hi := hb.inv.setBytes s t v h
  have e := setBytes_built_form hb s t v h
  rw [e] at hi ⊢
  exact hb.withSec s _ hi ((hb.sec s).put (TagValue.init t v) hp)

theorem build_cook {fx : Fixes} {m m' : Message} {bytes : Bytes} (h : m.build fx = .ok (bytes, m')) :
    ∃ m2, m.cook fx (m.body.length m.fields) (m.body.total m.fields) = .ok m2 ∧
      bytes = (m2.writeAll none).1 ∧ m' = (m2.writeAll none).2 := by
  revert h
  fun_cases Message.build fx m with
  | case1 m1 h1 => intro h; injection h with h; exact ⟨_, h1, by rw [h], by rw [h]⟩
  | _ => nofun

theorem cook_built {m m2 : Message} (hb : Built m) (bl bt : Nat) (h : m.cook Fixes.cur bl bt = .ok m2) :
    ∃ (H' T' : FieldMap) (C : Nat),
      H' = m.header.put 9 (.owned [TagValue.init 9 (fmtInt ((m.header.length m.fields + bl + m.trailer.length m.fields : Nat) : Int))]) ∧
      C = (H'.total m.fields + bt + m.trailer.total m.fields) % 256 ∧
      T' = m.trailer.put 10 (.owned [TagValue.init 10 (digitsW 3 C)]) ∧
      m2 = { m with header := H', trailer := T' } ∧ Built m2 := by
  simp only [Message.cook, Message.setInt] at h
  split at h
  case h_2 => cases h
  case h_3 => cases h
  rename_i m1 h1
  have hb1 := hb.setBytes .h 9 _ (fun _ => ⟨fun e => absurd e (by decide), fun _ => rfl⟩) h1
  have hb2 := hb1.setBytes .t 10 _ (fun _ => ⟨fun _ => rfl, fun e => absurd rfl e⟩) h
  have e1 := setBytes_built_form hb _ _ _ h1
  have e2 := setBytes_built_form hb1 _ _ _ h
  exact ⟨_, _, _, rfl, rfl, rfl, by rw [e2, e1]; rfl, hb2⟩

theorem Built.writeAll {m : Message} (hb : Built m) : Built (m.writeAll none).2 :=
  ⟨hb.inv.writeAll, hb.ph.write m.fields, hb.pb.write m.fields, hb.pt.write m.fields⟩

theorem Built.build {m m' : Message} (hb : Built m) (bytes : Bytes) (h : m.build Fixes.cur = .ok (bytes, m')) : Built m' := by
  obtain ⟨m2, hcook, _, hw⟩ := build_cook h
  obtain ⟨_, _, _, _, _, _, _, hb2⟩ := cook_built hb _ _ hcook
  rw [hw]; exact hb2.writeAll

/-- `SetGroup` stores what `Write` emitted, the count field first -/
theorem setGroup_form {m m' : Message} {s : Sec} {t : Tag} {tm : List Item} {es : List (List GFld)} (h : m.setGroup s t tm es = .ok m') :
    ∃ W, writeGroup t tm es = .ok (countTV t es.length :: W) ∧ m' = m.withSec s ((m.sec s).setGroup t (countTV t es.length :: W)) := by
  revert h
  simp only [Message.setGroup]
  fun_cases writeGroup t tm es with
  | case1 W hW => intro h; cases h; exact ⟨W, rfl, rfl⟩
  | _ => nofun

theorem MOp.apply_built {m m' : Message} (hb : Built m) (op : MOp) (hp : op.proper) (h : op.apply m = .ok m') : Built m' := by
  revert h
  -- the cases follow the constructors of `MOp` (Codec.lean); case8: `build` succeeded
  fun_cases MOp.apply m op with
  | case1 s t v => exact hb.setBytes s t v hp
  | case2 s t v => exact hb.setBytes s t _ hp
  | case3 s t v => exact hb.setBytes s t _ hp
  | case4 s t tm es =>
    intro h
    have hi := hb.inv.setGroup s t tm es h
    obtain ⟨W, hw, rfl⟩ := setGroup_form h
    exact hb.withSec s _ hi ((hb.sec s).setGroup t _ _ rfl (hp _ hw))
  | case5 s t =>
    intro h; cases h
    have hi := hb.inv.remove s t
    simp only [Message.remove, Fixes.cur, if_true] at hi ⊢
    exact hb.withSec s _ hi ((hb.sec s).remove t)
  | case6 s => intro h; cases h; exact hb.withSec s _ (hb.inv.clear s) SecProper.clear
  | case7 =>
    intro h
    have hi := hb.inv.copy h
    simp only [Message.copy, copyFM, Fixes.cur, if_true] at h
    cases h
    exact ⟨hi, hb.ph.copy _, hb.pb.copy _, hb.pt.copy _⟩
  | case8 r hr => intro h; cases h; exact hb.build r.1 hr
  | _ => nofun

theorem runMOps_built (ops : List MOp) : ∀ (m m' : Message), Built m → (∀ op ∈ ops, op.proper) → runMOps ops m = .ok m' → Built m' :=
  runMOps_induct (fun op hb hp h => MOp.apply_built hb op hp h) ops

theorem alFind_of_mem_nodup {β} (l : List (Tag × β)) (h : (alKeys l).Nodup) (p : Tag × β) (hp : p ∈ l) : alFind l p.1 = some p.2 := by
  induction l with
  | nil => simp at hp
  | cons q r ih =>
    obtain ⟨k, x⟩ := q
    have hcons : alKeys ((k, x) :: r) = k :: alKeys r := rfl
    rw [hcons, List.nodup_cons] at h
    rcases List.mem_cons.1 hp with e | e
    · subst e; simp [alFind]
    · have hk : k ≠ p.1 := by
        intro e'; apply h.1; rw [e']; exact List.mem_map_of_mem e
      simp [alFind, hk, ih h.2 e]

theorem copy_id {fm : FieldMap} (hi : FMInv fm) (ho : fm.allOwned) (arr : List TagValue) : fm.copy arr = fm := by
  have : fm.lookup.map (fun p => (p.1, Field.owned (p.2.items arr))) = fm.lookup := by
    have hid : ∀ p ∈ fm.lookup, (fun p : Tag × Field => (p.1, Field.owned (p.2.items arr))) p = p := by
      intro p hp
      obtain ⟨l, hl⟩ := ho p.1 p.2 (alFind_of_mem_nodup _ hi.keysNodup p hp)
      obtain ⟨k, f⟩ := p
      simp only at hl; subst hl; rfl
    rw [List.map_congr_left hid]; simp
  simp only [FieldMap.copy, this]

/-- a message built through the API holds no parsed field array and no raw buffer -/
structure Plain (m : Message) : Prop where
  nofields : m.fields = []
  noraw : m.raw = none

theorem Plain.new : Plain Message.new := ⟨rfl, rfl⟩

theorem Plain.withSec {m : Message} (h : Plain m) (s : Sec) (fm : FieldMap) : Plain (m.withSec s fm) := by
  cases s <;> exact ⟨h.nofields, h.noraw⟩

theorem copy_self (m : Message) (hb : Built m) (hp : Plain m) : m.copy Fixes.cur = .ok m := by
  simp only [Message.copy, copyFM, Fixes.cur, if_true, copy_id hb.inv.h hb.ph.owned, copy_id hb.inv.b hb.pb.owned,
    copy_id hb.inv.t hb.pt.owned, hp.nofields, List.map_nil]
  have : m = { header := m.header, body := m.body, trailer := m.trailer, bodyBytes := m.bodyBytes, fields := [], raw := none } := by
    have h1 := hp.nofields; have h2 := hp.noraw
    cases m; simp only at h1 h2; subst h1; subst h2; rfl
  rw [← this]

theorem MOp.apply_plain {m m' : Message} (hb : Built m) (hp : Plain m) (op : MOp) (h : op.apply m = .ok m') : Plain m' := by
  revert h
  -- cases as in `MOp.apply_built`
  fun_cases MOp.apply m op with
  | case1 s t v => intro h; rw [setBytes_built_form hb s t v h]; exact hp.withSec _ _
  | case2 s t v => intro h; rw [setBytes_built_form hb s t _ h]; exact hp.withSec _ _
  | case3 s t v => intro h; rw [setBytes_built_form hb s t _ h]; exact hp.withSec _ _
  | case4 s t tm es => intro h; obtain ⟨W, _, rfl⟩ := setGroup_form h; exact hp.withSec _ _
  | case5 s t => intro h; cases h; exact hp.withSec _ _
  | case6 s => intro h; cases h; exact hp.withSec _ _
  | case7 => intro h; rw [copy_self m hb hp] at h; cases h; exact hp
  | case8 r hr =>
    intro h; cases h
    obtain ⟨m2, hcook, _, hw⟩ := build_cook hr
    obtain ⟨_, _, _, _, _, _, e2, _⟩ := cook_built hb _ _ hcook
    rw [hw, e2]
    exact ⟨hp.nofields, hp.noraw⟩
  | _ => nofun

theorem runMOps_plain (ops : List MOp) : ∀ (m m' : Message), Built m → Plain m → (∀ op ∈ ops, op.proper) →
    runMOps ops m = .ok m' → Built m' ∧ Plain m' :=
  fun m m' hb hp => runMOps_induct (I := fun m => Built m ∧ Plain m)
    (fun op h hpr ha => ⟨MOp.apply_built h.1 op hpr ha, MOp.apply_plain h.1 h.2 op ha⟩) ops m m' ⟨hb, hp⟩

end Qfx
