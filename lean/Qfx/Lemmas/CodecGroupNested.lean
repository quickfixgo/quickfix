/- C13: `RepeatingGroup.Read` on groups whose members may themselves be repeating groups — compositional over the nesting depth:
   the members of one entry (`readLoop_members`), then the entries (`readLoop_entries`), a nested group that reads back being a member;
   the whole Read is `readGroup_blocks`.  Second half: the Write side in the same terms — what the setter calls of an entry contribute
   (`blockData`, `latestB`, `canonB`), `writeEntries_blocks`, and Write then Read, `roundtrip_nested`.  Last: templates without nesting as
   the case of one-field members (`toBlocks`, `readGroup_flat`, `read_canon_flat`, `writeEntries_flat`).
   `S` is the set of tags that may stand right behind a nested group: it contains this level's template tags and the tag of whatever
   follows the group, and avoids the tags inside the nested templates.  `9223372036854775808` = 2^63 bounds counts that Go holds in an `int`. -/
import Qfx.Lemmas.CodecGroup
namespace Qfx

/-- one member of an entry on the wire: the TagValues it occupies (one for an element, count + entries for a nested group) -/
structure Block where
  tag : Tag
  tvs : List TagValue

def serBlocks (e : List Block) : List TagValue := e.flatMap (·.tvs)

/-- a nested group's wire form `W` reads back (and is skipped) whenever what follows starts with a tag allowed by `S` -/
def NestedOK (S : Tag → Prop) (gtm : List Item) (W : List TagValue) : Prop :=
  ∀ fuel after, fuel ≥ 2 * W.length + 1 → (∀ f r, after = f :: r → S f.tag) →
    ∃ gs, readGroup fuel gtm (W ++ after) = .ok (after, gs)

/-- a well-formed member block for the template: an element field, or a nested group that reads back -/
def BlockOK (S : Tag → Prop) (tmpl : List Item) (b : Block) : Prop :=
  (∃ tv t, b.tvs = [tv] ∧ tv.tag = b.tag ∧ findItem tmpl b.tag = some (.elem t)) ∨
  (∃ t gtm t0 W, findItem tmpl b.tag = some (.group t gtm) ∧ b.tvs = t0 :: W ∧ t0.tag = b.tag ∧ NestedOK S gtm b.tvs)

/-- repeating_group.go files under each tag the WHOLE remaining slice (`tvRange := tv`), not the member alone: hence `++ after` / `∃ tail` -/
def putAllB : GEntry → List Block → List TagValue → GEntry
  | g, [], _ => g
  | g, b :: r, after => putAllB (g.put b.tag (b.tvs ++ (serBlocks r ++ after))) r after

def readSpecB (after : List TagValue) : List (List Block) → List GEntry
  | [] => []
  | e :: es => putAllB GEntry.empty e ((es.flatMap serBlocks) ++ after) :: readSpecB after es

theorem readSpecB_length (after : List TagValue) (es : List (List Block)) : (readSpecB after es).length = es.length := by
  induction es with
  | nil => rfl
  | cons e r ih => simp [readSpecB, ih]

/-- an entry: the delimiter element first, then blocks that are not the delimiter -/
def EntryOKB (S : Tag → Prop) (d : Tag) (tmpl : List Item) (e : List Block) : Prop :=
  ∃ tv e', e = ⟨d, [tv]⟩ :: e' ∧ tv.tag = d ∧ ∀ b ∈ e', b.tag ≠ d ∧ BlockOK S (.elem d :: tmpl) b

theorem step_group (fuel : Nat) (d : Item) (tmpl : List Item) (f : TagValue) (rest tv' : List TagValue) (gs : List GEntry)
    (done : List GEntry) (g : GEntry) (t : Tag) (gtm : List Item)
    (hf : findItem (d :: tmpl) f.tag = some (.group t gtm)) (hd : f.tag ≠ d.tag)
    (hr : readGroup fuel gtm (f :: rest) = .ok (tv', gs)) :
    readLoop (fuel + 1) (d :: tmpl) (f :: rest) done (some g) =
      readLoop fuel (d :: tmpl) tv' done (some (g.put f.tag (f :: rest))) := by
  simp [readLoop, hf, hd, hr]

theorem findItem_some_tag (tmpl : List Item) (t : Tag) (it : Item) (h : findItem tmpl t = some it) : it.tag = t ∧ t ∈ tmplTags tmpl := by
  fun_induction findItem tmpl t with
  | case1 => cases h
  | case2 it0 r => cases h; exact ⟨rfl, List.mem_cons_self ..⟩
  | case3 it0 r t _ ih => exact ⟨(ih h).1, List.mem_cons_of_mem _ (ih h).2⟩

theorem BlockOK.head {S : Tag → Prop} {tmpl : List Item} {b : Block} (h : BlockOK S tmpl b) :
    ∃ t0 W, b.tvs = t0 :: W ∧ t0.tag = b.tag ∧ b.tag ∈ tmplTags tmpl := by
  rcases h with ⟨tv, t, h1, h2, h3⟩ | ⟨t, gtm, t0, W, h1, h2, h3, _⟩
  · exact ⟨tv, [], h1, h2, (findItem_some_tag _ _ _ h3).2⟩
  · exact ⟨t0, W, h2, h3, (findItem_some_tag _ _ _ h1).2⟩

theorem BlockOK.elem {S : Tag → Prop} {tmpl : List Item} {b : Block} (h : BlockOK S tmpl b) {t : Tag}
    (hf : findItem tmpl b.tag = some (.elem t)) : ∃ tv, b.tvs = [tv] ∧ tv.tag = b.tag := by
  rcases h with ⟨tv, _, h1, h2, _⟩ | ⟨_, _, _, _, h1, _⟩
  · exact ⟨tv, h1, h2⟩
  · rw [hf] at h1; cases h1

theorem serBlocks_cons (b : Block) (r : List Block) : serBlocks (b :: r) = b.tvs ++ serBlocks r := by simp [serBlocks]

theorem readFuel_cons_append (x : TagValue) (a b : List TagValue) : readFuel (x :: (a ++ b)) ≥ 2 * (1 + a.length) + 1 := by
  simp only [readFuel, List.length_cons, List.length_append]; omega

/-- the members of the entry being read: the loop files each block under its tag and arrives in front of `tail` — any input whose
    first tag may follow a nested group — with the entry `putAllB g r tail`; `R` is what the loop answers from there, given fuel `B`
    (at least 2: a nested group spends one unit on its own call and one on its count field); two units are added per TagValue of the members -/
theorem readLoop_members (S : Tag → Prop) (d : Tag) (tmplr : List Item) (hS : ∀ t, t ∈ tmplTags (.elem d :: tmplr) → S t)
    (tail : List TagValue) (hT : ∀ f r0, tail = f :: r0 → S f.tag) (done : List GEntry) (R : Res (List TagValue × List GEntry))
    (B : Nat) (hB : 2 ≤ B) :
    ∀ (r : List Block), (∀ b ∈ r, b.tag ≠ d ∧ BlockOK S (.elem d :: tmplr) b) → ∀ (g : GEntry),
      (∀ fuel, fuel ≥ B → readLoop fuel (.elem d :: tmplr) tail done (some (putAllB g r tail)) = R) →
      ∀ fuel, fuel ≥ B + 2 * (serBlocks r).length → readLoop fuel (.elem d :: tmplr) (serBlocks r ++ tail) done (some g) = R := by
  intro r
  induction r with
  | nil => intro _ g hR fuel hf; exact hR fuel (by simpa [serBlocks] using hf)
  | cons b r ih =>
    intro hr g hR fuel hf
    obtain ⟨hne, hb⟩ := hr b (by simp)
    have hr' : ∀ x ∈ r, x.tag ≠ d ∧ BlockOK S (.elem d :: tmplr) x := fun x hx => hr x (List.mem_cons_of_mem _ hx)
    -- a nested group reads back because what follows it starts with a tag of `S`
    have hnext : ∀ f r0, serBlocks r ++ tail = f :: r0 → S f.tag := by
      intro f r0 h
      cases r with
      | nil => exact hT f r0 h
      | cons b' r' =>
        obtain ⟨t0, W, h1, h2, h3⟩ := (hr' b' (by simp)).2.head
        rw [serBlocks_cons, h1] at h
        simp only [List.cons_append, List.cons.injEq] at h
        rw [← h.1, h2]; exact hS _ h3
    obtain ⟨t0, W, h1, _, _⟩ := hb.head
    cases fuel with
    | zero => omega
    | succ fuel =>
      have hf' : fuel ≥ 2 * b.tvs.length + 1 ∧ fuel ≥ B + 2 * (serBlocks r).length := by
        rw [serBlocks_cons, List.length_append, h1] at hf; rw [h1]; simp at hf ⊢; omega
      rw [← ih hr' (g.put b.tag (b.tvs ++ (serBlocks r ++ tail))) hR fuel hf'.2]
      rcases hb with ⟨tv, t, h1, h2, h3⟩ | ⟨t, gtm, t0, W, h1, h2, h3, hN⟩
      · rw [serBlocks_cons, h1]
        simp only [List.cons_append, List.nil_append]
        rw [step_member fuel (.elem d) tmplr tv _ done g t (by rw [h2]; exact h3) (by rw [h2]; exact hne), h2]
      · rw [serBlocks_cons, h2]
        simp only [List.cons_append, List.append_assoc]
        obtain ⟨gs, hread⟩ := hN fuel (serBlocks r ++ tail) hf'.1 hnext
        rw [h2] at hread
        simp only [List.cons_append] at hread
        rw [step_group fuel (.elem d) tmplr t0 _ _ gs done g t gtm (by rw [h3]; exact h1) (by rw [h3]; exact hne) hread, h3]

/-- the entries of a group in front of `rest`, whose first tag is no template tag: one `GEntry` per entry, `rest` untouched -/
theorem readLoop_entries (S : Tag → Prop) (d : Tag) (tmplr : List Item) (rest : List TagValue)
    (hS : ∀ t, t ∈ tmplTags (.elem d :: tmplr) → S t) (hSr : ∀ f r, rest = f :: r → S f.tag)
    (hrest : ∀ f r, rest = f :: r → findItem (.elem d :: tmplr) f.tag = none) :
    ∀ (es : List (List Block)), (∀ e ∈ es, EntryOKB S d tmplr e) →
    ∀ (done : List GEntry) (cur : Option GEntry) (fuel : Nat), fuel ≥ 2 * (es.flatMap serBlocks).length + 2 →
      readLoop fuel (.elem d :: tmplr) (es.flatMap serBlocks ++ rest) done cur =
        .ok (rest, finishGroups done cur ++ readSpecB rest es) := by
  intro es
  induction es with
  | nil =>
    intro _ done cur fuel hf
    cases fuel with
    | zero => omega
    | succ fuel =>
      simp only [List.flatMap_nil, List.nil_append, readSpecB, List.append_nil]
      cases hr : rest with
      | nil => rw [step_nil]
      | cons f rr => rw [step_stop _ _ _ _ _ _ (hrest f rr hr)]
  | cons e es ih =>
    intro hes done cur fuel hf
    obtain ⟨tv0, e', rfl, htv0, he'⟩ := hes e (by simp)
    have hes' : ∀ x ∈ es, EntryOKB S d tmplr x := fun x hx => hes x (List.mem_cons_of_mem _ hx)
    have e1 : ((⟨d, [tv0]⟩ :: e') :: es).flatMap serBlocks ++ rest = tv0 :: (serBlocks e' ++ (es.flatMap serBlocks ++ rest)) := by
      simp [serBlocks, List.flatMap_cons, List.append_assoc]
    cases fuel with
    | zero => omega
    | succ fuel =>
      rw [e1, step_delim fuel d tmplr tv0 _ done cur htv0, htv0]
      -- `tail` := the remaining entries ++ `rest`, `R` := the induction hypothesis' answer from there, `B` := its fuel
      refine readLoop_members S d tmplr hS _ (fun f r0 h => ?_) _ _ (2 * (es.flatMap serBlocks).length + 2) (by omega) e' he' _
        (fun fuel' hf' => ?_) fuel ?_
      · cases es with
        | nil => exact hSr f r0 h
        | cons e2 es2 =>
          obtain ⟨tv, e'', rfl, htv, _⟩ := hes' e2 (by simp)
          simp only [serBlocks, List.flatMap_cons, List.cons_append, List.nil_append, List.cons.injEq] at h
          rw [← h.1, htv]; exact hS _ (by simp [tmplTags, Item.tag])
      · rw [ih hes' _ _ fuel' hf']
        simp [putAllB, readSpecB, finishGroups, serBlocks, List.append_assoc]
      · rw [List.flatMap_cons, serBlocks_cons] at hf; simp at hf ⊢; omega

/-- the whole `Read`: count field, `n` well-formed entries, `rest` — exactly `n` entries as `readSpecB` describes them, and `rest`.
    Hypotheses come from `canonB_entryOK` / `entryOKB_toBlocks` / `write_blocks` (entries) and `nestedOK_of_entries` / `nestedOK_flat` /
    `nestedOK_nil` (nested members); the result is read through `readSpecB_length` / `readSpecB_entry` -/
theorem readGroup_blocks (S : Tag → Prop) (G d : Tag) (tmplr : List Item) (rest : List TagValue)
    (hS : ∀ t, t ∈ tmplTags (.elem d :: tmplr) → S t) (hSr : ∀ f r, rest = f :: r → S f.tag)
    (hrest : ∀ f r, rest = f :: r → findItem (.elem d :: tmplr) f.tag = none)
    (es : List (List Block)) (hes : ∀ e ∈ es, EntryOKB S d tmplr e) (hn : es.length < 9223372036854775808)
    (fuel : Nat) (hf : fuel ≥ 2 * (1 + (es.flatMap serBlocks).length) + 1) :
    readGroup fuel (.elem d :: tmplr) (countTV G es.length :: (es.flatMap serBlocks ++ rest)) = .ok (rest, readSpecB rest es) := by
  cases fuel with
  | zero => omega
  | succ fuel =>
    have hval : (countTV G es.length).value = fmtNat es.length := rfl
    simp only [readGroup, hval, atoi_fmtNat _ hn]
    cases es with
    | nil => simp [readSpecB]
    | cons e es =>
      have hne : ¬ (((e :: es).length : Nat) : Int) = 0 := by simp; omega
      simp only [hne, if_false]
      rw [readLoop_entries S d tmplr rest hS hSr hrest _ hes [] none fuel (by omega)]
      simp [finishGroups, readSpecB_length]

/-- hence such a group is itself a well-formed nested block for an enclosing group (arbitrary depth by iteration) -/
theorem nestedOK_of_entries (S S' : Tag → Prop) (G d : Tag) (tmplr : List Item)
    (hS : ∀ t, t ∈ tmplTags (.elem d :: tmplr) → S t)
    (hS' : ∀ t, S' t → S t ∧ findItem (.elem d :: tmplr) t = none)
    (es : List (List Block)) (hes : ∀ e ∈ es, EntryOKB S d tmplr e) (hn : es.length < 9223372036854775808) :
    NestedOK S' (.elem d :: tmplr) (countTV G es.length :: es.flatMap serBlocks) := by
  intro fuel after hf hafter
  refine ⟨readSpecB after es, ?_⟩
  have := readGroup_blocks S G d tmplr after hS (fun f r h => (hS' _ (hafter f r h)).1) (fun f r h => (hS' _ (hafter f r h)).2)
    es hes hn fuel (by rw [List.length_cons] at hf; omega)
  simpa using this

theorem readGroup_zero (fuel : Nat) (tmpl : List Item) (t0 : TagValue) (rest : List TagValue) (h0 : atoi t0.value = .ok 0) :
    readGroup (fuel + 1) tmpl (t0 :: rest) = .ok (rest, []) := by
  simp [readGroup, h0]

/-- a group without entries reads back under any template -/
theorem nestedOK_nil (S : Tag → Prop) (G : Tag) (gtm : List Item) : NestedOK S gtm [countTV G 0] := by
  intro fuel after hf _
  cases fuel with
  | zero => simp at hf
  | succ k =>
    have h0 : atoi (countTV G 0).value = .ok 0 := by simpa [countTV, TagValue.init] using atoi_fmtNat 0 (by decide)
    exact ⟨[], by simpa using readGroup_zero k gtm (countTV G 0) after h0⟩

theorem putAllB_tags (g : GEntry) (r : List Block) (after : List TagValue) :
    (putAllB g r after).tags = g.tags ++ r.map (·.tag) := by
  induction r generalizing g with
  | nil => simp [putAllB]
  | cons b r ih => simp [putAllB, ih, GEntry.put, List.append_assoc]

theorem putAllB_find_absent (g : GEntry) (r : List Block) (after : List TagValue) (t : Tag) (h : ∀ b ∈ r, b.tag ≠ t) :
    alFind (putAllB g r after).lookup t = alFind g.lookup t := by
  fun_induction putAllB g r after with
  | case1 => rfl
  | case2 g b r after ih =>
    rw [ih (fun q hq => h q (by simp [hq]))]
    exact alFind_insert_other _ _ _ _ (Ne.symm (h b (by simp)))

theorem putAllB_find (g : GEntry) (r : List Block) (after : List TagValue) (b : Block)
    (hnd : (r.map (·.tag)).Nodup) (hm : b ∈ r) :
    ∃ tail, alFind (putAllB g r after).lookup b.tag = some (b.tvs ++ tail) := by
  induction r generalizing g with
  | nil => simp at hm
  | cons x r ih =>
    simp only [List.map_cons, List.nodup_cons] at hnd
    simp only [putAllB]
    rcases List.mem_cons.1 hm with e | hm'
    · subst e
      refine ⟨serBlocks r ++ after, ?_⟩
      rw [putAllB_find_absent _ r after b.tag (fun q hq e => hnd.1 (by rw [← e]; exact List.mem_map_of_mem hq))]
      exact alFind_insert_self _ _ _
    · exact ih _ hnd.2 hm'

theorem readSpecB_entry (rest : List TagValue) : ∀ (es : List (List Block)) (i : Nat) (e : List Block), es[i]? = some e →
      ∃ g : GEntry, (readSpecB rest es)[i]? = some g ∧ g.tags = e.map (·.tag) ∧
        ((e.map (·.tag)).Nodup → ∀ b ∈ e, ∃ tail, alFind g.lookup b.tag = some (b.tvs ++ tail)) := by
  intro es
  induction es with
  | nil => intro i e hi; simp at hi
  | cons e0 es ih =>
    intro i e hi
    cases i with
    | zero =>
      simp only [List.getElem?_cons_zero, Option.some.injEq] at hi
      subst hi
      exact ⟨_, rfl, by rw [putAllB_tags]; simp [GEntry.empty], fun hnd b hb => putAllB_find _ _ _ b hnd hb⟩
    | succ i =>
      obtain ⟨g, hg, h2⟩ := ih i e (by simpa using hi)
      exact ⟨g, by simpa [readSpecB] using hg, h2⟩

/-- the TagValues a setter call contributes: one field, or the count field followed by what `Write` emits for the nested entries -/
def blockData : GFld → Option (Tag × List TagValue)
  | .fld t v => some (t, [TagValue.init t v])
  | .grp t tm es =>
    match writeEntries tm es with
    | .ok W => some (t, countTV t es.length :: W)
    | _ => none

/-- the latest TagValues a sequence of setter calls gives to `t` -/
def latestB : List (Tag × List TagValue) → Tag → Option (List TagValue)
  | [], _ => none
  | (k, v) :: r, t => match latestB r t with
                      | some x => some x
                      | none => if k = t then some v else none

def putAllFB : FieldMap → List (Tag × List TagValue) → FieldMap
  | fm, [] => fm
  | fm, (t, tvs) :: r => putAllFB (fm.put t (.owned tvs)) r

/-- the setter calls of an entry, each contributing its member data, are so many `put`s -/
theorem buildEntry_blocks : ∀ (flds : List GFld) (fm : FieldMap), (∀ f ∈ flds, ∃ p, blockData f = some p) → FMOK 0 fm →
    buildEntry flds fm = .ok (putAllFB fm (flds.filterMap blockData)) := by
  intro flds
  induction flds with
  | nil => intro fm _ _; simp [buildEntry, putAllFB]
  | cons f r ih =>
    intro fm h ho
    obtain ⟨p, hp⟩ := h f (List.mem_cons_self ..)
    have ihr := fun fm' ho' => ih fm' (fun x hx => h x (List.mem_cons_of_mem _ hx)) ho'
    rw [List.filterMap_cons, hp]
    revert hp
    -- case3: the nested `Write` failed (excluded by `hp`)
    fun_cases blockData f with
    | case1 t v =>
      intro hp; cases hp
      obtain ⟨sr, hs, hfm⟩ := ho.setBytes_put t v
      simp only [buildEntry, hs, hfm, putAllFB]
      exact ihr _ (ho.setGroup _ _ _)
    | case2 t tm es W hw =>
      intro hp; cases hp
      simp only [buildEntry, hw, putAllFB]
      exact ihr _ (ho.setGroup _ _ _)
    | case3 => nofun

theorem putAllFB_inv (e : List (Tag × List TagValue)) (fm : FieldMap) (h : FMInv fm) : FMInv (putAllFB fm e) := by
  fun_induction putAllFB fm e with
  | case1 => exact h
  | case2 fm t tvs r ih => exact ih (h.add _ _)

theorem putAllFB_ord (e : List (Tag × List TagValue)) (fm : FieldMap) : (putAllFB fm e).ord = fm.ord := by
  fun_induction putAllFB fm e with
  | case1 => rfl
  | case2 fm t tvs r ih => exact ih

theorem putAllFB_find (e : List (Tag × List TagValue)) (t : Tag) : ∀ (fm : FieldMap),
    alFind (putAllFB fm e).lookup t =
      (match latestB e t with
       | some v => some (.owned v)
       | none => alFind fm.lookup t) := by
  -- case2: a later call sets `t`; case3: this one does; case4: neither
  fun_induction latestB e t with
  | case1 => intro fm; rfl
  | case2 k x r t y hl ih => intro fm; rw [putAllFB, ih, hl]
  | case3 x r t hl ih => intro fm; rw [putAllFB, ih, hl]; exact put_find_self _ _ _
  | case4 k x r t hl hk ih => intro fm; rw [putAllFB, ih, hl]; exact put_find_other _ _ _ _ (Ne.symm hk)

theorem latestB_mem (e : List (Tag × List TagValue)) (t : Tag) (v : List TagValue) (h : latestB e t = some v) : (t, v) ∈ e := by
  fun_induction latestB e t with
  | case1 => cases h
  | case2 k x r t y hl ih => cases h; exact List.mem_cons_of_mem _ (ih hl)
  | case3 x r t hl ih => cases h; exact List.mem_cons_self ..
  | case4 k x r t hl hk ih => cases h

/-- the member blocks of an entry as `Write` emits them: template order, each tag once, latest setter call -/
def canonB (ts : List Tag) (e : List (Tag × List TagValue)) : List Block :=
  ts.filterMap (fun t => (latestB e t).map (fun tvs => (⟨t, tvs⟩ : Block)))

theorem collectTags_putAllFB (e : List (Tag × List TagValue)) (o : OrdKind) (l : List Tag) :
    collectTags (putAllFB (FieldMap.empty o) e).lookup l = serBlocks (l.filterMap (fun t => (latestB e t).map (fun tvs => (⟨t, tvs⟩ : Block)))) := by
  induction l with
  | nil => rfl
  | cons t r ih =>
    simp only [collectTags, putAllFB_find, List.filterMap_cons]
    cases hl : latestB e t with
    | none =>
      have : alFind (FieldMap.empty o).lookup t = none := rfl
      simp only [this, List.nil_append, Option.map_none]
      exact ih
    | some v => simp [ih, Field.items, serBlocks]

/-- `collectTags` skips a tag the lookup misses, so a filter that only drops such tags is invisible to it -/
theorem collectTags_filter (lookup : List (Tag × Field)) (p : Tag → Bool) (l : List Tag)
    (h : ∀ t ∈ l, p t = false → alFind lookup t = none) : collectTags lookup (l.filter p) = collectTags lookup l := by
  induction l with
  | nil => rfl
  | cons t r ih =>
    have ihr := ih (fun x hx => h x (List.mem_cons_of_mem _ hx))
    cases hp : p t with
    | true => rw [List.filter_cons_of_pos hp, collectTags, collectTags, ihr]
    | false => rw [List.filter_cons_of_neg (by simp [hp]), ihr, collectTags, h t (by simp) hp]; rfl

theorem entryTVs_blocks (ts : List Tag) (hts : ts.Nodup) (e : List (Tag × List TagValue)) (hsub : ∀ p ∈ e, p.1 ∈ ts) :
    entryTVs (putAllFB (FieldMap.empty (.group ts)) e) = serBlocks (canonB ts e) := by
  have hi := putAllFB_inv e _ (FMInv.empty (.group ts))
  have hsubT : ∀ t ∈ (putAllFB (FieldMap.empty (.group ts)) e).tags, t ∈ ts := by
    intro t ht
    rw [hi.same, mem_alKeys_iff, putAllFB_find] at ht
    cases hl : latestB e t with
    | none => rw [hl] at ht; cases ht
    | some v => exact hsub _ (latestB_mem e t v hl)
  unfold entryTVs
  rw [putAllFB_ord, show (FieldMap.empty (OrdKind.group ts)).ord = .group ts from rfl, sortTags_group ts _ hts hi.tagsNodup hsubT,
    collectTags_filter _ _ _ (fun t _ hc => ?_), collectTags_putAllFB]
  · rfl
  · have hn : t ∉ (putAllFB (FieldMap.empty (.group ts)) e).tags := by simpa using hc
    rw [hi.same, mem_alKeys_iff] at hn
    simpa using hn

/-- `Write` of entries whose members may be nested groups: per entry, the member blocks in template order — compositional:
    the nested groups' own `Write` results enter as given (`blockData`): the hypothesis says that each succeeded, with member data `bss` -/
theorem writeEntries_blocks (tmpl : List Item) (hts : (tmplTags tmpl).Nodup) :
    ∀ (es : List (List GFld)) (bss : List (List (Tag × List TagValue))),
    es.map (fun e => e.map blockData) = bss.map (fun bs => bs.map some) →
    (∀ bs ∈ bss, ∀ p ∈ bs, p.1 ∈ tmplTags tmpl) →
    writeEntries tmpl es = .ok (bss.flatMap (fun bs => serBlocks (canonB (tmplTags tmpl) bs))) := by
  intro es
  induction es with
  | nil =>
    intro bss h _
    cases bss with
    | nil => simp [writeEntries]
    | cons b r => simp at h
  | cons e r ih =>
    intro bss h hp
    cases bss with
    | nil => simp at h
    | cons bs bss' =>
      simp only [List.map_cons, List.cons.injEq] at h
      obtain ⟨he, hr⟩ := h
      simp only [writeEntries]
      rw [buildEntry_blocks e _ (fun _ => defined_of_map_some he) (FMOK.empty 0 _), filterMap_of_map_some he,
        ih bss' hr (fun x hx => hp x (by simp [hx]))]
      simp only [entryTVs_blocks (tmplTags tmpl) hts bs (hp bs (by simp)), List.flatMap_cons]

theorem canonB_mem (ts : List Tag) (e : List (Tag × List TagValue)) (b : Block) :
    b ∈ canonB ts e ↔ b.tag ∈ ts ∧ latestB e b.tag = some b.tvs := by
  unfold canonB
  rw [List.mem_filterMap]
  constructor
  · rintro ⟨a, ha, hm⟩
    obtain ⟨x, hl, e⟩ := Option.map_eq_some_iff.1 hm
    subst e; exact ⟨ha, hl⟩
  · rintro ⟨ha, hl⟩
    exact ⟨b.tag, ha, by rw [hl]; rfl⟩

theorem canonB_tags_sublist (ts : List Tag) (e : List (Tag × List TagValue)) : ((canonB ts e).map (·.tag)).Sublist ts := by
  unfold canonB
  induction ts with
  | nil => simp
  | cons t r ih =>
    rw [List.filterMap_cons]
    cases hl : latestB e t with
    | none => simp only [Option.map_none]; exact ih.cons _
    | some v => simp only [Option.map_some, List.map_cons]; exact ih.cons_cons _

theorem canonB_entryOK (S : Tag → Prop) (d : Tag) (tmplr : List Item) (hn : (tmplTags (.elem d :: tmplr)).Nodup)
    (bs : List (Tag × List TagValue)) (tv : TagValue) (hd : latestB bs d = some [tv]) (htv : tv.tag = d)
    (hb : ∀ p ∈ bs, BlockOK S (.elem d :: tmplr) ⟨p.1, p.2⟩) :
    EntryOKB S d tmplr (canonB (tmplTags (.elem d :: tmplr)) bs) := by
  have htags : tmplTags (.elem d :: tmplr) = d :: tmplTags tmplr := by simp [tmplTags, Item.tag]
  refine ⟨tv, canonB (tmplTags tmplr) bs, ?_, htv, ?_⟩
  · rw [htags]; unfold canonB; rw [List.filterMap_cons, hd]; rfl
  · intro b hbm
    obtain ⟨hm, hl⟩ := (canonB_mem _ _ b).1 hbm
    rw [htags, List.nodup_cons] at hn
    refine ⟨fun e => hn.1 (e ▸ hm), ?_⟩
    have := hb (b.tag, b.tvs) (latestB_mem bs b.tag b.tvs hl)
    exact this

/-- Write then Read with nested groups: one entry per entry written, every tag that was set mapped to a range that starts with the TagValues
    of its latest setter call -/
theorem roundtrip_nested (S : Tag → Prop) (G d : Tag) (tmplr : List Item) (hts : (tmplTags (.elem d :: tmplr)).Nodup)
    (rest : List TagValue)
    (hS : ∀ t, t ∈ tmplTags (.elem d :: tmplr) → S t) (hSr : ∀ f r, rest = f :: r → S f.tag)
    (hrest : ∀ f r, rest = f :: r → findItem (.elem d :: tmplr) f.tag = none)
    (es : List (List GFld)) (bss : List (List (Tag × List TagValue)))
    (hdata : es.map (fun e => e.map blockData) = bss.map (fun bs => bs.map some))
    (hb : ∀ bs ∈ bss, (∀ p ∈ bs, p.1 ∈ tmplTags (.elem d :: tmplr) ∧ BlockOK S (.elem d :: tmplr) ⟨p.1, p.2⟩) ∧
      ∃ tv, latestB bs d = some [tv] ∧ tv.tag = d)
    (hn : es.length < 9223372036854775808) :
    ∃ tvs gs, writeGroup G (.elem d :: tmplr) es = .ok tvs ∧ getGroup (.elem d :: tmplr) (tvs ++ rest) = .ok gs ∧
      gs.length = es.length ∧
      ∀ (i : Nat) (bs : List (Tag × List TagValue)), bss[i]? = some bs → ∃ g : GEntry, gs[i]? = some g ∧
        ∀ t tvs', latestB bs t = some tvs' → ∃ tail, alFind g.lookup t = some (tvs' ++ tail) := by
  have hlen : bss.length = es.length := by have := congrArg List.length hdata; simpa using this.symm
  have hw := writeEntries_blocks (.elem d :: tmplr) hts es bss hdata (fun bs hbs p hp => ((hb bs hbs).1 p hp).1)
  have hes' : ∀ e ∈ bss.map (canonB (tmplTags (.elem d :: tmplr))), EntryOKB S d tmplr e := by
    intro e he
    obtain ⟨bs, hbs, rfl⟩ := List.mem_map.1 he
    obtain ⟨tv, hd, htv⟩ := (hb bs hbs).2
    exact canonB_entryOK S d tmplr hts bs tv hd htv (fun p hp => ((hb bs hbs).1 p hp).2)
  have hfm : (bss.map (canonB (tmplTags (.elem d :: tmplr)))).flatMap serBlocks =
      bss.flatMap (fun bs => serBlocks (canonB (tmplTags (.elem d :: tmplr)) bs)) := by rw [List.flatMap_map]
  have hl2 : (bss.map (canonB (tmplTags (.elem d :: tmplr)))).length = es.length := by simp [hlen]
  have hread := readGroup_blocks S G d tmplr rest hS hSr hrest _ hes' (by rw [hl2]; exact hn) _
    (readFuel_cons_append (countTV G (bss.map (canonB (tmplTags (.elem d :: tmplr)))).length) _ rest)
  refine ⟨countTV G es.length :: bss.flatMap (fun bs => serBlocks (canonB (tmplTags (.elem d :: tmplr)) bs)),
    readSpecB rest (bss.map (canonB (tmplTags (.elem d :: tmplr)))), ?_, ?_, by rw [readSpecB_length, hl2], ?_⟩
  · simp only [writeGroup, hw]
  · rw [hl2, hfm] at hread
    simp only [getGroup, List.cons_append]
    rw [hread]
  · intro i bs hi
    obtain ⟨g, hg, _, hfind⟩ := readSpecB_entry rest _ i (canonB (tmplTags (.elem d :: tmplr)) bs) (by rw [List.getElem?_map, hi]; rfl)
    refine ⟨g, hg, ?_⟩
    intro t tvs' hl
    have hm : t ∈ tmplTags (.elem d :: tmplr) := ((hb bs (List.mem_of_getElem? hi)).1 _ (latestB_mem bs t tvs' hl)).1
    exact hfind ((canonB_tags_sublist _ bs).nodup hts) ⟨t, tvs'⟩ ((canonB_mem _ bs ⟨t, tvs'⟩).2 ⟨hm, hl⟩)

/-- a flat entry as blocks: every member one TagValue -/
def toBlocks (e : List (Tag × Bytes)) : List Block := e.map (fun p => ⟨p.1, [TagValue.init p.1 p.2]⟩)

theorem serBlocks_toBlocks (e : List (Tag × Bytes)) : serBlocks (toBlocks e) = serEntry e := by
  induction e with
  | nil => rfl
  | cons p r ih => rw [toBlocks, List.map_cons, serBlocks_cons, ← toBlocks, ih]; rfl

theorem flatMap_toBlocks (es : List (List (Tag × Bytes))) : (es.map toBlocks).flatMap serBlocks = es.flatMap serEntry := by
  rw [List.flatMap_map]; simp only [serBlocks_toBlocks]

theorem putAllB_toBlocks (e : List (Tag × Bytes)) : ∀ (g : GEntry) (after : List TagValue),
    putAllB g (toBlocks e) after = putAll g e after := by
  induction e with
  | nil => intro g after; rfl
  | cons p r ih =>
    intro g after
    obtain ⟨t, v⟩ := p
    rw [toBlocks, List.map_cons, putAllB, ← toBlocks, serBlocks_toBlocks, ih]; rfl

theorem readSpecB_toBlocks (after : List TagValue) (es : List (List (Tag × Bytes))) :
    readSpecB after (es.map toBlocks) = readSpec after es := by
  induction es with
  | nil => rfl
  | cons e es ih =>
    cases e with
    | nil => simp only [List.map_cons, toBlocks, List.map_nil, readSpecB, putAllB, readSpec]; rw [← ih]
    | cons p e =>
      obtain ⟨t, v⟩ := p
      rw [List.map_cons, readSpecB, flatMap_toBlocks, putAllB_toBlocks, ih]
      rfl

theorem entryOKB_toBlocks (d : Tag) (ts : List Tag) (e : List (Tag × Bytes)) (h : EntryOK d (d :: ts) e) :
    EntryOKB (fun _ => True) d (flatTmpl ts) (toBlocks e) := by
  obtain ⟨v, e', rfl, he'⟩ := h
  refine ⟨TagValue.init d v, toBlocks e', rfl, rfl, ?_⟩
  intro b hb
  obtain ⟨p, hp, rfl⟩ := List.mem_map.1 hb
  exact ⟨(he' p hp).1, Or.inl ⟨_, p.1, rfl, rfl, by rw [← flatTmpl_cons, findItem_flat, if_pos (he' p hp).2]⟩⟩

/-- `Read` of a group with a flat template: the case of `readGroup_blocks` in which every member is one field -/
theorem readGroup_flat (gtag d : Tag) (ts : List Tag) (rest : List TagValue) (hrest : FollowerOK (d :: ts) rest)
    (es : List (List (Tag × Bytes))) (hes : ∀ e ∈ es, EntryOK d (d :: ts) e) (hn : es.length < 9223372036854775808)
    (fuel : Nat) (hf : fuel ≥ 2 * (1 + (es.flatMap serEntry).length) + 1) :
    readGroup fuel (flatTmpl (d :: ts)) (countTV gtag es.length :: (es.flatMap serEntry ++ rest)) = .ok (rest, readSpec rest es) := by
  have h := readGroup_blocks (fun _ => True) gtag d (flatTmpl ts) rest (fun _ _ => trivial) (fun _ _ _ => trivial)
    (fun f r hfr => by rw [← flatTmpl_cons, findItem_flat, if_neg (hrest f r hfr)]) (es.map toBlocks)
    (fun e he => by obtain ⟨e0, he0, rfl⟩ := List.mem_map.1 he; exact entryOKB_toBlocks d ts e0 (hes e0 he0))
    (by rw [List.length_map]; exact hn) fuel (by rw [flatMap_toBlocks]; exact hf)
  rwa [List.length_map, flatMap_toBlocks, readSpecB_toBlocks] at h

theorem readSpec_length (after : List TagValue) (es : List (List (Tag × Bytes))) : (readSpec after es).length = es.length := by
  rw [← readSpecB_toBlocks, readSpecB_length, List.length_map]

theorem readSpec_entry (rest : List TagValue) (es : List (List (Tag × Bytes))) (i : Nat) (e : List (Tag × Bytes)) (hi : es[i]? = some e) :
    ∃ g : GEntry, (readSpec rest es)[i]? = some g ∧ g.tags = e.map (·.1) ∧
      ((e.map (·.1)).Nodup → ∀ t v, (t, v) ∈ e → ∃ tail, alFind g.lookup t = some (TagValue.init t v :: tail)) := by
  obtain ⟨g, hg, htags, hfind⟩ := readSpecB_entry rest (es.map toBlocks) i (toBlocks e) (by rw [List.getElem?_map, hi]; rfl)
  have hmap : (toBlocks e).map (·.tag) = e.map (·.1) := by simp [toBlocks, List.map_map, Function.comp_def]
  rw [readSpecB_toBlocks] at hg
  rw [hmap] at htags hfind
  exact ⟨g, hg, htags, fun hnd t v hm => hfind hnd ⟨t, [TagValue.init t v]⟩ (List.mem_map.2 ⟨(t, v), hm, rfl⟩)⟩

theorem read_canon_flat (gtag d : Tag) (ts : List Tag) (hts : (d :: ts).Nodup) (rest : List TagValue)
    (hrest : FollowerOK (d :: ts) rest) (es : List (List (Tag × Bytes)))
    (hes : ∀ e ∈ es, (∀ p ∈ e, p.1 ∈ d :: ts) ∧ (latest e d).isSome = true) (hn : es.length < 9223372036854775808) :
    ∃ gs, readGroup (readFuel (countTV gtag es.length :: (es.flatMap (fun e => serEntry (canon (d :: ts) e)) ++ rest))) (flatTmpl (d :: ts))
        (countTV gtag es.length :: (es.flatMap (fun e => serEntry (canon (d :: ts) e)) ++ rest)) = .ok (rest, gs) ∧
      gs.length = es.length ∧
      ∀ (i : Nat) (e : List (Tag × Bytes)), es[i]? = some e → ∃ g : GEntry, gs[i]? = some g ∧
        ∀ t v, latest e t = some v → ∃ tail, alFind g.lookup t = some (TagValue.init t v :: tail) := by
  have hes' : ∀ e ∈ es.map (canon (d :: ts)), EntryOK d (d :: ts) e := by
    intro e he
    obtain ⟨e0, he0, rfl⟩ := List.mem_map.1 he
    exact canon_entryOK d ts hts e0 (hes e0 he0).2
  have hlen : (es.map (canon (d :: ts))).length = es.length := by simp
  have hread := readGroup_flat gtag d ts rest hrest (es.map (canon (d :: ts))) hes' (by rw [hlen]; exact hn)
    (readFuel (countTV gtag es.length :: (es.flatMap (fun e => serEntry (canon (d :: ts) e)) ++ rest)))
    (by rw [List.flatMap_map]; exact readFuel_cons_append _ _ _)
  rw [hlen, List.flatMap_map] at hread
  refine ⟨readSpec rest (es.map (canon (d :: ts))), hread, by rw [readSpec_length, hlen], fun i e hi => ?_⟩
  obtain ⟨g, hg, _, hfd⟩ := readSpec_entry rest (es.map (canon (d :: ts))) i (canon (d :: ts) e) (by simp [hi])
  refine ⟨g, hg, fun t v hl => ?_⟩
  have hm : t ∈ d :: ts := (hes e (List.mem_of_getElem? hi)).1 _ (latest_mem e t v hl)
  exact hfd ((canon_tags_sublist (d :: ts) e).nodup hts) t v ((canon_mem (d :: ts) e t v).2 ⟨hm, hl⟩)

theorem nestedOK_flat (S' : Tag → Prop) (G d : Tag) (ts : List Tag) (hS' : ∀ t, S' t → t ∉ d :: ts)
    (es : List (List (Tag × Bytes))) (hes : ∀ e ∈ es, EntryOK d (d :: ts) e) (hn : es.length < 9223372036854775808) :
    NestedOK S' (flatTmpl (d :: ts)) (countTV G es.length :: es.flatMap serEntry) := by
  intro fuel after hf hafter
  refine ⟨readSpec after es, ?_⟩
  have := readGroup_flat G d ts after (fun f r h => hS' _ (hafter f r h)) es hes hn fuel
    (by rw [List.length_cons] at hf; omega)
  simpa using this

/-- plain setter calls as member data: each call contributes its one TagValue -/
def tvsOf (e : List (Tag × Bytes)) : List (Tag × List TagValue) := e.map (fun p => (p.1, [TagValue.init p.1 p.2]))

theorem latestB_tvsOf (e : List (Tag × Bytes)) (t : Tag) :
    latestB (tvsOf e) t = (latest e t).map (fun v => [TagValue.init t v]) := by
  induction e with
  | nil => rfl
  | cons p r ih =>
    obtain ⟨k, v⟩ := p
    simp only [tvsOf, List.map_cons, latestB, latest] at ih ⊢
    rw [ih]
    cases latest r t with
    | some x => rfl
    | none =>
      by_cases hk : k = t
      · subst hk; simp
      · simp [hk]

theorem serBlocks_canonB_tvsOf (ts : List Tag) (e : List (Tag × Bytes)) :
    serBlocks (canonB ts (tvsOf e)) = serEntry (canon ts e) := by
  unfold canonB canon
  induction ts with
  | nil => rfl
  | cons t r ih =>
    rw [List.filterMap_cons, List.filterMap_cons, latestB_tvsOf]
    cases latest e t with
    | none => exact ih
    | some v =>
      simp only [Option.map_some, serBlocks_cons, serEntry_cons] at ih ⊢
      rw [ih]; rfl

theorem writeEntries_flat (ts : List Tag) (hts : ts.Nodup) (es : List (List (Tag × Bytes))) (h : ∀ e ∈ es, ∀ p ∈ e, p.1 ∈ ts) :
    writeEntries (flatTmpl ts) (es.map fldsOf) = .ok (es.flatMap (fun e => serEntry (canon ts e))) := by
  have hw := writeEntries_blocks (flatTmpl ts) (by rw [tmplTags_flat]; exact hts) (es.map fldsOf) (es.map tvsOf)
    (by simp [fldsOf, tvsOf, blockData, List.map_map, Function.comp_def])
    (by
      intro bs hbs p hp
      obtain ⟨e, he, rfl⟩ := List.mem_map.1 hbs
      obtain ⟨q, hq, rfl⟩ := List.mem_map.1 hp
      rw [tmplTags_flat]; exact h e he q hq)
  rw [hw, tmplTags_flat, List.flatMap_map]
  simp only [serBlocks_canonB_tvsOf]

end Qfx
