/-
  The dictionary round trip at model level (`roundtrip_dict`): built message (the frame around the group's field from `build_around`) →
  items (`ItemsN`; the group's members from `write_gwu`) → dictionary-guided parse (`parse_dict_found`) → `GetGroup` with the
  template (`writeGroup_blocks`, `readGroup_blocks`); the conclusion is the number of entries read back.  At the end: `Write` emits only tags of
  the template tree (`write_tags`, for Props/C13).
-/
import Qfx.Lemmas.CodecDictItems
import Qfx.Lemmas.CodecWriteBlocks
import Qfx.Lemmas.CodecRound
namespace Qfx
open Qfx.Spec

variable {d : Dicts}

theorem itemsN_plains_main {fs : List DNode} (l : List TagValue) (hl : ∀ tv ∈ l, PlainOK d tv) {r : List Itm} {s' : Option (List DNode)}
    (hr : ItemsN d fs none r s') : ItemsN d fs none (l.map Itm.plain ++ r) s' := by
  induction l with
  | nil => simpa using hr
  | cons x xs ih =>
    simp only [List.map_cons, List.cons_append]
    exact .plainMain (hl x (by simp)) (ih (fun tv h => hl tv (by simp [h])))

theorem itemsN_after {fs : List DNode} (C : List DNode) (l : List TagValue) (hl : ∀ tv ∈ l, PlainOK d tv ∧ NotListed C tv.tag) :
    ItemsN d fs (some C) (l.map Itm.plain) (if l = [] then some C else none) := by
  cases l with
  | nil => simpa using ItemsN.nil (d := d) (fs := fs) (some C)
  | cons x xs =>
    obtain ⟨hp, hn⟩ := hl x (by simp)
    simp only [List.map_cons, List.cons_ne_nil, if_false]
    refine .plainExit hp.wire hp.n10 hp.n212 hp.n35 hp.n9 hn (Or.inr (Or.inr hp.ng)) ?_
    have := itemsN_plains_main (d := d) (fs := fs) xs (fun tv h => (hl tv (by simp [h])).1) (ItemsN.nil none)
    simpa using this

theorem tmplDict_listed {tm : List Item} {C : List DNode} (h : TmplDict tm C) :
    ∀ t ∈ allTmplTags tm, isGroupMember t C = true ∨ ∃ C', Below C C' ∧ isGroupMember t C' = true := by
  induction h with
  | nil C => intro t ht; simp [allTmplTags] at ht
  | @elem t0 r C h1 _ _ ih =>
    intro t ht
    simp only [allTmplTags, List.mem_cons] at ht
    rcases ht with e | e
    · subst e; exact Or.inl h1
    · exact ih t e
  | @group t0 tm0 r C CN h1 _ _ ih1 ih2 =>
    intro t ht
    simp only [allTmplTags, List.mem_cons, List.mem_append] at ht
    rcases ht with e | e | e
    · subst e; exact Or.inl (groupOf_isMember h1)
    · rcases ih1 t e with h | ⟨C', hb, hm⟩
      · exact Or.inr ⟨CN, .child h1, h⟩
      · exact Or.inr ⟨C', .step h1 hb, hm⟩
    · exact ih2 t e

theorem notListed_not_tmpl {tm : List Item} {C : List DNode} (h : TmplDict tm C) (t : Tag) (hn : NotListed C t) : t ∉ allTmplTags tm := by
  intro ht
  rcases tmplDict_listed h t ht with h1 | ⟨C', hb, hm⟩
  · rw [hn.1] at h1; cases h1
  · rw [hn.2 C' hb] at hm; cases hm

/-- what `Write` stores under the group's tag, for the reader: the count field and well-formed member blocks -/
theorem writeGroup_blocks {G d0 : Tag} {tmplr : List Item} {es : List (List GFld)} {tvs : List TagValue}
    (hwrite : writeGroup G (.elem d0 :: tmplr) es = .ok tvs) (hnd : (allTmplTags (.elem d0 :: tmplr)).Nodup)
    (hok : entriesOK (.elem d0 :: tmplr) es = true) (hsm : SmallEs es) :
    ∃ bss : List (List Block), bss.length = es.length ∧ tvs = countTV G es.length :: bss.flatMap serBlocks ∧
      writeEntries (.elem d0 :: tmplr) es = .ok (bss.flatMap serBlocks) ∧
      ∀ e ∈ bss, EntryOKB (fun t => t ∉ deepTags (.elem d0 :: tmplr)) d0 tmplr e := by
  obtain ⟨bss, hlen, hwr, hes⟩ := write_blocks _ es d0 tmplr rfl hnd hok hsm
  refine ⟨bss, hlen, ?_, hwr, hes⟩
  simp only [writeGroup, hwr] at hwrite
  exact (Res.ok.inj hwrite).symm

/-- the dictionary round trip at model level: a built message whose body holds, under `G`, what `Write` made of template-conforming entries;
    parsed with the dictionary that defines `G`; read back with the same template — as many entries as written -/
theorem roundtrip_dict {mt : Bytes} {fs : List DNode} (ha : AppMsg d mt fs) (hh10 : isHeaderField d 10 = false)
    (m : Message) (hb : Built m) (hw : Wired m) (tv8 tv35 : TagValue)
    (h8 : alFind m.header.lookup 8 = some (.owned [tv8])) (h35 : alFind m.header.lookup 35 = some (.owned [tv35])) (hmt : tv35.value = mt)
    (G d0 : Tag) (tmplr : List Item) (esG : List (List GFld)) (tvs : List TagValue) (C : List DNode)
    (hbody : alFind m.body.lookup G = some (.owned tvs)) (hwrite : writeGroup G (.elem d0 :: tmplr) esG = .ok tvs)
    (hgC : groupOf fs G = some C) (htd : TmplDict (.elem d0 :: tmplr) C) (htree : TreeOK d C)
    (hGh : isHeaderField d G = false) (hGt : isTrailerField d G = false)
    (hok : entriesOK (.elem d0 :: tmplr) esG = true) (hsm : SmallEs esG) (hn : esG.length < 9223372036854775808)
    (hnd : (allTmplTags (.elem d0 :: tmplr)).Nodup) (h10C : NotListed C 10)
    (others : ∀ s k l, alFind (m.sec s).lookup k = some (.owned l) → ¬ (s = .b ∧ k = G) → ∀ tv ∈ l,
      NotListed C tv.tag ∧ NoGroupTag d tv.tag ∧ tv.tag ≠ G ∧ (tv.tag = 35 → s = .h ∧ k = 35))
    (bytes : Bytes) (m' : Message) (hbuild : m.build Fixes.cur = .ok (bytes, m')) (hsmall : bytes.length < 9223372036854775808) :
    ∃ (p : Message) (f : Field) (gs : List GEntry), parseMessage Fixes.cur d bytes = .ok p ∧ alFind p.body.lookup G = some f ∧
      getGroup (.elem d0 :: tmplr) (f.full p.fields) = .ok gs ∧ gs.length = esG.length := by
  obtain ⟨t9, t35, t10, A, Z, more, hbytes, hwm, hbl, hf35, hels⟩ := build_around m hb hw tv8 _ h8 h35 G tvs hbody bytes m' hbuild hsmall
  injection hf35 with hf35
  injection hf35 with e35 emore
  subst e35; subst emore
  obtain ⟨bss, hlen, rfl, hwr, hes⟩ := writeGroup_blocks hwrite hnd hok hsm
  have hwireAll : ∀ tv ∈ A ++ (countTV G esG.length :: bss.flatMap serBlocks) ++ Z, IsWire tv ∧ tv.tag ≠ 10 ∧ tv.tag ≠ 212 ∧ tv.tag ≠ 9 :=
    fun tv h => ⟨(hwm.wpre tv h).1, (hwm.wpre tv h).2.1, (hwm.wpre tv h).2.2, hwm.single9 tv h⟩
  have hGW : GroupWalk C (bss.flatMap serBlocks) :=
    (write_gwu.2 _ esG C htd hok _ hwr).wire (fun tv h => (hwireAll tv (by simp [h])).1)
  -- the other TagValues are plain for the dictionary and listed nowhere in the group's tree
  have hplain : ∀ tv ∈ A ++ Z, PlainOK d tv ∧ NotListed C tv.tag ∧ tv.tag ≠ G := by
    intro tv htv
    obtain ⟨w1, w2, w3, w4⟩ := hwireAll tv (by
      simp only [List.mem_append] at htv ⊢; exact htv.elim (fun h => Or.inl (Or.inl h)) Or.inr)
    rcases hels tv htv with h | ⟨s, k, l, hl, hne, hne35, hm⟩
    · cases h
    · obtain ⟨o1, o2, o3, o4⟩ := others s k l hl hne tv hm
      exact ⟨⟨w1, w2, w3, w4, fun e => hne35 (o4 e), o2⟩, o1, o3⟩
  have hItems : ItemsN d fs none (A.map Itm.plain ++ Itm.group (countTV G esG.length) (bss.flatMap serBlocks) :: Z.map Itm.plain)
      (if Z = [] then some C else none) :=
    itemsN_plains_main _ (fun tv h => (hplain tv (List.mem_append_left _ h)).1)
      (.groupMain (hwireAll _ (by simp)).1 hGh hGt hgC hGW htree
        (itemsN_after C _ (fun tv h => ⟨(hplain tv (List.mem_append_right _ h)).1, (hplain tv (List.mem_append_right _ h)).2.1⟩)))
  have hclose : ClosesN (if Z = [] then some C else none) := by
    split
    · exact h10C
    · trivial
  have hflat : flatItms (A.map Itm.plain ++ Itm.group (countTV G esG.length) (bss.flatMap serBlocks) :: Z.map Itm.plain) =
      A ++ (countTV G esG.length :: bss.flatMap serBlocks) ++ Z := by
    rw [flatItms_append, flatItms_cons, flatItms_map_plain, flatItms_map_plain]
    simp [Itm.flat]
  obtain ⟨so', hok', hso'⟩ := itemsN_ok hItems none trivial
  obtain ⟨p, hparse, _, _, _, hg⟩ := parse_dict_found (d := d) ha tv8 t9 tv35 t10 _ so' hwm.w8 hwm.w9 hwm.w35 hwm.w10 hwm.tag8 hwm.tag9
    hwm.tag35 hwm.tag10 hmt hok' (closesN_ok hclose hso') hh10 (by rw [hflat]; exact hbl)
  obtain ⟨hfind, _, hfull⟩ := hg (A.map Itm.plain) (Z.map Itm.plain) _ _ rfl
    (later_of_heads _ _ _ _ (by rw [heads_plain]; exact fun tv h => (hplain tv (List.mem_append_right _ h)).2.2))
  rw [hflat] at hparse
  rw [flatItms_map_plain] at hfind hfull
  rw [flatItms_map_plain, ← hlen] at hfull
  refine ⟨p, _, readSpecB (Z ++ [t10]) bss, by rw [hbytes]; exact hparse, hfind, ?_, by rw [readSpecB_length, hlen]⟩
  rw [hfull]
  have hfollow : ∀ f r, Z ++ [t10] = f :: r → f.tag ∉ allTmplTags (.elem d0 :: tmplr) := by
    intro f r hfr
    have hmem : f ∈ Z ++ [t10] := by rw [hfr]; simp
    rcases List.mem_append.1 hmem with h | h
    · exact notListed_not_tmpl htd _ (hplain f (List.mem_append_right _ h)).2.1
    · rw [List.mem_singleton.1 h, hwm.tag10]; exact notListed_not_tmpl htd _ h10C
  simp only [getGroup, readGroup_blocks (fun t => t ∉ deepTags (.elem d0 :: tmplr)) G d0 tmplr (Z ++ [t10])
    (fun t ht => top_not_deep hnd t ht)
    (fun f r hfr => (outside_tmpl (hfollow f r hfr)).1) (fun f r hfr => (outside_tmpl (hfollow f r hfr)).2)
    bss hes (by rw [hlen]; exact hn) _ (readFuel_cons_append _ _ _)]

def FMtags (T : List Tag) (fm : FieldMap) : Prop := ∀ k f, alFind fm.lookup k = some f → ∃ l, f = .owned l ∧ ∀ tv ∈ l, tv.tag ∈ T

theorem FMtags.insert {T : List Tag} {fm : FieldMap} (h : FMtags T fm) (t : Tag) (l : List TagValue) (tags : List Tag)
    (hl : ∀ tv ∈ l, tv.tag ∈ T) : FMtags T { fm with lookup := alInsert fm.lookup t (.owned l), tags := tags } :=
  FMall.insert (P := fun l => ∀ tv ∈ l, tv.tag ∈ T) h t l tags hl

/-- `Write` emits only tags of the template tree -/
theorem write_tags :
    (∀ (e : List GFld) (fm : FieldMap), ∀ (tm : List Item), entryOK tm e = true → FMtags (allTmplTags tm) fm →
      ∀ fm', buildEntry e fm = .ok fm' → FMtags (allTmplTags tm) fm') ∧
    (∀ (tm : List Item) (es : List (List GFld)), entriesOK tm es = true →
      ∀ W, writeEntries tm es = .ok W → ∀ tv ∈ W, tv.tag ∈ allTmplTags tm) := by
  have := write_induct (P1 := fun tm _ fm fm' => FMtags (allTmplTags tm) fm → FMtags (allTmplTags tm) fm')
    (P2 := fun tm _ W => ∀ tv ∈ W, tv.tag ∈ allTmplTags tm)
    (fun _ _ h => h)
    (fun tm t t' v r fm s fm' hfi hs ih h =>
      ih (FMall.setTV (P := fun l => ∀ tv ∈ l, tv.tag ∈ allTmplTags tm) h _ s hs
        (fun x hx => by rw [List.mem_singleton.1 hx]; exact (sub_tags_split t).2 (Or.inl (findItem_some_tag tm t _ hfi).2))))
    (fun tm t t' sub es r fm tvs fm' hfi _ _ hW ih h => ih (h.insert _ _ _ (by
      intro tv htv
      rcases List.mem_cons.1 htv with e | e
      · rw [e]; exact (sub_tags_split t).2 (Or.inl (findItem_some_tag tm t _ hfi).2)
      · exact (sub_tags_split _).2 (Or.inr (deep_of_find_group hfi _ (hW tv e))))))
    (fun _ _ h => by cases h)
    (fun tm e es fm tvs _ _ h1 h2 tv htv => (List.mem_append.1 htv).elim
      (collectTags_all (P := fun l => ∀ tv ∈ l, tv.tag ∈ allTmplTags tm) (h1 (FMall.empty _ _)) (fun _ h => by cases h)
        (fun a b ha hb x hx => (List.mem_append.1 hx).elim (ha x) (hb x)) _ tv)
      (h2 tv))
  exact ⟨fun e fm tm hok h fm' hb => this.1 e fm tm fm' hok hb h, fun tm es hok W hW => this.2 tm es W hok hW⟩

end Qfx
