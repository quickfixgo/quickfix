/-
  Qfx.Lemmas.ConcInv — the invariant of the lock-level model `Qfx.Conc`, behind `C02_all_schedules`.

  * `wf`: a static lock discipline on thread programs (which steps may occur with which locks held), checked by a
    structural recursion over the remaining steps of a thread from a context `Ctx`.
  * `Inv`: the monitor has accepted the trace so far, its state mirrors the store (`Glob`), every thread's remaining
    program is well-formed from a context that agrees with the actual lock state (`ThreadOK`), the holder of
    `sendMutex` knows what its register is worth (`HeldOK`), and the queue is ordered (`QOK`).
  * `Inv` is kept by every scheduled step of every thread (`inv_step1`: one case lemma `case_*` for every way `wfStep` accepts a step, each of
    which rebuilds the invariant with `assemble`, or `assemble_data` for a step of sendMutex's holder that touches no lock), holds initially
    (`inv_init`) and makes the monitor accept (`Inv.monitor`); the entry points of Model/Conc respect the discipline (`wfTo_*`).
    The clause `CtxValid` of `ThreadOKc` is kept by every step and read by none.
-/
import Qfx.Spec.Conc
namespace Qfx.Conc

/-- what the holder of sendMutex knows about its register -/
inductive RS | none | fresh | used
  deriving DecidableEq, Repr
/-- what the holder of sendMutex knows about the queue: ordered / empty / possibly holding numbers of the previous epoch -/
inductive QS | normal | empty | stale
  deriving DecidableEq, Repr
/-- sendMutex as a thread sees it: not held by it, or held with what it then knows -/
inductive SM | free | held (rs : RS) (qs : QS)
  deriving DecidableEq, Repr
/-- resendMutex as a thread sees it -/
inductive RM | none | read | write
  deriving DecidableEq, Repr
/-- what a thread knows, at a point of its program, about the locks it holds -/
structure Ctx where
  s : SM
  r : RM
  deriving DecidableEq, Repr

/-- one step of the discipline; `sess` = the thread is the session goroutine, `p` = message persistence enabled.
    Numbering, queue and store are touched only inside sendMutex.  `unlockS` refuses `stale`: after a store reset the queue
    must have been dropped before the lock is released (dropAndReset, dropAndSendInReplyTo), or old numbers would be written
    in the new epoch.  `enqueue` wants `sess ∨ read` and no write lock: a first-time message from a foreign goroutine is
    queued only under `resendMutex.RLock`, and nobody queues one inside a replay. -/
def wfStep (sess p : Bool) (c : Ctx) : Step → Option Ctx
  | .rlockR   => if c.s = .free ∧ c.r = .none then some ⟨.free, .read⟩ else none
  | .runlockR => if c.s = .free ∧ c.r = .read then some ⟨.free, .none⟩ else none
  | .lockR    => if sess = true ∧ c.s = .free ∧ c.r = .none then some ⟨.free, .write⟩ else none
  | .unlockR  => if c.s = .free ∧ c.r = .write then some ⟨.free, .none⟩ else none
  | .lockS    => if c.s = .free then some ⟨.held .none .normal, c.r⟩ else none
  | .unlockS  => match c.s with
      | .held _ qs => if qs ≠ .stale then some ⟨.free, c.r⟩ else none
      | .free => none
  | .readSeq  => match c.s with
      | .held _ qs => some ⟨.held .fresh qs, c.r⟩
      | .free => none
  | .storeReset => match c.s with
      | .held _ qs => some ⟨.held .none (if qs = .empty then .empty else .stale), c.r⟩
      | .free => none
  | .persistIncr => match c.s with
      | .held .fresh qs => if p = true then some ⟨.held .used qs, c.r⟩ else none
      | _ => none
  | .incrOnly => match c.s with
      | .held .fresh qs => if p = false then some ⟨.held .used qs, c.r⟩ else none
      | _ => none
  | .enqueue => match c.s with
      | .held .used qs => if qs ≠ .stale ∧ c.r ≠ .write ∧ (sess = true ∨ c.r = .read) then some ⟨.held .none .normal, c.r⟩ else none
      | _ => none
  | .enqueueDup _ => match c.s with
      | .held rs qs => if sess = true ∧ qs ≠ .stale then some ⟨.held rs .normal, c.r⟩ else none
      | .free => none
  | .flush _ => match c.s with
      | .held _ qs => if qs ≠ .stale then some c else none
      | .free => none
  | .dropQ => match c.s with
      | .held rs _ => some ⟨.held rs .empty, c.r⟩
      | .free => none
  | .notify => some c

/-- the context a program ends in, `none` if some step is refused -/
def wfTo (sess p : Bool) : Ctx → List Step → Option Ctx
  | c, [] => some c
  | c, st :: l => match wfStep sess p c st with
      | some c' => wfTo sess p c' l
      | none => none

/-- the remaining program respects the discipline and ends with all locks released -/
def wf (sess p : Bool) (c : Ctx) (l : List Step) : Bool :=
  wfTo sess p c l == some ⟨.free, .none⟩

theorem wfTo_append (sess p : Bool) (c : Ctx) (l1 l2 : List Step) :
    wfTo sess p c (l1 ++ l2) = (wfTo sess p c l1).bind (fun c' => wfTo sess p c' l2) := by
  induction l1 generalizing c with
  | nil => simp [wfTo]
  | cons st l ih =>
    simp only [List.cons_append, wfTo]
    cases wfStep sess p c st with
    | none => simp
    | some c' => simp [ih]

theorem wfTo_flatMap {α : Type} {sess p : Bool} {c : Ctx} {f : α → List Step} (h : ∀ a, wfTo sess p c (f a) = some c)
    (l : List α) : wfTo sess p c (l.flatMap f) = some c := by
  induction l with
  | nil => rfl
  | cons a l ih => simp only [List.flatMap_cons, wfTo_append, h, Option.bind_some, ih]

/-- a `match` on `wfStep`, so that the case rule of `wfStep` rewrites it (`inv_step1`): `False` where the step is refused -/
theorem wf_cons {sess p : Bool} {c : Ctx} {st : Step} {l : List Step} (h : wf sess p c (st :: l) = true) :
    match wfStep sess p c st with
    | some c' => wf sess p c' l = true
    | none => False := by
  unfold wf at h
  simp only [wfTo] at h
  cases hs : wfStep sess p c st with
  | none => simp [hs] at h
  | some c' => simpa [hs, wf] using h

/-- only the session goroutine ever write-holds resendMutex -/
def CtxValid (sess : Bool) (c : Ctx) : Prop := c.r = .write → sess = true

theorem wfStep_valid {sess p : Bool} {c c' : Ctx} {st : Step} (h : wfStep sess p c st = some c')
    (hv : CtxValid sess c) : CtxValid sess c' := by
  revert h
  fun_cases wfStep sess p c st <;> intro h <;> cases h
  -- `lockR` (case 5) alone sets `r` to `write`, and asks for `sess`; `rlockR`, `runlockR`, `unlockR` (1, 3, 7) set it to `none` or
  -- `read`; the rest keep it
  case case5 hc => exact fun _ => hc.1
  case case1 | case3 | case7 => exact nofun
  all_goals exact hv

theorem mrun_append (p : Bool) (m : MState) (a b : List Ev) :
    mrun p m (a ++ b) = match mrun p m a with
      | .ok m' => mrun p m' b
      | .error c => .error c := by
  induction a generalizing m with
  | nil => simp [mrun]
  | cons e es ih =>
    simp only [List.cons_append, mrun]
    cases mstep p m e with
    | error c => simp
    | ok m' => simp [ih]

theorem mrun_snoc_ok {p : Bool} {m0 m m' : MState} {tr : List Ev} {evs : List Ev}
    (h : mrun p m0 tr = .ok m) (h2 : mrun p m evs = .ok m') : mrun p m0 (tr ++ evs) = .ok m' := by
  rw [mrun_append, h]; exact h2

/-- the first-time numbers in the queue increase strictly from `lo` and stay below `b` -/
def QInc : Nat → List QEntry → Nat → Prop
  | lo, [], b => lo < b
  | lo, e :: q, b => match e.tag with
      | .first => lo < e.num ∧ QInc e.num q b
      | .dup _ => QInc lo q b

/-- once a replayed message of replay `r` is in the queue, only such messages follow -/
def TailDup (r : Nat) : List QEntry → Prop
  | [] => True
  | e :: q => (e.tag = .dup r → ∀ x ∈ q, x.tag = .dup r) ∧ TailDup r q

theorem QInc.lt {lo b : Nat} {q : List QEntry} (h : QInc lo q b) : lo < b := by
  induction q generalizing lo with
  | nil => exact h
  | cons e q ih =>
    unfold QInc at h
    split at h
    · exact Nat.lt_trans h.1 (ih h.2)
    · exact ih h

theorem QInc.mono {lo b b' : Nat} {q : List QEntry} (h : QInc lo q b) (hb : b ≤ b') : QInc lo q b' := by
  induction q generalizing lo with
  | nil => exact Nat.lt_of_lt_of_le h hb
  | cons e q ih =>
    unfold QInc at h ⊢
    split at h
    · exact ⟨h.1, ih h.2⟩
    · exact ih h

theorem QInc.snoc_first {lo n b : Nat} {q : List QEntry} (h : QInc lo q n) (hb : n < b) :
    QInc lo (q ++ [⟨n, .first⟩]) b := by
  induction q generalizing lo with
  | nil => simp only [List.nil_append, QInc]; exact ⟨h, hb⟩
  | cons e q ih =>
    simp only [List.cons_append]
    unfold QInc at h ⊢
    split at h
    · exact ⟨h.1, ih h.2⟩
    · exact ih h

theorem QInc.snoc_dup {lo n r b : Nat} {q : List QEntry} (h : QInc lo q b) :
    QInc lo (q ++ [⟨n, .dup r⟩]) b := by
  induction q generalizing lo with
  | nil => simp only [List.nil_append, QInc]; exact h
  | cons e q ih =>
    simp only [List.cons_append]
    unfold QInc at h ⊢
    split at h
    · exact ⟨h.1, ih h.2⟩
    · exact ih h

theorem TailDup.snoc {r n : Nat} {q : List QEntry} (h : TailDup r q) : TailDup r (q ++ [⟨n, .dup r⟩]) := by
  induction q with
  | nil => simp [TailDup]
  | cons e q ih =>
    simp only [List.cons_append, TailDup] at h ⊢
    refine ⟨fun he x hx => ?_, ih h.2⟩
    rcases List.mem_append.1 hx with hx | hx
    · exact h.1 he x hx
    · simp at hx; subst hx; rfl

theorem TailDup.of_notag {r : Nat} {q : List QEntry} (h : ∀ e ∈ q, e.tag ≠ .dup r) : TailDup r q := by
  induction q with
  | nil => trivial
  | cons e q ih =>
    refine ⟨fun he => absurd he (h e (by simp)), ih (fun x hx => h x (by simp [hx]))⟩

/-- the part of the state and of the monitor state that the queue facts speak about -/
structure View where
  sender : Nat
  persisted : List Nat
  queue : List QEntry
  rcount : Nat
  wr : Bool
  lastFirst : Nat
  inRegion : Bool

def view (s : State) (m : MState) : View :=
  { sender := s.sender, persisted := s.persisted, queue := s.queue, rcount := s.rcount, wr := s.writerR.isSome,
    lastFirst := m.lastFirst, inRegion := m.inRegion }

/-- the queue may be flushed at any time: first-time numbers increase from the last one written and stay below `b`, are saved
    (with persistence), and replayed messages sit where the monitor's replay clauses allow them -/
structure QOK (p : Bool) (v : View) (b : Nat) : Prop where
  inc  : QInc v.lastFirst v.queue b
  sav  : p = true → ∀ e ∈ v.queue, e.tag = .first → e.num ∈ v.persisted
  tags : ∀ e ∈ v.queue, ∀ r, e.tag = .dup r → r ≤ v.rcount
  tail : v.wr = true → TailDup v.rcount v.queue
  reg  : v.inRegion = true → ∀ e ∈ v.queue, e.tag = .dup v.rcount

/-- the upper bound for the first-time numbers in the queue: the register once its number has been handed out
    (the message under it is not queued yet), the store's counter otherwise -/
def bound (rs : RS) (reg sender : Nat) : Nat :=
  match rs with
  | .used => reg
  | _ => sender

/-- what holds while a thread with register `reg` is inside sendMutex in context `held rs qs` -/
structure HeldOK (p : Bool) (reg : Nat) (v : View) (rs : RS) (qs : QS) : Prop where
  fresh : rs = .fresh → reg = v.sender
  used  : rs = .used → reg + 1 = v.sender ∧ (p = true → reg ∈ v.persisted)
  lo    : v.lastFirst < bound rs reg v.sender
  q     : qs ≠ .stale → QOK p v (bound rs reg v.sender)
  emp   : qs = .empty → v.queue = []

/-- the monitor state mirrors the store and the resend lock -/
structure Glob (s : State) (m : MState) : Prop where
  cur   : m.cur = s.sender
  saved : m.saved = s.persisted
  rid   : m.rid = s.rcount
  rheld : m.rheld = s.writerR.isSome
  reg   : m.inRegion = true → m.rheld = true
  wr    : ∀ w, s.writerR = some w → w = 0 ∧ s.readersR = []

/-- thread `u`'s remaining program is well-formed from context `c`, and `c` agrees with the actual lock state -/
structure ThreadOKc (p : Bool) (s : State) (m : MState) (u : Nat) (c : Ctx) : Prop where
  wf    : wf (u == 0) p c (s.th u).todo = true
  hS    : c.s ≠ .free ↔ s.holderS = some u
  hW    : c.r = .write ↔ s.writerR = some u
  hR    : c.r = .read → u ∈ s.readersR
  valid : CtxValid (u == 0) c
  held  : ∀ rs qs, c.s = .held rs qs → HeldOK p (s.th u).reg (view s m) rs qs

def ThreadOK (p : Bool) (s : State) (m : MState) (u : Nat) : Prop := ∃ c, ThreadOKc p s m u c

/-- the invariant, with the monitor state `m` reached on the trace so far -/
structure InvM (p : Bool) (n0 : Nat) (s : State) (m : MState) : Prop where
  run  : mrun p (minit n0) s.trace = .ok m
  glob : Glob s m
  thr  : ∀ u, ThreadOK p s m u
  free : s.holderS = none → QOK p (view s m) s.sender

def Inv (p : Bool) (n0 : Nat) (s : State) : Prop := ∃ m, InvM p n0 s m

theorem Glob.frame {s s' : State} {m : MState} (h : Glob s m) (h1 : s'.sender = s.sender)
    (h2 : s'.persisted = s.persisted) (h3 : s'.rcount = s.rcount) (h4 : s'.writerR = s.writerR)
    (h5 : s'.readersR = s.readersR) : Glob s' m :=
  ⟨h.cur.trans h1.symm, h.saved.trans h2.symm, h.rid.trans h3.symm, h4 ▸ h.rheld, h.reg,
    fun w hw => h5 ▸ h.wr w (h4 ▸ hw)⟩

/-- without a writer of resendMutex the monitor is outside a replay -/
theorem Glob.no_region {s : State} {m : MState} (h : Glob s m) (hw : s.writerR = none) :
    m.rheld = false ∧ m.inRegion = false := by
  have hrh : m.rheld = false := by rw [h.rheld, hw]; rfl
  exact ⟨hrh, Bool.eq_false_iff.2 fun hr => by rw [h.reg hr] at hrh; cases hrh⟩

theorem ThreadOK.frame {p : Bool} {s s' : State} {m m' : MState} {u : Nat} (h : ThreadOK p s m u)
    (hth : s'.th u = s.th u)
    (hS : s'.holderS = some u ↔ s.holderS = some u)
    (hW : s'.writerR = some u ↔ s.writerR = some u)
    (hR : u ∈ s.readersR → u ∈ s'.readersR)
    (hV : s.holderS = some u → ∀ rs qs, HeldOK p (s.th u).reg (view s m) rs qs → HeldOK p (s.th u).reg (view s' m') rs qs) :
    ThreadOK p s' m' u := by
  obtain ⟨c, hc⟩ := h
  refine ⟨c, ?_⟩
  constructor
  · rw [hth]; exact hc.wf
  · rw [hS]; exact hc.hS
  · rw [hW]; exact hc.hW
  · exact fun h => hR (hc.hR h)
  · exact hc.valid
  · intro rs qs hq
    have : s.holderS = some u := hc.hS.1 (by rw [hq]; simp)
    rw [hth]; exact hV this rs qs (hc.held rs qs hq)

theorem QOK.mono {p : Bool} {v : View} {b b' : Nat} (h : QOK p v b) (hb : b ≤ b') : QOK p v b' :=
  ⟨h.inc.mono hb, h.sav, h.tags, h.tail, h.reg⟩

/-- an empty queue is in order below any bound above the last first-time number written -/
theorem QOK.nil {p : Bool} {v : View} {b : Nat} (hq : v.queue = []) (hlo : v.lastFirst < b) : QOK p v b := by
  refine ⟨by rw [hq]; exact hlo, ?_, ?_, ?_, ?_⟩ <;> simp [hq, TailDup]

/-- appending an entry to an ordered queue: the order is argued by the caller, the rest speaks of the entry alone
    (during a replay, and once its region has begun, only messages of that replay may be appended) -/
theorem QOK.snoc {p : Bool} {v : View} {b b' : Nat} (h : QOK p v b) (e : QEntry)
    (hinc : QInc v.lastFirst (v.queue ++ [e]) b')
    (hsav : p = true → e.tag = .first → e.num ∈ v.persisted)
    (htag : ∀ r, e.tag = .dup r → r ≤ v.rcount)
    (hdup : v.wr = true ∨ v.inRegion = true → e.tag = .dup v.rcount) :
    QOK p { v with queue := v.queue ++ [e] } b' := by
  have hmem : ∀ {P : QEntry → Prop}, (∀ x ∈ v.queue, P x) → P e → ∀ x ∈ v.queue ++ [e], P x := by
    intro P h1 h2 x hx
    rcases List.mem_append.1 hx with hx | hx
    · exact h1 x hx
    · rw [List.mem_singleton.1 hx]; exact h2
  refine ⟨hinc, fun hp => hmem (h.sav hp) (hsav hp), hmem h.tags htag, fun hw => ?_,
    fun hr => hmem (h.reg hr) (hdup (.inr hr))⟩
  obtain ⟨n, tg⟩ := e
  cases (hdup (.inl hw) : tg = .dup v.rcount)
  exact TailDup.snoc (h.tail hw)

/-- the heart: an ordered queue (`QOK`) is what makes the monitor accept the wire write of its first entry, and what is left of the queue
    is ordered again; stated over the fields of a `View` so that it applies to the monitor's state before the store is looked at -/
theorem wire_mon (p : Bool) (sender : Nat) (rc : Nat) (b : Nat) (e : QEntry) (q : List QEntry)
    (m : MState) (hrid : m.rid = rc) (hreg : m.inRegion = true → m.rheld = true)
    (hq : QOK p ⟨sender, m.saved, e :: q, rc, m.rheld, m.lastFirst, m.inRegion⟩ b) :
    ∃ lf ir, mstep p m (wireEv e) = .ok { m with lastFirst := lf, inRegion := ir } ∧ (ir = true → m.rheld = true) ∧
      QOK p ⟨sender, m.saved, q, rc, m.rheld, lf, ir⟩ b := by
  obtain ⟨n, tg⟩ := e
  have hinc := hq.inc
  have hrest : ∀ lf ir, QInc lf q b → (ir = true → ∀ x ∈ q, x.tag = .dup rc) →
      QOK p ⟨sender, m.saved, q, rc, m.rheld, lf, ir⟩ b := fun lf ir h1 h2 =>
    ⟨h1, fun hp x hx => hq.sav hp x (by simp [hx]), fun x hx => hq.tags x (by simp [hx]), fun hw => (hq.tail hw).2, h2⟩
  cases tg with
  | first =>
    simp only [QInc] at hinc
    have h3 : m.inRegion = false := by
      cases hr : m.inRegion with
      | false => rfl
      | true => have := hq.reg hr ⟨n, .first⟩ (by simp); simp at this
    refine ⟨n, m.inRegion, ?_, hreg, hrest _ _ hinc.2 (fun hr => by simp [h3] at hr)⟩
    simp only [wireEv, mstep]
    rw [if_neg (by simpa using hinc.1), if_neg (fun ⟨hp, hn⟩ => hn (hq.sav hp ⟨n, .first⟩ (by simp) rfl)),
      if_neg (by simp [h3])]
  | dup r =>
    simp only [QInc] at hinc
    refine ⟨m.lastFirst, m.inRegion || (m.rheld && r == m.rid), rfl, fun h => ?_, hrest _ _ hinc (fun hr x hx => ?_)⟩
    · simp only [Bool.or_eq_true, Bool.and_eq_true] at h
      exact h.elim hreg (·.1)
    · simp only [Bool.or_eq_true, Bool.and_eq_true, beq_iff_eq] at hr
      rcases hr with hr | ⟨hr1, hr2⟩
      · exact hq.reg hr x (by simp [hx])
      · exact (hq.tail hr1).1 (by simp [hr2, hrid]) x hx

/-- … and so of the first `k` entries, which is what `flush` writes -/
theorem flush_mon (p : Bool) (sender : Nat) (rc : Nat) (b : Nat) :
    ∀ (q : List QEntry) (k : Nat) (m : MState), m.rid = rc → (m.inRegion = true → m.rheld = true) →
      QOK p ⟨sender, m.saved, q, rc, m.rheld, m.lastFirst, m.inRegion⟩ b →
      ∃ lf ir, mrun p m ((q.take k).map wireEv) = .ok { m with lastFirst := lf, inRegion := ir } ∧
        (ir = true → m.rheld = true) ∧ QOK p ⟨sender, m.saved, q.drop k, rc, m.rheld, lf, ir⟩ b := by
  intro q
  induction q with
  | nil =>
    intro k m _ hreg hq
    exact ⟨m.lastFirst, m.inRegion, by simp [mrun], hreg, by simpa using hq⟩
  | cons e q ih =>
    intro k m hrid hreg hq
    cases k with
    | zero => exact ⟨m.lastFirst, m.inRegion, by simp [mrun], hreg, by simpa using hq⟩
    | succ k =>
      obtain ⟨lf, ir, hstep, hreg1, hq1⟩ := wire_mon p sender rc b e q m hrid hreg hq
      obtain ⟨lf', ir', hr', a5, a6⟩ := ih k { m with lastFirst := lf, inRegion := ir } hrid hreg1 hq1
      refine ⟨lf', ir', ?_, a5, by simpa using a6⟩
      simp only [List.take_succ_cons, List.map_cons, mrun, hstep]
      exact hr'

/-- a thread that may enqueue a first-time message (the session goroutine outside a replay, or a reader of
    resendMutex) excludes every resend writer -/
theorem no_writer_of_held {p : Bool} {s : State} {m : MState} {t : Nat} {c : Ctx} (hG : Glob s m)
    (hc : ThreadOKc p s m t c) (h2 : c.r ≠ .write) (h3 : (t == 0) = true ∨ c.r = .read) : s.writerR = none := by
  cases hw : s.writerR with
  | none => rfl
  | some w =>
    obtain ⟨hw0, hr⟩ := hG.wr w hw
    have hne : t ≠ w := fun h => h2 (hc.hW.2 (by rw [hw, h]))
    rcases h3 with h3 | h3
    · have : t = 0 := by simpa using h3
      omega
    · have := hc.hR h3; rw [hr] at this; simp at this

/-- what is known of the queue survives the start and the end of a replay: the replay count only grows, and a new writer
    starts a replay that none of the queued messages belongs to -/
theorem QOK.relock {p : Bool} {v : View} {b : Nat} (rc : Nat) (wr : Bool) (h : QOK p v b) (hrc : v.rcount ≤ rc)
    (hw : wr = true → v.rcount < rc) : QOK p { v with rcount := rc, wr := wr, inRegion := false } b :=
  ⟨h.inc, h.sav, fun e he r hr => Nat.le_trans (h.tags e he r hr) hrc,
    fun hwr => TailDup.of_notag (fun e he hr => Nat.lt_irrefl _ (Nat.lt_of_lt_of_le (hw hwr) (h.tags e he _ hr))), nofun⟩

theorem HeldOK.relock {p : Bool} {reg : Nat} {v : View} {rs : RS} {qs : QS} (rc : Nat) (wr : Bool) (h : HeldOK p reg v rs qs)
    (hrc : v.rcount ≤ rc) (hw : wr = true → v.rcount < rc) :
    HeldOK p reg { v with rcount := rc, wr := wr, inRegion := false } rs qs :=
  ⟨h.fresh, h.used, h.lo, fun hq => (h.q hq).relock rc wr hrc hw, h.emp⟩

@[simp] theorem upd_self (f : Nat → Thread) (t : Nat) (v : Thread) : upd f t v t = v := by simp [upd]
theorem upd_ne (f : Nat → Thread) {t u : Nat} (v : Thread) (h : u ≠ t) : upd f t v u = f u := by simp [upd, h]

/-- the state after thread `t` has attempted `st` with `rest` left to do; a blocked thread (`act` answers `none`) keeps its
    program -/
def after (s : State) (t : Nat) (st : Step) (rest : List Step) : State :=
  match act s t (s.th t).reg st with
  | none => s
  | some (s', reg') => { s' with th := upd s.th t ⟨rest, reg'⟩ }

theorem step1_cons {s : State} {t : Nat} {st : Step} {rest : List Step} (h : (s.th t).todo = st :: rest) :
    step1 s t = after s t st rest := by
  unfold step1 after; simp only [h]; rfl

theorem bound_le {rs : RS} {reg sender : Nat} (h : rs = .used → reg + 1 = sender) : bound rs reg sender ≤ sender := by
  cases rs <;> simp [bound]
  have := h rfl; omega

/-- a lock that thread `t` alone took or released looks the same to every other thread -/
theorem holder_frame {a b : Option Nat} {t u : Nat} (hu : u ≠ t)
    (h : a = b ∨ (a = some t ∧ b = none) ∨ (a = none ∧ b = some t)) : (a = some u ↔ b = some u) := by
  rcases h with rfl | ⟨rfl, rfl⟩ | ⟨rfl, rfl⟩
  · exact Iff.rfl
  · exact ⟨fun h => absurd (Option.some.inj h).symm hu, nofun⟩
  · exact ⟨nofun, fun h => absurd (Option.some.inj h).symm hu⟩

section cases
variable {p : Bool} {n0 : Nat} {s : State} {m : MState} {t : Nat} {c c' : Ctx} {rest : List Step}

/-- assembling the invariant after a step of thread `t`: `t` arrives in context `c'` with register `reg'`, the other
    threads keep their contexts, and what another holder of sendMutex knows carries over to the new view (`hoV`) -/
theorem assemble {s' : State} {m' : MState} {reg' : Nat}
    (hI : InvM p n0 s m) (hwf : wf (t == 0) p c' rest = true) (hV : CtxValid (t == 0) c')
    (hth : s'.th = upd s.th t ⟨rest, reg'⟩)
    (hrun : mrun p (minit n0) s'.trace = .ok m') (hG : Glob s' m')
    (hS : c'.s ≠ .free ↔ s'.holderS = some t) (hW : c'.r = .write ↔ s'.writerR = some t)
    (hR : c'.r = .read → t ∈ s'.readersR)
    (hH : ∀ rs qs, c'.s = .held rs qs → HeldOK p reg' (view s' m') rs qs)
    (hoS : s'.holderS = s.holderS ∨ (s'.holderS = some t ∧ s.holderS = none) ∨ (s'.holderS = none ∧ s.holderS = some t))
    (hoW : s'.writerR = s.writerR ∨ (s'.writerR = some t ∧ s.writerR = none) ∨ (s'.writerR = none ∧ s.writerR = some t))
    (hoR : ∀ u, u ≠ t → u ∈ s.readersR → u ∈ s'.readersR)
    (hoV : ∀ u, u ≠ t → s.holderS = some u → ∀ reg rs qs,
      HeldOK p reg (view s m) rs qs → HeldOK p reg (view s' m') rs qs)
    (hfree : s'.holderS = none → QOK p (view s' m') s'.sender) : Inv p n0 s' := by
  refine ⟨m', hrun, hG, fun u => ?_, hfree⟩
  by_cases hu : u = t
  · subst hu
    exact ⟨c', by rw [hth]; simpa using hwf, hS, hW, hR, hV, fun rs qs h => by rw [hth]; simpa using hH rs qs h⟩
  · exact (hI.thr u).frame (by rw [hth]; exact upd_ne _ _ hu) (holder_frame hu hoS) (holder_frame hu hoW) (hoR u hu)
      (fun h rs qs => hoV u hu h _ rs qs)

/-- who holds sendMutex in the discipline holds it in the state, and what the holder knows holds -/
theorem ThreadOKc.holder {rs : RS} {qs : QS} {cr : RM} (hc : ThreadOKc p s m t ⟨.held rs qs, cr⟩) :
    s.holderS = some t ∧ HeldOK p (s.th t).reg (view s m) rs qs :=
  ⟨hc.hS.1 (by simp), hc.held rs qs rfl⟩

theorem case_notify (hI : InvM p n0 s m) (hc : ThreadOKc p s m t c) (hwf : wf (t == 0) p c rest = true) :
    Inv p n0 (after s t .notify rest) := by
  simp only [after, act]
  exact assemble hI hwf hc.valid rfl hI.run
    (hI.glob.frame rfl rfl rfl rfl rfl)
    hc.hS hc.hW hc.hR hc.held (.inl rfl) (.inl rfl) (fun _ _ h => h) (fun _ _ _ _ _ _ h => h) hI.free

theorem case_rlockR (hI : InvM p n0 s m) (hc : ThreadOKc p s m t ⟨.free, .none⟩)
    (hwf : wf (t == 0) p ⟨.free, .read⟩ rest = true) : Inv p n0 (after s t .rlockR rest) := by
  simp only [after, act]
  by_cases hwn : s.writerR = none
  · rw [if_pos hwn]
    refine assemble hI hwf nofun rfl hI.run
      ⟨hI.glob.cur, hI.glob.saved, hI.glob.rid, hI.glob.rheld, hI.glob.reg, fun w hw => by rw [hwn] at hw; cases hw⟩
      hc.hS (by simp [hwn]) (fun _ => List.mem_cons_self) nofun (.inl rfl) (.inl rfl)
      (fun _ _ h => List.mem_cons_of_mem _ h) (fun _ _ _ _ _ _ h => h) hI.free
  · rw [if_neg hwn]
    exact ⟨m, hI⟩

theorem case_runlockR (hI : InvM p n0 s m) (hc : ThreadOKc p s m t ⟨.free, .read⟩)
    (hwf : wf (t == 0) p ⟨.free, .none⟩ rest = true) : Inv p n0 (after s t .runlockR rest) := by
  simp only [after, act]
  have hnw : s.writerR ≠ some t := fun h => by have := hc.hW.2 h; cases this
  refine assemble hI hwf nofun rfl hI.run
    ⟨hI.glob.cur, hI.glob.saved, hI.glob.rid, hI.glob.rheld, hI.glob.reg,
      fun w hw => ⟨(hI.glob.wr w hw).1, by simp [(hI.glob.wr w hw).2]⟩⟩
    hc.hS (by simpa using hnw) nofun nofun (.inl rfl) (.inl rfl)
    (fun u hu h => (List.mem_erase_of_ne hu).2 h) (fun _ _ _ _ _ _ h => h) hI.free

theorem case_lockR (hI : InvM p n0 s m) (h0 : (t == 0) = true) (hc : ThreadOKc p s m t ⟨.free, .none⟩)
    (hwf : wf (t == 0) p ⟨.free, .write⟩ rest = true) : Inv p n0 (after s t .lockR rest) := by
  have hV : CtxValid (t == 0) ⟨.free, .write⟩ := fun _ => h0
  have ht : t = 0 := by simpa using h0
  simp only [after, act]
  by_cases hen : s.writerR = none ∧ s.readersR = []
  · rw [if_pos hen]
    obtain ⟨hwn, hrn⟩ := hen
    obtain ⟨hrh, hir⟩ := hI.glob.no_region hwn
    let m' : MState := { m with rid := m.rid + 1, rheld := true, inRegion := false }
    have hstep : mrun p m [Ev.lockR] = .ok m' := by simp [mrun, mstep, hrh, m']
    refine assemble (m' := m') hI hwf hV rfl (mrun_snoc_ok hI.run hstep)
      ⟨hI.glob.cur, hI.glob.saved, congrArg (· + 1) hI.glob.rid, rfl, fun _ => rfl,
        fun w hw => ⟨by cases hw; exact ht, hrn⟩⟩
      hc.hS (by simp) nofun nofun (.inl rfl) (.inr (.inl ⟨rfl, hwn⟩)) (fun _ _ h => h) ?_ ?_
    · intro _ _ _ _ rs qs h
      simpa [view, hwn, hir, m'] using h.relock _ true (Nat.le_succ _) (fun _ => Nat.lt_succ_self _)
    · intro hn
      simpa [view, hwn, hir, m'] using (hI.free hn).relock _ true (Nat.le_succ _) (fun _ => Nat.lt_succ_self _)
  · rw [if_neg hen]
    exact ⟨m, hI⟩

theorem case_unlockR (hI : InvM p n0 s m) (hc : ThreadOKc p s m t ⟨.free, .write⟩)
    (hwf : wf (t == 0) p ⟨.free, .none⟩ rest = true) : Inv p n0 (after s t .unlockR rest) := by
  have hV : CtxValid (t == 0) ⟨.free, .none⟩ := nofun
  simp only [after, act]
  have hw : s.writerR = some t := hc.hW.1 rfl
  let m' : MState := { m with rheld := false, inRegion := false }
  have hstep : mrun p m [Ev.unlockR] = .ok m' := by simp [mrun, mstep, m']
  refine assemble (m' := m') hI hwf hV rfl (mrun_snoc_ok hI.run hstep)
    ⟨hI.glob.cur, hI.glob.saved, hI.glob.rid, rfl, nofun, nofun⟩
    hc.hS (by simp) nofun nofun (.inl rfl) (.inr (.inr ⟨rfl, hw⟩)) (fun _ _ h => h) ?_ ?_
  · intro _ _ _ _ rs qs h
    simpa [view, m'] using h.relock _ false (Nat.le_refl _) nofun
  · intro hn
    simpa [view, m'] using (hI.free hn).relock _ false (Nat.le_refl _) nofun

theorem case_lockS {cr : RM} (hI : InvM p n0 s m) (hc : ThreadOKc p s m t ⟨.free, cr⟩)
    (hwf : wf (t == 0) p ⟨.held .none .normal, cr⟩ rest = true) : Inv p n0 (after s t .lockS rest) := by
  have hV : CtxValid (t == 0) ⟨.held .none .normal, cr⟩ := hc.valid
  simp only [after, act]
  by_cases hen : s.holderS = none
  · rw [if_pos hen]
    have hQ := hI.free hen
    refine assemble hI hwf hV rfl hI.run
      (hI.glob.frame rfl rfl rfl rfl rfl)
      (by simp) hc.hW hc.hR ?_ (.inr (.inl ⟨rfl, hen⟩)) (.inl rfl) (fun _ _ h => h)
      (fun _ _ h => by rw [hen] at h; cases h) nofun
    intro rs qs h
    cases h
    exact ⟨nofun, nofun, hQ.inc.lt, fun _ => hQ, nofun⟩
  · rw [if_neg hen]
    exact ⟨m, hI⟩

theorem case_unlockS {rs : RS} {qs : QS} {cr : RM} (hI : InvM p n0 s m) (hc : ThreadOKc p s m t ⟨.held rs qs, cr⟩)
    (hqs : qs ≠ .stale) (hwf : wf (t == 0) p ⟨.free, cr⟩ rest = true) : Inv p n0 (after s t .unlockS rest) := by
  have hV : CtxValid (t == 0) ⟨.free, cr⟩ := hc.valid
  obtain ⟨hh, hH⟩ := hc.holder
  simp only [after, act]
  refine assemble hI hwf hV rfl hI.run
    (hI.glob.frame rfl rfl rfl rfl rfl)
    (by simp) hc.hW hc.hR nofun (.inr (.inr ⟨rfl, hh⟩)) (.inl rfl) (fun _ _ h => h)
    (fun u hu h => by rw [hh] at h; exact absurd (Option.some.inj h).symm hu)
    (fun _ => (hH.q hqs).mono (bound_le (fun h => (hH.used h).1)))

/-- `assemble` after a step of the holder `t` of sendMutex that touches no lock: nobody else holds anything to carry over -/
theorem assemble_data {s' : State} {m' : MState} {reg' : Nat} {rs rs' : RS} {qs qs' : QS} {cr : RM}
    (hI : InvM p n0 s m) (hc : ThreadOKc p s m t ⟨.held rs qs, cr⟩)
    (hwf : wf (t == 0) p ⟨.held rs' qs', cr⟩ rest = true)
    (hS' : s'.holderS = s.holderS) (hW' : s'.writerR = s.writerR) (hR' : s'.readersR = s.readersR)
    (hth : s'.th = upd s.th t ⟨rest, reg'⟩)
    (hrun : mrun p (minit n0) s'.trace = .ok m') (hG : Glob s' m')
    (hH : HeldOK p reg' (view s' m') rs' qs') : Inv p n0 s' :=
  have hh := hc.holder.1
  assemble hI hwf hc.valid hth hrun hG (by rw [hS']; simpa using hh) (by rw [hW']; exact hc.hW) (by rw [hR']; exact hc.hR)
    (fun rs qs h => by cases h; exact hH) (.inl hS') (.inl hW') (fun _ _ h => hR' ▸ h)
    (fun u hu h => by rw [hh] at h; exact absurd (Option.some.inj h).symm hu)
    (fun h => by rw [hS', hh] at h; cases h)

theorem case_readSeq {rs : RS} {qs : QS} {cr : RM} (hI : InvM p n0 s m) (hc : ThreadOKc p s m t ⟨.held rs qs, cr⟩)
    (hwf : wf (t == 0) p ⟨.held .fresh qs, cr⟩ rest = true) : Inv p n0 (after s t .readSeq rest) := by
  have hH := hc.holder.2
  simp only [after, act]
  refine assemble_data hI hc hwf rfl rfl rfl rfl hI.run
    (hI.glob.frame rfl rfl rfl rfl rfl) ?_
  have hb := bound_le (fun h => (hH.used h).1)
  exact ⟨fun _ => rfl, (fun h => by cases h), Nat.lt_of_lt_of_le hH.lo hb, fun h => (hH.q h).mono hb, hH.emp⟩

theorem case_storeReset {rs : RS} {qs : QS} {cr : RM} (hI : InvM p n0 s m) (hc : ThreadOKc p s m t ⟨.held rs qs, cr⟩)
    (hwf : wf (t == 0) p ⟨.held .none (if qs = .empty then .empty else .stale), cr⟩ rest = true) :
    Inv p n0 (after s t .storeReset rest) := by
  have hH := hc.holder.2
  simp only [after, act]
  let m' : MState := { m with cur := 1, saved := [], lastFirst := 0 }
  have hstep : mrun p m [Ev.reset] = .ok m' := by simp [mrun, mstep, m']
  refine assemble_data (m' := m') hI hc hwf rfl rfl rfl rfl
    (mrun_snoc_ok hI.run hstep) ⟨rfl, rfl, hI.glob.rid, hI.glob.rheld, hI.glob.reg, hI.glob.wr⟩ ?_
  have hemp : (if qs = QS.empty then QS.empty else QS.stale) ≠ .stale → s.queue = [] := by
    intro h; split at h
    · rename_i hq; exact hH.emp hq
    · exact absurd rfl h
  refine ⟨(fun h => by cases h), (fun h => by cases h), by simp [bound, view, m'], fun h => ?_, fun h => ?_⟩
  · exact QOK.nil (hemp h) (by simp [bound, view, m'])
  · exact hemp (by rw [h]; simp)

/-- handing out the register's number: `persistIncr` (`sv = true`, persistence on) or `incrOnly` (`sv = false`, off);
    stated on the record both `after s t .persistIncr rest` and `after s t .incrOnly rest` unfold to -/
theorem case_assign (sv : Bool) (hp : p = sv) {qs : QS} {cr : RM} (hI : InvM p n0 s m)
    (hc : ThreadOKc p s m t ⟨.held .fresh qs, cr⟩) (hwf : wf (t == 0) p ⟨.held .used qs, cr⟩ rest = true) :
    Inv p n0 { s with persisted := if sv then s.persisted ++ [(s.th t).reg] else s.persisted, sender := s.sender + 1,
                      trace := s.trace ++ [Ev.assign (s.th t).reg (s.sender + 1) sv],
                      th := upd s.th t ⟨rest, (s.th t).reg⟩ } := by
  have hH := hc.held .fresh qs rfl
  have hreg : (s.th t).reg = s.sender := hH.fresh rfl
  let m' : MState := { m with cur := s.sender + 1, saved := if sv then m.saved ++ [(s.th t).reg] else m.saved }
  have hstep : mrun p m [Ev.assign (s.th t).reg (s.sender + 1) sv] = .ok m' := by
    simp [mrun, mstep, m', hI.glob.cur, hreg]
  refine assemble_data (m' := m') hI hc hwf rfl rfl rfl rfl
    (mrun_snoc_ok hI.run hstep) ⟨rfl, ?_, hI.glob.rid, hI.glob.rheld, hI.glob.reg, hI.glob.wr⟩ ?_
  · show (if sv then m.saved ++ _ else m.saved) = _
    rw [hI.glob.saved]
  · have hlo : m.lastFirst < (s.th t).reg := by rw [hreg]; exact hH.lo
    refine ⟨nofun, fun _ => ⟨by simp [view, hreg], fun h => ?_⟩, hlo, fun h => ?_, hH.emp⟩
    · cases hp.symm.trans h
      simp [view]
    · have hq := hH.q h
      refine ⟨?_, fun hp e he hf => ?_, hq.tags, hq.tail, hq.reg⟩
      · have := hq.inc
        simp only [bound, view] at this ⊢
        rw [hreg]; exact this
      · have := hq.sav hp e he hf
        simp only [view] at this ⊢
        cases sv
        · exact this
        · exact List.mem_append_left _ this

theorem case_enqueue {qs : QS} {cr : RM} (hI : InvM p n0 s m) (hc : ThreadOKc p s m t ⟨.held .used qs, cr⟩)
    (hqs : qs ≠ .stale) (hcr : cr ≠ .write) (hsr : (t == 0) = true ∨ cr = .read)
    (hwf : wf (t == 0) p ⟨.held .none .normal, cr⟩ rest = true) : Inv p n0 (after s t .enqueue rest) := by
  have hH := hc.holder.2
  obtain ⟨hreg, hsv⟩ := hH.used rfl
  have hnw : s.writerR = none := no_writer_of_held hI.glob hc hcr hsr
  have hnr := (hI.glob.no_region hnw).2
  simp only [after, act]
  refine assemble_data hI hc hwf rfl rfl rfl rfl hI.run
    (hI.glob.frame rfl rfl rfl rfl rfl) ?_
  have hq := hH.q hqs
  have hlt : (s.th t).reg < s.sender := by simp only [view] at hreg; omega
  exact ⟨nofun, nofun, Nat.lt_trans hH.lo hlt,
    fun _ => hq.snoc _ (QInc.snoc_first hq.inc hlt) (fun hp _ => hsv hp) nofun
      (fun h => by simp [view, hnw, hnr] at h), nofun⟩

theorem case_enqueueDup {n : Nat} (hI : InvM p n0 s m) {rs : RS} {qs : QS} {cr : RM}
    (hc : ThreadOKc p s m t ⟨.held rs qs, cr⟩) (hqs : qs ≠ .stale) (hwf : wf (t == 0) p ⟨.held rs .normal, cr⟩ rest = true) :
    Inv p n0 (after s t (.enqueueDup n) rest) := by
  have hH := hc.holder.2
  simp only [after, act]
  refine assemble_data hI hc hwf rfl rfl rfl rfl hI.run
    (hI.glob.frame rfl rfl rfl rfl rfl) ?_
  have hq := hH.q hqs
  exact ⟨hH.fresh, hH.used, hH.lo,
    fun _ => hq.snoc _ (QInc.snoc_dup hq.inc) nofun (fun r h => by cases h; exact Nat.le_refl _) (fun _ => rfl), nofun⟩

theorem case_dropQ {rs : RS} {qs : QS} {cr : RM} (hI : InvM p n0 s m) (hc : ThreadOKc p s m t ⟨.held rs qs, cr⟩)
    (hwf : wf (t == 0) p ⟨.held rs .empty, cr⟩ rest = true) : Inv p n0 (after s t .dropQ rest) := by
  have hH := hc.holder.2
  simp only [after, act]
  refine assemble_data hI hc hwf rfl rfl rfl rfl hI.run
    (hI.glob.frame rfl rfl rfl rfl rfl) ?_
  exact ⟨hH.fresh, hH.used, hH.lo, fun _ => QOK.nil rfl hH.lo, fun _ => rfl⟩

theorem case_flush {lim : Option Nat} (hI : InvM p n0 s m) {rs : RS} {qs : QS} {cr : RM}
    (hc : ThreadOKc p s m t ⟨.held rs qs, cr⟩) (hqs : qs ≠ .stale) (hwf : wf (t == 0) p ⟨.held rs qs, cr⟩ rest = true) :
    Inv p n0 (after s t (.flush lim) rest) := by
  have hH := hc.holder.2
  simp only [after, act]
  have hG := hI.glob
  have hq := hH.q hqs
  simp only [view, ← hG.saved, ← hG.rheld] at hq
  obtain ⟨lf, ir, hr', a5, a6⟩ :=
    flush_mon p s.sender s.rcount (bound rs (s.th t).reg s.sender) s.queue
      (lim.getD s.queue.length) m hG.rid hG.reg hq
  refine assemble_data (m' := { m with lastFirst := lf, inRegion := ir }) hI hc hwf rfl rfl rfl rfl
    (mrun_snoc_ok hI.run hr') ⟨hG.cur, hG.saved, hG.rid, hG.rheld, a5, hG.wr⟩ ?_
  simp only [hG.saved, hG.rheld] at a6
  refine ⟨hH.fresh, hH.used, a6.inc.lt, fun _ => a6, fun h => ?_⟩
  have := hH.emp h
  simp only [view] at this ⊢
  rw [this]; simp

end cases

theorem inv_step1 {p : Bool} {n0 : Nat} {s : State} (h : Inv p n0 s) (t : Nat) : Inv p n0 (step1 s t) := by
  obtain ⟨m, hI⟩ := h
  cases htodo : (s.th t).todo with
  | nil => unfold step1; rw [htodo]; exact ⟨m, hI⟩
  | cons st rest =>
    obtain ⟨c, hc⟩ := hI.thr t
    have hwf := hc.wf
    rw [htodo] at hwf
    obtain ⟨cs, cr⟩ := c
    have hwf' := wf_cons hwf
    rw [step1_cons htodo]
    revert hwf'
    -- one leaf for every way a step is accepted, a refusal leaves `False`; numbers follow the arms of `wfStep` top to bottom (an `if`: accept,
    -- refuse); 18 / 21 = `persistIncr` / `incrOnly`.  Every `case_*` takes `hwf` last: it is the implication left by `revert hwf'`
    fun_cases wfStep (t == 0) p ⟨cs, cr⟩ st with
    | case1 h => obtain ⟨rfl, rfl⟩ := h; exact case_rlockR hI hc
    | case3 h => obtain ⟨rfl, rfl⟩ := h; exact case_runlockR hI hc
    | case5 h => obtain ⟨h0, rfl, rfl⟩ := h; exact case_lockR hI h0 hc
    | case7 h => obtain ⟨rfl, rfl⟩ := h; exact case_unlockR hI hc
    | case9 h => obtain rfl := h; exact case_lockS hI hc
    | case11 rs qs e hqs => obtain rfl := e; exact case_unlockS hI hc hqs
    | case14 rs qs e => obtain rfl := e; exact case_readSeq hI hc
    | case16 rs qs e => obtain rfl := e; exact case_storeReset hI hc
    | case18 qs e hp =>
      obtain rfl := e; exact case_assign true hp hI hc
    | case21 qs e hp =>
      obtain rfl := e; exact case_assign false hp hI hc
    | case24 qs e h => obtain rfl := e; exact case_enqueue hI hc h.1 h.2.1 h.2.2
    | case27 n rs qs e h => obtain rfl := e; exact case_enqueueDup hI hc h.2
    | case30 lim rs qs e hqs => obtain rfl := e; exact case_flush hI hc hqs
    | case33 rs qs e => obtain rfl := e; exact case_dropQ hI hc
    | case35 => exact case_notify hI hc
    | _ => nofun

theorem inv_run {p : Bool} {n0 : Nat} (sched : List Nat) {s : State} (h : Inv p n0 s) : Inv p n0 (run s sched) := by
  induction sched generalizing s with
  | nil => exact h
  | cons t ts ih => exact ih (inv_step1 h t)

theorem inv_init {p : Bool} {n0 : Nat} (hn : 0 < n0) {progs : Nat → List Step}
    (hwf : ∀ t, wf (t == 0) p ⟨.free, .none⟩ (progs t) = true) : Inv p n0 (initRaw n0 progs) := by
  refine ⟨minit n0, rfl, ⟨rfl, rfl, rfl, rfl, (fun h => by cases h), (fun w h => by cases h)⟩, ?_, ?_⟩
  · intro u
    refine ⟨⟨.free, .none⟩, ⟨hwf u, ?_, ?_, ?_, ?_, ?_⟩⟩
    · simp [initRaw]
    · simp [initRaw]
    · intro h; cases h
    · intro h; cases h
    · intro rs qs h; cases h
  · exact fun _ => QOK.nil rfl hn

theorem Inv.monitor {p : Bool} {n0 : Nat} {s : State} (h : Inv p n0 s) : MonitorC02 p n0 s.trace = true := by
  obtain ⟨m, hI⟩ := h
  simp [MonitorC02, hI.run]

theorem wfTo_queueForSend (sess p : Bool) :
    wfTo sess p ⟨.free, .none⟩ (prog_queueForSend p) = some ⟨.free, .none⟩ := by
  cases sess <;> cases p <;> rfl

theorem wfTo_sendInReplyTo (sess p : Bool) (lim : Option Nat) :
    wfTo sess p ⟨.free, .none⟩ (prog_sendInReplyTo p lim) = some ⟨.free, .none⟩ := by
  cases sess <;> cases p <;> rfl

theorem wfTo_dropAndReset (sess p : Bool) :
    wfTo sess p ⟨.free, .none⟩ prog_dropAndReset = some ⟨.free, .none⟩ := by
  rfl

theorem wfTo_acall (p : Bool) (c : ACall) :
    wfTo false p ⟨.free, .none⟩ (c.prog p) = some ⟨.free, .none⟩ := by
  cases c with
  | queueForSend => exact wfTo_queueForSend false p
  | resetSession sd =>
    simp only [ACall.prog, prog_resetSession, wfTo_append]
    cases sd with
    | nothing => simp [prog_shutdownNow, wfTo, wfTo_dropAndReset]
    | logout l lim =>
      cases l
      · simp [prog_shutdownNow, prog_sendInReplyToFull, wfTo_queueForSend, wfTo_dropAndReset]
      · simp [prog_shutdownNow, prog_sendInReplyToFull, wfTo_sendInReplyTo, wfTo_dropAndReset]

theorem wfTo_ebs (p l : Bool) (n : Nat) (lim : Option Nat) (r : RM) :
    wfTo true p ⟨.free, r⟩ (prog_enqueueBytesAndSend l n lim) = some ⟨.free, r⟩ := by
  cases l <;> rfl

theorem wfTo_scall (p : Bool) (c : SCall) :
    wfTo true p ⟨.free, .none⟩ (c.prog p) = some ⟨.free, .none⟩ := by
  cases c with
  | queueForSend => exact wfTo_queueForSend true p
  | sendInReplyTo lim => exact wfTo_sendInReplyTo true p lim
  | dropAndSendInReplyTo reset lim =>
    cases p <;> cases reset <;> rfl
  | sendAppMessages l lim => cases l <;> rfl
  | dropAndReset => exact wfTo_dropAndReset true p
  | enqueueBytesAndSend l n lim => exact wfTo_ebs p l n lim .none
  | resendMessages items =>
    simp only [SCall.prog, prog_resendMessages, wfTo_append]
    simp [wfTo, wfStep, wfTo_flatMap (fun it : Item => wfTo_ebs p it.loggedOn it.num it.lim .write)]

end Qfx.Conc
