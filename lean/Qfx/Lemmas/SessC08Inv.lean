/-
  C08, the invariant relating the automaton state to the session — weak (`W`: holds at every point of an event) and
  strong (`S`: between events) — and its preservation: steps `P b` (`b`: no Logout written), one lemma about a send judged with
  a state `c` in place (`SendOut.wk`), from it the sending primitives as `P`-steps and, judged elsewhere, `Pv c`-steps, and the
  peeling lemmas `qpeel_*`.
-/
import Qfx.Lemmas.SessC08Trace
namespace Qfx.Sess
open Qfx

def SState.isLogon : SState → Bool
  | .logon => true
  | _ => false
def SState.isLogout : SState → Bool
  | .logout => true
  | _ => false

theorem SState.connected_eq (st : SState) : st.connected = (st.loggedOn || st.isLogon || st.isLogout) := by
  cases st <;> rfl
theorem SState.loggedOn_not_logon (st : SState) (h : st.loggedOn = true) : st.isLogon = false := by
  cases st <;> simp_all [SState.loggedOn, SState.isLogon]
theorem SState.loggedOn_not_logout (st : SState) (h : st.loggedOn = true) : st.isLogout = false := by
  cases st <;> simp_all [SState.loggedOn, SState.isLogout]
theorem SState.logon_not_loggedOn (st : SState) (h : st.isLogon = true) : st.loggedOn = false := by
  cases st <;> simp_all [SState.loggedOn, SState.isLogon]
theorem SState.logon_not_logout (st : SState) (h : st.isLogon = true) : st.isLogout = false := by
  cases st <;> simp_all [SState.isLogout, SState.isLogon]
theorem SState.logout_not_loggedOn (st : SState) (h : st.isLogout = true) : st.loggedOn = false := by
  cases st <;> simp_all [SState.loggedOn, SState.isLogout]
theorem SState.logout_not_logon (st : SState) (h : st.isLogout = true) : st.isLogon = false := by
  cases st <;> simp_all [SState.isLogout, SState.isLogon]

/-- the queue can be written now without upsetting the automaton (not the budget `Q k` of SessC04) -/
def Q (g : G8) (q : List OutMsg) : Prop :=
  (∀ m ∈ q, (m.kind == "5") = false) ∧ (g.sentLogout = true → ∀ m ∈ q, appFirst m = false)

theorem Q_nil (g : G8) : Q g [] := ⟨by simp, by simp⟩
/-- the weak invariant: what ties the automaton state `g` to the session at every point of an event.  A new clause of the
    automaton starts with a field here; the fields are taken apart by position in `W.congr`, `W.afterWrite`, `W.newQueue` and
    given one by one in `W.toLogout`, `W.latent`, `W.logon`, `logon_up` and `C08Good_init` (Props/C08). -/
structure W (g : G8) (s : Sess) : Prop where
  /-- nothing violated so far -/
  ok : g.ok = true
  /-- "a connection is open" is the session's connection (clauses `wire`, `connected`) -/
  conn : g.conn = s.out
  /-- the notification flag is up exactly in the logged-on states and the logout state (clauses `fromApp`, `closed`) -/
  cb : g.cb = (s.st.loggedOn || s.st.isLogout)
  /-- with the flag up the logon notification of this connection has been given: application messages may be written -/
  hs : g.cb = true → g.handshake = true
  /-- in a connected state no logout notification has been given on this connection: the one that ends it is the first
      (clause `onLogout`) -/
  notif : (s.st.loggedOn || s.st.isLogon || s.st.isLogout) = true → g.notified = false
  /-- a connection nothing has been written on is an acceptor's waiting for the Logon: the first thing written is its Logon
      or a Logout (clause `wire`) -/
  fresh : s.out = true → g.fresh = true → (s.st.isLogon = true ∧ s.cfg.initiator = false ∧ g.handshake = false)
  /-- logged on, or an initiator in the Logon state: what is queued may be written (`Q`) -/
  queue : s.out = true → (s.st.loggedOn = true ∨ (s.st.isLogon = true ∧ s.cfg.initiator = true)) → Q g s.toSend
  /-- outside the connected states there is no connection: a connect finds none open (clause `connected`) -/
  noconn : (s.st.loggedOn || s.st.isLogon || s.st.isLogout) = false → s.out = false

/-- the strong invariant: what holds between events (and wherever no Logout has been written while logged on).  It adds
    one clause to `W`: no Logout written on this connection while the state is logged on or Logon.  A handler that sends
    a Logout breaks exactly that clause until `setState` has moved the state to Logout; such steps are tracked with the weak
    invariant alone (`P false`). -/
def S (g : G8) (s : Sess) : Prop :=
  W g s ∧ (s.out = true → (s.st.loggedOn || s.st.isLogon) = true → g.sentLogout = false)

def WK (g0 : G8) (s : Sess) : Prop := W (g8Of g0 s) s
def SK (g0 : G8) (s : Sess) : Prop := S (g8Of g0 s) s

theorem SK.w {g0 : G8} {s : Sess} (h : SK g0 s) : WK g0 s := h.1

theorem W.congr {g : G8} {s r : Sess} (h : W g s) (h1 : r.st.loggedOn = s.st.loggedOn) (h2 : r.st.isLogon = s.st.isLogon)
    (h3 : r.st.isLogout = s.st.isLogout) (h4 : r.out = s.out) (h5 : r.cfg = s.cfg) (h6 : r.toSend = s.toSend) : W g r := by
  obtain ⟨a1, a2, a3, a4, a5, a6, a7, a8⟩ := h
  exact ⟨a1, by rw [h4]; exact a2, by rw [h1, h3]; exact a3, a4, by rw [h1, h2, h3]; exact a5,
    by rw [h4, h2, h5]; exact a6, by rw [h4, h1, h2, h5, h6]; exact a7, by rw [h1, h2, h3, h4]; exact a8⟩

theorem S.congr {g : G8} {s r : Sess} (h : S g s) (h1 : r.st.loggedOn = s.st.loggedOn) (h2 : r.st.isLogon = s.st.isLogon)
    (h3 : r.st.isLogout = s.st.isLogout) (h4 : r.out = s.out) (h5 : r.cfg = s.cfg) (h6 : r.toSend = s.toSend) : S g r :=
  ⟨h.1.congr h1 h2 h3 h4 h5 h6, by rw [h4, h1, h2]; exact h.2⟩

theorem W.sil {g : G8} {s r : Sess} (h : W g s) (hs : Sil s r) : W g r :=
  h.congr (by rw [hs.fr.st]) (by rw [hs.fr.st]) (by rw [hs.fr.st]) hs.fr.out hs.fr.cfg hs.q
theorem S.sil {g : G8} {s r : Sess} (h : S g s) (hs : Sil s r) : S g r :=
  h.congr (by rw [hs.fr.st]) (by rw [hs.fr.st]) (by rw [hs.fr.st]) hs.fr.out hs.fr.cfg hs.q

theorem WK.sil {g0 : G8} {s r : Sess} (h : WK g0 s) (hs : Sil s r) : WK g0 r := by
  unfold WK; rw [hs.g8 g0]; exact W.sil h hs
theorem SK.sil {g0 : G8} {s r : Sess} (h : SK g0 s) (hs : Sil s r) : SK g0 r := by
  unfold SK; rw [hs.g8 g0]; exact S.sil h hs

theorem W.afterWrite {g : G8} {s r : Sess} (h : W g s) (fr : Fr s r) (hq : r.toSend = []) (b : Bool) :
    W { g with fresh := false, sentLogout := b } r := by
  obtain ⟨a1, a2, a3, a4, a5, a6, a7, a8⟩ := h
  exact { ok := a1, conn := (by rw [fr.out]; exact a2), cb := (by rw [fr.st]; exact a3), hs := a4,
          notif := (by rw [fr.st]; exact a5), fresh := (by intro _ hf; cases hf),
          queue := (by intro _ _; rw [hq]; exact Q_nil _), noconn := (by rw [fr.st, fr.out]; exact a8) }

theorem W.newQueue {g : G8} {s r : Sess} (h : W g s) (fr : Fr s r)
    (hq : s.out = true → (s.st.loggedOn = true ∨ (s.st.isLogon = true ∧ s.cfg.initiator = true)) → Q g r.toSend) : W g r := by
  obtain ⟨a1, a2, a3, a4, a5, a6, a7, a8⟩ := h
  exact ⟨a1, by rw [fr.out]; exact a2, by rw [fr.st]; exact a3, a4, by rw [fr.st]; exact a5,
    by rw [fr.out, fr.st, fr.cfg]; exact a6, by rw [fr.out, fr.st, fr.cfg]; exact hq, by rw [fr.st, fr.out]; exact a8⟩

/-- a write the automaton does not notice: on an open connection already written on, no Logout, and an application message only
    after the handshake and before a Logout -/
theorem c8o_wire_quiet (g : G8) (m : OutMsg) (hok : g.ok = true) (hc : g.conn = true) (hf : g.fresh = false)
    (k5 : (m.kind == "5") = false) (ha : appFirst m = true → g.handshake = true ∧ g.sentLogout = false) : c8o g (.wire m) = g := by
  rw [c8o_wire]
  cases hap : appFirst m
  · cases g; simp_all
  · have := ha hap
    cases g; simp_all

theorem wr_quiet (g : G8) (q : List OutMsg) (hok : g.ok = true) (hc : g.conn = true) (hf : g.fresh = false)
    (h5 : ∀ m ∈ q, (m.kind == "5") = false)
    (ha : ∀ m ∈ q, appFirst m = true → g.handshake = true ∧ g.sentLogout = false) : wr g q = g := by
  induction q with
  | nil => rfl
  | cons m rest ih =>
    show wr (c8o g (.wire m)) rest = g
    rw [c8o_wire_quiet g m hok hc hf (h5 m (by simp)) (ha m (by simp))]
    exact ih (fun x hx => h5 x (by simp [hx])) (fun x hx => ha x (by simp [hx]))

/-- an engine message (no first-time application message; the first write a Logon or a Logout) is accepted -/
theorem c8o_wire_engine (g : G8) (m : OutMsg) (hok : g.ok = true) (hc : g.conn = true)
    (hfresh : g.fresh = true → m.kind = "A" ∨ m.kind = "5") (hm : appFirst m = false) :
    c8o g (.wire m) = { g with fresh := false, sentLogout := g.sentLogout || m.kind == "5" } := by
  rw [c8o_wire]
  cases hf : g.fresh
  · cases g; simp_all
  · rcases hfresh hf with h | h <;> (cases g; simp_all)

theorem wr_engine (g : G8) (kept : List OutMsg) (m : OutMsg) (hok : g.ok = true) (hc : g.conn = true)
    (hfresh : g.fresh = true → kept = [] ∧ (m.kind = "A" ∨ m.kind = "5"))
    (h5 : ∀ x ∈ kept, (x.kind == "5") = false)
    (ha : ∀ x ∈ kept, appFirst x = true → g.handshake = true ∧ g.sentLogout = false)
    (hm : appFirst m = false) :
    wr g (kept ++ [m]) = { g with fresh := false, sentLogout := g.sentLogout || m.kind == "5" } := by
  -- what is written in front is quiet (not the first write) or nothing (the first write)
  have hq : wr g kept = g := by
    cases hf : g.fresh
    · exact wr_quiet g kept hok hc hf h5 ha
    · rw [(hfresh hf).1]; rfl
  rw [wr_append, hq, wr_single]
  exact c8o_wire_engine g m hok hc (fun hf => (hfresh hf).2) hm

/-- `P false` without its third field -/
structure PL (g0 : G8) (s s' : Sess) : Prop where
  fr : Fr s s'
  w : WK g0 s → WK g0 s'

theorem PL.trans {g0 : G8} {a b c : Sess} (h1 : PL g0 a b) (h2 : PL g0 b c) : PL g0 a c :=
  ⟨h1.fr.trans h2.fr, fun h => h2.w (h1.w h)⟩
theorem PL.refl (g0 : G8) (s : Sess) : PL g0 s s := ⟨Fr.refl s, id⟩

/-- `P true` = both invariants preserved, `P false` = the weak one (a Logout may have been written) -/
structure P (b : Bool) (g0 : G8) (s x : Sess) : Prop where
  fr : Fr s x
  w : WK g0 s → WK g0 x
  st : b = true → SK g0 s → SK g0 x

theorem P.refl (b : Bool) (g0 : G8) (s : Sess) : P b g0 s s := ⟨Fr.refl s, id, fun _ => id⟩
/-- `true && b` and `false && b` compute, so this serves for a neutral step and for one that writes a Logout -/
theorem P.seq {b b' : Bool} {g0 : G8} {s x y : Sess} (h : P b g0 s x) (h2 : P b' g0 x y) : P (b' && b) g0 s y :=
  ⟨h.fr.trans h2.fr, fun hw => h2.w (h.w hw), fun hb hs => by
    simp only [Bool.and_eq_true] at hb; exact h2.st hb.1 (h.st hb.2 hs)⟩
theorem P.weaken {b : Bool} {g0 : G8} {s x : Sess} (h : P b g0 s x) : P false g0 s x :=
  ⟨h.fr, h.w, fun hb => by cases hb⟩
theorem P.trans {b : Bool} {g0 : G8} {s x y : Sess} (h : P b g0 s x) (h2 : P b g0 x y) : P b g0 s y :=
  ⟨h.fr.trans h2.fr, fun hw => h2.w (h.w hw), fun hb hs => h2.st hb (h.st hb hs)⟩
theorem Sil.p {s r : Sess} (h : Sil s r) (b : Bool) (g0 : G8) : P b g0 s r := ⟨h.fr, fun hw => hw.sil h, fun _ hs => hs.sil h⟩

/-- `P true` without the frame: for steps that consume the inbound buffer or change the state tag -/
structure Keeps (g0 : G8) (s x : Sess) : Prop where
  w : WK g0 s → WK g0 x
  st : SK g0 s → SK g0 x

theorem Keeps.refl (g0 : G8) (s : Sess) : Keeps g0 s s := ⟨id, id⟩
theorem Keeps.trans {g0 : G8} {s x y : Sess} (h : Keeps g0 s x) (h2 : Keeps g0 x y) : Keeps g0 s y :=
  ⟨fun hw => h2.w (h.w hw), fun hs => h2.st (h.st hs)⟩
/-- a step that restores the strong invariant from the weak one keeps both -/
theorem Keeps.of_restore {g0 : G8} {s x : Sess} (h : WK g0 s → SK g0 x) : Keeps g0 s x := ⟨fun hw => (h hw).1, fun hs => h hs.1⟩
theorem Sil.keeps {s r : Sess} (h : Sil s r) (g0 : G8) : Keeps g0 s r := ⟨fun hw => hw.sil h, fun hs => hs.sil h⟩

/-- logged on, the queue is what `wr_quiet` and `wr_engine` ask of the messages written in front -/
theorem W.queued {g : G8} {s : Sess} (hW : W g s) (ho : s.out = true) (hl : s.st.loggedOn = true) :
    (∀ x ∈ s.toSend, (x.kind == "5") = false) ∧ ∀ x ∈ s.toSend, appFirst x = true → g.handshake = true ∧ g.sentLogout = false := by
  have hQ := hW.queue ho (Or.inl hl)
  refine ⟨hQ.1, fun x hx hap => ⟨hW.hs (by rw [hW.cb, hl]; rfl), ?_⟩⟩
  cases hsl : g.sentLogout
  · rfl
  · have := hQ.2 hsl x hx
    rw [hap] at this; cases this

theorem WK_write {g0 : G8} {s r : Sess} (hW : WK g0 s) (fr : Fr s r) (hq : r.toSend = []) (kept : List OutMsg) (m' : OutMsg)
    (hg : g8Of g0 r = wr (g8Of g0 s) (kept ++ [m'])) (hout : s.out = true)
    (hfresh : (g8Of g0 s).fresh = true → kept = [] ∧ (m'.kind = "A" ∨ m'.kind = "5"))
    (hkept : kept = [] ∨ (kept = s.toSend ∧ s.st.loggedOn = true))
    (hm : appFirst m' = false) :
    WK g0 r ∧ (g8Of g0 r).sentLogout = ((g8Of g0 s).sentLogout || m'.kind == "5") := by
  unfold WK at hW ⊢
  generalize g8Of g0 s = g at hW hg hfresh
  have hc : g.conn = true := by rw [hW.conn]; exact hout
  have hk : (∀ x ∈ kept, (x.kind == "5") = false) ∧ ∀ x ∈ kept, appFirst x = true → g.handshake = true ∧ g.sentLogout = false := by
    rcases hkept with rfl | ⟨rfl, hl⟩
    · simp
    · exact hW.queued hout hl
  rw [hg, wr_engine g kept m' hW.ok hc hfresh hk.1 hk.2 hm]
  exact ⟨hW.afterWrite fr hq _, rfl⟩

theorem WK_queue {g0 : G8} {s r : Sess} (hW : WK g0 s) (fr : Fr s r) (hg : g8Of g0 r = g8Of g0 s)
    (hq : s.out = true → (s.st.loggedOn = true ∨ (s.st.isLogon = true ∧ s.cfg.initiator = true)) → Q (g8Of g0 s) r.toSend) :
    WK g0 r := by
  unfold WK at hW ⊢
  rw [hg]; exact hW.newQueue fr hq

theorem SK_of {g0 : G8} {s r : Sess} (hS : SK g0 s) (fr : Fr s r) (hw : WK g0 r)
    (hsl : (g8Of g0 r).sentLogout = (g8Of g0 s).sentLogout) : SK g0 r := by
  refine ⟨hw, ?_⟩
  rw [fr.out, fr.st, hsl]; exact hS.2

/-! ## a send, judged with a state `c` in place of the session's own

Inside an event the state tag lags behind what the automaton has seen: a handler returns `(x, nx)` and `setState` installs
`nx` later.  `WK g0 (x.setSt c)` is the invariant of `x` judged as if it were in state `c`: `H8`/`T8` judge at the next state,
the end of the logon handshake at the logged-on state being entered, handlers at `c = x.st`. -/

theorem WK.unsetSt {g0 : G8} {x : Sess} {c : SState} (h : WK g0 (x.setSt c)) (hc : x.st = c) : WK g0 x := by subst hc; exact h
theorem WK.setSt_self {g0 : G8} {x : Sess} (h : WK g0 x) : WK g0 (x.setSt x.st) := h

/-- the one lemma about the sending primitives.  `ha`: what is written is no first-time application message; `hkept`: what is
    written in front of it is nothing, or the queue of a logged-on session; `hfresh`: in the Logon state only a Logon or Logout
    is written, alone; `hq`: where the queue will be written later, the message joins it, is no Logout, and is no first-time
    application message once a Logout has gone out. -/
theorem SendOut.wk {g0 : G8} {s r : Sess} {m : OutMsg} {kept : List OutMsg} {w : Bool} (c : SState)
    (h : SendOut g0 s r m kept w) (ha : w = true → appFirst m = false) (hwo : w = true → s.out = true)
    (hkept : w = true → kept = [] ∨ (kept = s.toSend ∧ c.loggedOn = true))
    (hfresh : w = true → c.isLogon = true → kept = [] ∧ (m.kind = "A" ∨ m.kind = "5"))
    (hq : w = false → s.out = true → (c.loggedOn = true ∨ (c.isLogon = true ∧ s.cfg.initiator = true)) →
      kept = s.toSend ∧ (m.kind == "5") = false ∧ ((g8Of g0 s).sentLogout = true → appFirst m = false))
    (hW : WK g0 (s.setSt c)) :
    WK g0 (r.setSt c) ∧ ((m.kind == "5") = false → (g8Of g0 r).sentLogout = (g8Of g0 s).sentLogout) := by
  cases h with
  | refused h _ => exact ⟨hW.sil (h.setSt c), fun _ => by rw [h.g8 g0]⟩
  | sent m' hk hf fr h =>
    have ha' : appFirst m' = appFirst m := by unfold appFirst; rw [hk, hf]
    cases w
    · simp only [Bool.false_eq_true, if_false] at h
      refine ⟨WK_queue hW (fr.setSt c) h.2 (fun ho hc => ?_), fun _ => by rw [h.2]⟩
      obtain ⟨hk1, hk5, hap⟩ := hq rfl ho hc
      show Q _ r.toSend
      rw [h.1, hk1]
      have hQ := hW.queue ho hc
      exact ⟨fun x hx => (List.mem_append.1 hx).elim (hQ.1 x) fun hx => by rw [List.mem_singleton.1 hx, hk]; exact hk5,
        fun hs x hx => (List.mem_append.1 hx).elim (hQ.2 hs x) fun hx => by rw [List.mem_singleton.1 hx, ha']; exact hap hs⟩
    · simp only [if_true] at h
      have key := WK_write hW (fr.setSt c) h.1 kept m' h.2 (hwo rfl)
        (fun hfr => by
          have := hfresh rfl (hW.fresh (hwo rfl) hfr).1
          rw [hk]; exact this)
        (hkept rfl) (ha'.trans (ha rfl))
      exact ⟨key.1, fun h5 => by
        have := key.2; rw [hk, h5, Bool.or_false] at this; exact this⟩

theorem SendOut.p {g0 : G8} {s r : Sess} {m : OutMsg} {kept : List OutMsg} {w : Bool} {b : Bool}
    (h : SendOut g0 s r m kept w) (hb : b = true → (m.kind == "5") = false) (ha : appFirst m = false) (hwo : w = true → s.out = true)
    (hkept : w = true → kept = [] ∨ (kept = s.toSend ∧ s.st.loggedOn = true))
    (hfresh : w = true → s.st.isLogon = true → kept = [] ∧ (m.kind = "A" ∨ m.kind = "5"))
    (hq : w = false → s.out = true → (s.st.loggedOn = true ∨ (s.st.isLogon = true ∧ s.cfg.initiator = true)) →
      kept = s.toSend ∧ (m.kind == "5") = false) : P b g0 s r := by
  have key := fun hW : WK g0 s =>
    h.wk s.st (fun _ => ha) hwo hkept hfresh (fun a b c => ⟨(hq a b c).1, (hq a b c).2, fun _ => ha⟩) (WK.setSt_self hW)
  exact ⟨h.fr, fun hW => (key hW).1.unsetSt h.fr.st, fun hb' hS => SK_of hS h.fr ((key hS.1).1.unsetSt h.fr.st) ((key hS.1).2 (hb hb'))⟩

/-- a step that writes no Logout, judged with state `c` in place -/
structure Pv (c : SState) (g0 : G8) (s x : Sess) : Prop where
  fr : Fr s x
  w : WK g0 (s.setSt c) → WK g0 (x.setSt c)
  sl : WK g0 (s.setSt c) → (g8Of g0 x).sentLogout = (g8Of g0 s).sentLogout

theorem Pv.refl (c : SState) (g0 : G8) (s : Sess) : Pv c g0 s s := ⟨Fr.refl s, id, fun _ => rfl⟩
theorem Pv.trans {c : SState} {g0 : G8} {s x y : Sess} (h1 : Pv c g0 s x) (h2 : Pv c g0 x y) : Pv c g0 s y :=
  ⟨h1.fr.trans h2.fr, fun h => h2.w (h1.w h), fun h => (h2.sl (h1.w h)).trans (h1.sl h)⟩
theorem Sil.pv {s x : Sess} (h : Sil s x) (c : SState) (g0 : G8) : Pv c g0 s x :=
  ⟨h.fr, fun hW => hW.sil (h.setSt c), fun _ => by rw [h.g8 g0]⟩

/-- an engine message sent from a state that is not logged on (queued, or written alone), judged in a logged-on state -/
theorem SendOut.pv {g0 : G8} {y r : Sess} {m : OutMsg} {kept : List OutMsg} {w : Bool} {c : SState} (h : SendOut g0 y r m kept w)
    (hc : c.loggedOn = true) (h5 : (m.kind == "5") = false) (ha : appFirst m = false) (hwo : w = true → y.out = true)
    (hkw : w = true → kept = []) (hkq : w = false → y.out = true → kept = y.toSend) : Pv c g0 y r := by
  have key := h.wk c (fun _ => ha) hwo (fun hw => Or.inl (hkw hw))
    (fun _ hl => by rw [SState.logon_not_loggedOn _ hl] at hc; cases hc)
    (fun hw ho _ => ⟨hkq hw ho, h5, fun _ => ha⟩)
  exact ⟨h.fr, fun hW => (key hW).1, fun hW => (key hW).2 h5⟩

theorem p_sendInReplyTo (g0 : G8) (s : Sess) (m : OutMsg) (hk5 : (m.kind == "5") = false) (ha : appFirst m = false) :
    P true g0 s (sendInReplyTo s m) :=
  (sendInReplyTo_spec g0 s m).p (fun _ => hk5) ha (fun h => (Bool.and_eq_true _ _ ▸ h).2)
    (fun h => Or.inr ⟨rfl, (Bool.and_eq_true _ _ ▸ h).1⟩)
    (fun h hl => by rw [SState.logon_not_loggedOn _ hl] at h; cases h)
    (fun _ _ _ => ⟨rfl, hk5⟩)

theorem p_sendLogoutMsg (g0 : G8) (s : Sess) (o : OutMsg) (ho5 : o.kind = "5") (hst : s.st.isLogon = false) :
    P false g0 s (sendInReplyTo s o) :=
  (sendInReplyTo_spec g0 s o).p (fun h => by cases h) (by unfold appFirst; rw [ho5]; rfl) (fun h => (Bool.and_eq_true _ _ ▸ h).2)
    (fun h => Or.inr ⟨rfl, (Bool.and_eq_true _ _ ▸ h).1⟩)
    (fun _ hl => by rw [hst] at hl; cases hl)
    (fun h ho hc => by
      rcases hc with hc | hc
      · rw [hc, ho] at h; cases h
      · rw [hst] at hc; cases hc.1)

/-- a Logon or a Logout through `dropAndSend`: fine in every state (the queue is dropped, the automaton accepts both as a first
    write) -/
theorem p_dropAndSend {b : Bool} (g0 : G8) (s : Sess) (m : OutMsg) (hk : m.kind = "A" ∨ m.kind = "5")
    (hb : b = true → m.kind = "A") : P b g0 s (dropAndSend s m) :=
  (dropAndSend_spec g0 s m).p (fun h => by rw [hb h]; rfl)
    (by unfold appFirst; rcases hk with h | h <;> rw [h] <;> rfl) id (fun _ => Or.inl rfl) (fun _ _ => ⟨rfl, hk⟩)
    (fun h ho _ => by rw [ho] at h; cases h)

theorem p_sendLogon (g0 : G8) (s : Sess) (m : OutMsg) (hk : m.kind = "A") : P true g0 s (dropAndSend s m) :=
  p_dropAndSend g0 s m (Or.inl hk) fun _ => hk
theorem p_dropLogout (g0 : G8) (s : Sess) (m : OutMsg) (hk : m.kind = "5") : P false g0 s (dropAndSend s m) :=
  p_dropAndSend g0 s m (Or.inr hk) fun h => Bool.noConfusion h

theorem p_enqueueAndSend (g0 : G8) (s : Sess) (m : OutMsg) (hn : (s.st.loggedOn || s.st.isLogout) = true)
    (hk5 : (m.kind == "5") = false) (ha : appFirst m = false) : P true g0 s (enqueueAndSend s m) :=
  (enqueueAndSend_spec g0 s m).p (fun _ => hk5) ha id
    (fun _ => by unfold Sess.keptQueue; cases s.st.loggedOn <;> simp)
    (fun _ hl => by rw [SState.logon_not_loggedOn _ hl, SState.logon_not_logout _ hl] at hn; cases hn)
    (fun h ho _ => by rw [ho] at h; cases h)

theorem p_setToSend_nil (b : Bool) (g0 : G8) (s : Sess) : P b g0 s (s.setToSend []) := by
  have fr : Fr s (s.setToSend []) := ⟨rfl, rfl, rfl, rfl, rfl⟩
  have hw : WK g0 s → WK g0 (s.setToSend []) := fun hW => WK_queue hW fr rfl (fun _ _ => Q_nil _)
  exact ⟨fr, hw, fun _ hS => SK_of hS fr (hw hS.1) rfl⟩

theorem p_dropAndReset (b : Bool) (g0 : G8) (s : Sess) : P b g0 s (dropAndReset s) :=
  (p_setToSend_nil b g0 s).trans ((sil_storeReset _).p b g0)

theorem p_emit_fix (g0 : G8) (s : Sess) (o : Obs) (h : WK g0 s → c8o (g8Of g0 s) o = g8Of g0 s) : P true g0 s (s.emit o) := by
  have fr : Fr s (s.emit o) := ⟨rfl, rfl, rfl, rfl, rfl⟩
  have hw : WK g0 s → WK g0 (s.emit o) := fun hW => by
    unfold WK; rw [g8Of_emit, h hW]; exact W.congr hW rfl rfl rfl rfl rfl rfl
  exact ⟨fr, hw, fun _ hS => SK_of hS fr (hw hS.1) (by rw [g8Of_emit, h hS.1])⟩

theorem appFirst_admin (m : OutMsg) (h : isAdminKind m.kind = true) : appFirst m = false := by simp [appFirst, h]
theorem rejectMsg_ok (cfg : Cfg) (m : InMsg) (r : Nat) (t : Option Nat) (b : Bool) :
    ((rejectMsg cfg m r t b).kind == "5") = false ∧ appFirst (rejectMsg cfg m r t b) = false := by
  unfold appFirst
  rw [rejectMsg_kind]
  split <;> exact ⟨rfl, rfl⟩
theorem replay_ok {o : OutMsg} (h : o.Replay) : (o.kind == "5") = false ∧ appFirst o = false := by
  refine ⟨?_, by simp [appFirst, show o.f.get? 43 = some "Y" from h.possDup]⟩
  rcases h.kind with hk | hk
  · rw [hk]; rfl
  · cases h5 : o.kind == "5"
    · rfl
    · rw [eq_of_beq h5] at hk; revert hk; decide
theorem gapFill_ok (a b : Int) : ((gapFill a b).kind == "5") = false ∧ appFirst (gapFill a b) = false :=
  replay_ok (replay_gapFill a b none)

section peel
variable {b : Bool} {g0 : G8} {s x : Sess}
theorem qpeel_emit (o : Obs) (ho : silent o = true) (h : P b g0 s x) : P b g0 s (x.emit o) := h.seq ((Sil.emit x o ho).p true g0)
theorem qpeel_setSentReset (v : Bool) (h : P b g0 s x) : P b g0 s (x.setSentReset v) :=
  h.seq ((sil_setSentReset x v).p true g0)
theorem qpeel_setHb (v : Int) (h : P b g0 s x) : P b g0 s (x.setHb v) :=
  h.seq ((Sil.of_eq (s := x) (s' := x.setHb v) ⟨rfl, rfl, rfl, rfl, rfl⟩ rfl rfl).p true g0)
theorem qpeel_setPendingStop (h : P b g0 s x) : P b g0 s x.setPendingStop :=
  h.seq ((Sil.of_eq (s := x) (s' := x.setPendingStop) ⟨rfl, rfl, rfl, rfl, rfl⟩ rfl rfl).p true g0)
theorem qpeel_storeReset (h : P b g0 s x) : P b g0 s x.storeReset := h.seq ((sil_storeReset x).p true g0)
theorem qpeel_incrTarget (h : P b g0 s x) : P b g0 s (incrTarget x) := h.seq ((sil_incrTarget x).p true g0)
theorem qpeel_setToSend_nil (h : P b g0 s x) : P b g0 s (x.setToSend []) := h.seq (p_setToSend_nil true g0 x)
theorem qpeel_dropAndReset (h : P b g0 s x) : P b g0 s (dropAndReset x) := h.seq (p_dropAndReset true g0 x)
theorem qpeel_sendInReplyTo (m : OutMsg) (hk5 : (m.kind == "5") = false) (ha : appFirst m = false) (h : P b g0 s x) :
    P b g0 s (sendInReplyTo x m) := h.seq (p_sendInReplyTo g0 x m hk5 ha)
theorem qpeel_heartbeat (f : Fields) (h : P b g0 s x) : P b g0 s (sendInReplyTo x (mkOut "0" f)) :=
  qpeel_sendInReplyTo _ rfl (appFirst_admin _ rfl) h
theorem qpeel_testRequest (f : Fields) (h : P b g0 s x) : P b g0 s (sendInReplyTo x (mkOut "1" f)) :=
  qpeel_sendInReplyTo _ rfl (appFirst_admin _ rfl) h
theorem qpeel_sendLogonInReplyTo (r : Bool) (h : P b g0 s x) : P b g0 s (sendLogonInReplyTo x r) :=
  h.seq (p_sendLogon g0 x _ rfl)
theorem qpeel_sendLogonRe (r : Bool) (m : InMsg) (h : P b g0 s x) : P b g0 s (sendLogonRe x r m) :=
  h.seq (p_sendLogon g0 x _ rfl)
theorem qpeel_enqueueAndSend (m : OutMsg) (hn : (s.st.loggedOn || s.st.isLogout) = true) (hk5 : (m.kind == "5") = false)
    (ha : appFirst m = false) (h : P b g0 s x) : P b g0 s (enqueueAndSend x m) :=
  h.seq (p_enqueueAndSend g0 x m (by rw [h.fr.st]; exact hn) hk5 ha)
theorem qpeel_sendLogout (hst : s.st.isLogon = false) (h : P false g0 s x) : P false g0 s (sendLogout x) :=
  h.seq (p_sendLogoutMsg g0 x _ rfl (by rw [h.fr.st]; exact hst))
theorem qpeel_initiateLogout (hst : s.st.isLogon = false) (h : P false g0 s x) : P false g0 s (initiateLogout x) :=
  qpeel_sendLogout hst h
theorem qpeel_sendInReplyTo_logout (hst : s.st.isLogon = false) (h : P false g0 s x) : P false g0 s (sendInReplyTo x (mkOut "5" [])) :=
  qpeel_sendLogout hst h
theorem qpeel_dropAndSend_logout (h : P false g0 s x) : P false g0 s (dropAndSend x (mkOut "5" [])) :=
  h.seq (p_dropLogout g0 x _ rfl)
theorem qpeel_dropAndSend_logoutRe (m : InMsg) (h : P false g0 s x) : P false g0 s (dropAndSend x ((mkOut "5" []).inReplyTo m)) :=
  h.seq (p_dropLogout g0 x _ rfl)
theorem qpeel_sendResendRequest (bq e : Int) (h : P b g0 s x) : P b g0 s (sendResendRequest x bq e).1 := by
  obtain ⟨ff, hff⟩ := sendResendRequest_fst x bq e
  rw [hff]; exact qpeel_sendInReplyTo _ rfl (appFirst_admin _ rfl) h
end peel

end Qfx.Sess
