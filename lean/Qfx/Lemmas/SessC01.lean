/-
  C01 over Qfx.Model.Session: a ghost monitor folded over the observation log, the invariant `J` (`J0`: no advance
  pending), the "neutral extension" relation for functions that neither touch the expected number nor deliver.
  Everything that sends preserves both `J` and `J0`; a delivery leaves `J` with the advance pending, and whatever the
  application answers the expected number is then advanced: `J0` again.  The walk of the call tree is SessWalk's.
-/
import Qfx.Spec.SessionTyped
import Qfx.Lemmas.SessWalk
namespace Qfx.Sess
open Qfx

def g1Of (g0 : G1) (s : Sess) : G1 := s.log.reverse.foldl g1Step g0

/-- invariant: monitor happy, its T is the store's, everything delivered in this epoch is below T
    (or is exactly T while the advance it must be followed by is still pending) -/
def J (g0 : G1) (s : Sess) : Prop :=
  (g1Of g0 s).ok = true ∧ (g1Of g0 s).T = s.store.target ∧
  ((g1Of g0 s).expectInc = false → ∀ l, (g1Of g0 s).last = some l → l < (g1Of g0 s).T) ∧
  ((g1Of g0 s).expectInc = true → (g1Of g0 s).last = some (g1Of g0 s).T)

def J0 (g0 : G1) (s : Sess) : Prop := J g0 s ∧ (g1Of g0 s).expectInc = false

theorem g1Of_emit (g0 : G1) (s : Sess) (o : Obs) : g1Of g0 (s.emit o) = g1Step (g1Of g0 s) o := foldLog_emit g1Step g0 s o

def neutral : Obs → Bool
  | .reset | .incT | .setT _ | .fromApp _ _ => false
  | _ => true

theorem g1Step_neutral (g : G1) (o : Obs) (h : neutral o = true) : g1Step g o = g := by
  cases o <;> simp_all [g1Step, neutral]

/-- `s'` extends the log of `s` by neutral observations only and leaves the expected number alone -/
structure Ext (s s' : Sess) : Prop where
  tgt : s'.store.target = s.store.target
  log : ∃ extra : List Obs, s'.log = extra ++ s.log ∧ extra.all neutral = true

theorem Ext.refl (s : Sess) : Ext s s := ⟨rfl, LogBy.refl _ s⟩

theorem Ext.trans {a b c : Sess} (h1 : Ext a b) (h2 : Ext b c) : Ext a c :=
  ⟨h2.tgt.trans h1.tgt, LogBy.trans h1.log h2.log⟩

theorem Ext.emit (s : Sess) (o : Obs) (h : neutral o = true) : Ext s (s.emit o) := ⟨rfl, LogBy.emit s o h⟩

theorem Ext.g1 {s s' : Sess} (h : Ext s s') (g0 : G1) : g1Of g0 s' = g1Of g0 s := LogBy.fold g1Step_neutral h.log g0

theorem Ext.presJ {s s' : Sess} (h : Ext s s') (g0 : G1) (hj : J g0 s) : J g0 s' := by
  unfold J at *
  rw [h.g1 g0, h.tgt]; exact hj

theorem Ext.presJ0 {s s' : Sess} (h : Ext s s') (g0 : G1) (hj : J0 g0 s) : J0 g0 s' := by
  unfold J0 at *
  exact ⟨h.presJ g0 hj.1, by rw [h.g1 g0]; exact hj.2⟩

theorem Ext.of_eq {s s' : Sess} (h1 : s'.store.target = s.store.target) (h2 : s'.log = s.log) : Ext s s' := ⟨h1, LogBy.of_eq h2⟩

def Pres (g0 : G1) (s s' : Sess) : Prop := (J g0 s → J g0 s') ∧ (J0 g0 s → J0 g0 s')

theorem Pres.refl (g0 : G1) (s : Sess) : Pres g0 s s := ⟨id, id⟩
theorem Pres.trans {g0 : G1} {a b c : Sess} (h1 : Pres g0 a b) (h2 : Pres g0 b c) : Pres g0 a c :=
  ⟨fun h => h2.1 (h1.1 h), fun h => h2.2 (h1.2 h)⟩
theorem Ext.pres {s s' : Sess} (h : Ext s s') (g0 : G1) : Pres g0 s s' := ⟨h.presJ g0, h.presJ0 g0⟩

theorem ext_persistOut (s : Sess) (seq : Int) (m : OutMsg) : Ext s (s.persistOut seq m) := by
  rw [persistOut_eq]
  exact ⟨rfl, [savedObs s seq m], rfl, by unfold savedObs; split <;> rfl⟩

theorem ext_sendQueued (s : Sess) : Ext s (sendQueued s) := by
  unfold sendQueued
  split
  · refine ⟨rfl, (s.toSend.map Obs.wire).reverse, rfl, ?_⟩
    simp [List.all_eq_true, neutral]
  · exact Ext.refl s

theorem J0_storeReset (g0 : G1) (s : Sess) (h : J g0 s) : J0 g0 s.storeReset := by
  obtain ⟨hok, _, _, _⟩ := h
  unfold J0 J Sess.storeReset
  rw [g1Of_emit]
  simp [g1Step, Store.reset, Sess.emit, g1Of] at *
  exact hok

theorem pres_storeReset (g0 : G1) (s : Sess) : Pres g0 s s.storeReset :=
  ⟨fun h => (J0_storeReset g0 s h).1, fun h => J0_storeReset g0 s h.1⟩

theorem J0_incrTarget (g0 : G1) (s : Sess) (h : J g0 s) : J0 g0 (incrTarget s) := by
  obtain ⟨hok, hT, h0, h1⟩ := h
  unfold J0 J incrTarget
  rw [g1Of_emit]
  have hg : g1Of g0 (s.setTarget (s.store.target + 1)) = g1Of g0 s := rfl
  rw [hg]
  simp only [g1Step, Sess.emit]
  refine ⟨⟨hok, by simp [hT, Sess.setTarget], ?_, by simp⟩, by simp⟩
  intro _ l hl
  cases he : (g1Of g0 s).expectInc
  · have := h0 he l hl; omega
  · have := h1 he; rw [this] at hl; cases hl; omega

theorem pres_incrTarget (g0 : G1) (s : Sess) : Pres g0 s (incrTarget s) :=
  ⟨fun h => (J0_incrTarget g0 s h).1, fun h => J0_incrTarget g0 s h.1⟩

theorem neutral_of_notice {o : Obs} (h : o.isNotice = true) : neutral o = true := by
  cases o <;> first | rfl | cases h

theorem ext_enqueueAndSend (s : Sess) (m : OutMsg) : Ext s (enqueueAndSend s m) := by
  unfold enqueueAndSend
  dsimp only
  split
  · exact Ext.trans (Ext.of_eq (s' := (s.setToSend []).setToSend ((s.setToSend []).toSend ++ [m])) rfl rfl) (ext_sendQueued _)
  · exact Ext.trans (Ext.of_eq (s' := s.setToSend (s.toSend ++ [m])) rfl rfl) (ext_sendQueued _)

theorem ext_resendMessages (s : Sess) (b e : Int) : Ext s (resendMessages s b e) :=
  resendMessages_rel Ext.refl Ext.trans (fun s m _ => ext_enqueueAndSend s m) s b e

theorem presPrim (g0 : G1) : PrimRel (Pres g0) where
  refl := Pres.refl g0
  trans := Pres.trans
  quiet := fun _ _ _ _ => (Ext.of_eq rfl rfl).pres g0
  setToSend := fun _ _ => (Ext.of_eq rfl rfl).pres g0
  persistOut := fun s m _ => (ext_persistOut s _ m).pres g0
  storeReset := pres_storeReset g0
  sendQueued := fun s => (ext_sendQueued s).pres g0

theorem presSend (g0 : G1) : SendRel (Pres g0) :=
  (presPrim g0).toSendRel (fun s n => (Ext.emit s (.armPeer n) rfl).pres g0) (pres_incrTarget g0)

section peel
variable {g0 : G1} {s x : Sess}
theorem peel_storeReset (h : Pres g0 s x) : Pres g0 s x.storeReset := h.trans (pres_storeReset g0 x)
theorem peel_sendQueued (h : Pres g0 s x) : Pres g0 s (sendQueued x) := h.trans ((ext_sendQueued x).pres g0)
theorem peel_sendLogout (h : Pres g0 s x) : Pres g0 s (sendLogout x) := h.trans ((presSend g0).sendLogout x)
theorem peel_sendLogonInReplyTo (r : Bool) (h : Pres g0 s x) : Pres g0 s (sendLogonInReplyTo x r) :=
  h.trans ((presPrim g0).dropAndSend x _)
theorem peel_sendResendRequest (b e : Int) (h : Pres g0 s x) : Pres g0 s (sendResendRequest x b e).1 :=
  h.trans ((presPrim g0).sendResendRequest x b e)
end peel

/-- outcome of the verification pipeline, as far as C01 is concerned -/
inductive VOut (s : Sess) (m : InMsg) : Sess → Option Rej → Prop
  | ext {s' : Sess} {r : Option Rej} (h : Ext s s') : VOut s m s' r
  | delivered (hseq : readInt (strBytes (seqText m)) = .ok s.store.target) (hk : isAdminKind (kindOf m) = false) :
      VOut s m (s.emit (.fromApp (seqText m) s.store.target)) (callbackVerdict m)

/-- with both sequence checks on, a delivery happens exactly at the expected number -/
theorem verifySelect_full (s : Sess) (m : InMsg) :
    VOut s m (verifySelect s m true true true).1 (verifySelect s m true true true).2 := by
  rw [verifySelect_eq]
  cases hf : firstReject s m true true with
  | some r => exact .ext (Ext.refl s)
  | none =>
    obtain ⟨_, hl, hh⟩ := (firstReject_none_iff s m true true).1 hf
    obtain ⟨n, hn, h1⟩ := hl rfl
    obtain ⟨n', hn', h2⟩ := hh rfl
    rw [hn] at hn'; cases hn'
    have hnt : n = s.store.target := by omega
    rw [if_pos rfl, verifyAppImpl_eq]
    cases validate s.cfg m with
    | some r => exact .ext (Ext.refl s)
    | none =>
      unfold cbOf
      by_cases hk : isAdminKind (kindOf m) = true
      · rw [if_pos hk]; exact .ext (Ext.emit _ _ rfl)
      · rw [if_neg hk]; exact .delivered (by rw [getInt_seqText m n hn, hnt]) (by simpa using hk)

/-- after a delivery the application's verdict, whatever it is, consumes the number -/
theorem processReject_cb (g0 : G1) (s : Sess) (m : InMsg) (r : Rej) (hr : callbackVerdict m = some r) (h : J g0 s) :
    J0 g0 (processReject s m r).1 := by
  have hcases : r = .plain 5 (some 9001) false ∨ r = .plain 3 none true ∨ r = .rejectLogon := by
    unfold callbackVerdict at hr
    split at hr <;> simp_all
  have key : ∀ a b c, J0 g0 (incrTarget (doReject s m a b c)) := fun a b c =>
    J0_incrTarget g0 _ (((presSend g0).doReject s m a b c).1 h)
  rcases hcases with rfl | rfl | rfl <;> exact key _ _ _

/-- SequenceReset forward: allowed only with no advance pending and never backwards -/
theorem J0_setT (g0 : G1) (s : Sess) (n : Int) (hn : s.store.target < n) (h : J0 g0 s) :
    J0 g0 ((s.setTarget n).emit (.setT n)) := by
  obtain ⟨⟨hok, hT, h0, _⟩, he⟩ := h
  unfold J0 J
  rw [g1Of_emit]
  have hg : g1Of g0 (s.setTarget n) = g1Of g0 s := rfl
  rw [hg]
  simp only [g1Step, Sess.emit]
  refine ⟨⟨?_, rfl, ?_, ?_⟩, trivial⟩
  · simp only [hok, he, Bool.true_and, Bool.not_false, Bool.and_true, decide_eq_true_eq]; omega
  · intro _ l hl
    have := h0 he l hl
    omega
  · intro hc; cases hc

theorem J0_plain (g0 : G1) (s : Sess) (m : InMsg) (h : J0 g0 s) : J0 g0 (plainFixMsgIn s m).1 := by
  unfold plainFixMsgIn
  have hv := verifySelect_full s m
  generalize verifySelect s m true true true = r at hv
  obtain ⟨s', o⟩ := r
  dsimp only at hv ⊢
  cases hv with
  | ext he =>
    have h' := he.presJ0 g0 h
    cases o with
    | some r => exact ((presSend g0).processReject (presPrim g0).sendResendRequest s' m r).2 h'
    | none => exact (pres_incrTarget g0 s').2 h'
  | delivered hseq hk =>
    -- exactly at the expected number: the monitor accepts the delivery, the advance is now pending
    have hJ : J g0 (s.emit (.fromApp (seqText m) s.store.target)) := by
      obtain ⟨⟨hok, hT, h0, _⟩, he⟩ := h
      unfold J
      rw [g1Of_emit]
      simp only [g1Step, hseq, Sess.emit]
      refine ⟨?_, hT, ?_, ?_⟩
      · simp only [hok, he, hT, Bool.true_and, Bool.not_false, decide_true, Bool.and_true]
        cases hl : (g1Of g0 s).last with
        | none => rfl
        | some l => have := h0 he l hl; simp only [decide_eq_true_eq]; omega
      · intro hc; cases hc
      · intro _; simp [hT]
    cases hc : callbackVerdict m with
    | none => exact J0_incrTarget g0 _ hJ
    | some r => exact processReject_cb g0 _ m r hc hJ

theorem j0Step (g0 : G1) : StepRel (fun s s' => J0 g0 s → J0 g0 s') where
  toSendRel := (presSend g0).weaken (fun hp => hp.2) fun h1 h2 h => h2 (h1 h)
  sendResendRequest := fun s b e => ((presPrim g0).sendResendRequest s b e).2
  notice := fun s o ho => ((Ext.emit s o (neutral_of_notice ho)).pres g0).2
  dropAndSend := fun s m => ((presPrim g0).dropAndSend s m).2
  dropAndReset := fun s => ((presPrim g0).dropAndReset s).2
  setT := J0_setT g0
  plain := J0_plain g0
  frame := fun _ _ _ _ _ _ _ _ => ((Ext.of_eq rfl rfl).pres g0).2
  dropQueue := fun _ => ((Ext.of_eq rfl rfl).pres g0).2
  sendQueued := fun s => ((ext_sendQueued s).pres g0).2

theorem J0_stepCore (g0 : G1) (s : Sess) (e : Ev) (h : J0 g0 s) : J0 g0 (stepCore s e).1 :=
  (j0Step g0).stepCore s e (fun m _ => ((presPrim g0).queueForSend s m).2) h

end Qfx.Sess
