/-
  Facts that several models need and that say nothing about any of them (core only): `ite_both` (a relation, an invariant or a
  summary is carried through the conditionals of a model function by it), lists cut at the first element that fails a predicate
  (the readers of number texts and of index lines), and lists of entries read by a key (`Fields`, the stores, the dictionary tables).
-/
namespace Qfx

/-- whatever holds of both branches holds of the `if` (with the condition in hand: `iteInduction`) -/
theorem ite_both {α : Sort u} {P : α → Prop} {c : Prop} [Decidable c] {a b : α} (ha : P a) (hb : P b) :
    P (if c then a else b) :=
  iteInduction (fun _ => ha) (fun _ => hb)

theorem ite_fst_both {α β : Type _} {P : α → Prop} {c : Prop} [Decidable c] {a b : α × β} (ha : P a.1) (hb : P b.1) :
    P (if c then a else b).1 :=
  ite_both (P := fun x : α × β => P x.1) ha hb

variable {α : Type _} {p : α → Bool} {l : List α}

theorem takeWhile_all (hl : ∀ a ∈ l, p a) : l.takeWhile p = l := by
  simpa using List.takeWhile_append_of_pos (l₂ := []) hl

theorem dropWhile_all (hl : ∀ a ∈ l, p a) : l.dropWhile p = [] := by
  simpa using List.dropWhile_append_of_pos (l₂ := []) hl

theorem takeWhile_stop (hl : ∀ a ∈ l, p a) {c : α} (hc : ¬ p c) (r : List α) : (l ++ c :: r).takeWhile p = l := by
  rw [List.takeWhile_append_of_pos hl, List.takeWhile_cons_of_neg hc, List.append_nil]

theorem dropWhile_stop (hl : ∀ a ∈ l, p a) {c : α} (hc : ¬ p c) (r : List α) : (l ++ c :: r).dropWhile p = c :: r := by
  rw [List.dropWhile_append_of_pos hl, List.dropWhile_cons_of_neg hc]

theorem dropWhile_none (hl : ∀ a ∈ l, p a = false) : l.dropWhile p = l := by
  cases l with
  | nil => rfl
  | cons a _ => exact List.dropWhile_cons_of_neg (by simp [hl a])

section sep
variable [DecidableEq α] {c : α}

theorem ne_of_not_mem (h : c ∉ l) : ∀ a ∈ l, decide (a ≠ c) = true :=
  fun _ ha => decide_eq_true fun e => h (e ▸ ha)

theorem takeWhile_sep (a b : List α) (ha : c ∉ a) : (a ++ c :: b).takeWhile (· ≠ c) = a :=
  takeWhile_stop (ne_of_not_mem ha) (by simp) b

theorem dropWhile_sep (a b : List α) (ha : c ∉ a) : (a ++ c :: b).dropWhile (· ≠ c) = c :: b :=
  dropWhile_stop (ne_of_not_mem ha) (by simp) b

theorem takeWhile_nosep (a : List α) (ha : c ∉ a) : a.takeWhile (· ≠ c) = a := takeWhile_all (ne_of_not_mem ha)

theorem dropWhile_nosep (a : List α) (ha : c ∉ a) : a.dropWhile (· ≠ c) = [] := dropWhile_all (ne_of_not_mem ha)
end sep

theorem pairwise_concat {R : α → α → Prop} {a : α} : (l ++ [a]).Pairwise R ↔ l.Pairwise R ∧ ∀ x ∈ l, R x a := by
  simp [List.pairwise_append]

section Keyed
variable {κ β : Type _} [BEq κ] [LawfulBEq κ]

theorem find?_key_some {key : α → κ} {k : κ} {x : α} (h : l.find? (fun x => key x == k) = some x) : x ∈ l ∧ key x = k :=
  ⟨List.mem_of_find?_eq_some h, by simpa using List.find?_some h⟩

theorem find?_key_isSome {key : α → κ} {k : κ} : (l.find? (fun x => key x == k)).isSome = true ↔ ∃ x ∈ l, key x = k := by
  simp [List.find?_isSome]

theorem find?_key_of_mem {key : α → κ} {x : α} (hp : l.Pairwise (fun x y => key x ≠ key y)) (hx : x ∈ l) :
    l.find? (fun y => key y == key x) = some x := by
  induction l with
  | nil => cases hx
  | cons y r ih =>
    rw [List.pairwise_cons] at hp
    rw [List.find?_cons]
    rcases List.mem_cons.1 hx with rfl | hx'
    · simp
    · rw [beq_false_of_ne (hp.1 x hx')]; exact ih hp.2 hx'

theorem find?_key_of_mem_reverse {key : α → κ} {x : α} (hp : l.Pairwise (fun x y => key x ≠ key y)) (hx : x ∈ l) :
    l.reverse.find? (fun y => key y == key x) = some x :=
  find?_key_of_mem (List.pairwise_reverse.2 (hp.imp Ne.symm)) (List.mem_reverse.2 hx)

theorem eq_of_key_eq {key : α → κ} (hp : l.Pairwise (fun x y => key x ≠ key y)) {x y : α} (hx : x ∈ l) (hy : y ∈ l)
    (h : key x = key y) : x = y := by
  have h1 := find?_key_of_mem hp hx
  rw [h, find?_key_of_mem hp hy] at h1
  exact (Option.some.inj h1).symm

theorem find?_pair_some {l : List (κ × β)} {k : κ} {v : β} (h : (l.find? (fun c => c.1 == k)).map (·.2) = some v) : (k, v) ∈ l := by
  obtain ⟨c, hc, rfl⟩ := Option.map_eq_some_iff.1 h
  obtain ⟨hm, hk⟩ := find?_key_some (key := fun c : κ × β => c.1) hc
  rw [← hk]; exact hm

theorem find?_pair_of_mem {l : List (κ × β)} {k : κ} {v : β} (hp : l.Pairwise (fun x y => x.1 ≠ y.1)) (h : (k, v) ∈ l) :
    (l.find? (fun c => c.1 == k)).map (·.2) = some v := by
  rw [find?_key_of_mem (key := fun c : κ × β => c.1) hp h]; rfl

theorem find?_pair_cons [DecidableEq κ] (p : κ × β) (l : List (κ × β)) (k : κ) :
    ((p :: l).find? (fun c => c.1 == k)).map (·.2) = if p.1 = k then some p.2 else (l.find? (fun c => c.1 == k)).map (·.2) := by
  rw [List.find?_cons]
  by_cases h : p.1 = k
  · simp [h]
  · simp [h, beq_false_of_ne h]

theorem lookup_eq_find? (l : List (κ × β)) (k : κ) : l.lookup k = (l.find? (·.1 == k)).map (·.2) := by
  induction l with
  | nil => rfl
  | cons p r ih => rw [List.lookup_cons, List.find?_cons, ih, Bool.beq_comm]; cases p.1 == k <;> rfl

theorem find?_filter_key (l : List (κ × β)) (q : κ → Bool) {k : κ} (hk : q k = true) :
    (l.filter (fun p => q p.1)).find? (·.1 == k) = l.find? (·.1 == k) := by
  rw [List.find?_filter]
  congr 1; funext p
  by_cases h : p.1 = k
  · simp [h, hk]
  · simp [h]

theorem find?_replace_ne (l : List (κ × β)) {k k' : κ} (v : β) (h : k ≠ k') :
    ((l.map (fun p => if p.1 == k then (k, v) else p)).find? (·.1 == k')).map (·.2) = (l.find? (·.1 == k')).map (·.2) := by
  induction l with
  | nil => rfl
  | cons p r ih =>
    rw [List.map_cons, List.find?_cons, List.find?_cons]
    by_cases hp : p.1 = k
    · simp only [hp, beq_self_eq_true, if_true, beq_false_of_ne h, ih]
    · simp only [beq_false_of_ne hp, Bool.false_eq_true, if_false]
      cases p.1 == k' <;> simp only [ih]

theorem find?_replace_self (l : List (κ × β)) (k : κ) (v : β) (h : l.any (·.1 == k) = true) :
    ((l.map (fun p => if p.1 == k then (k, v) else p)).find? (·.1 == k)).map (·.2) = some v := by
  induction l with
  | nil => cases h
  | cons p r ih =>
    rw [List.map_cons, List.find?_cons]
    by_cases hp : p.1 = k
    · simp only [hp, beq_self_eq_true, if_true, Option.map_some]
    · rw [List.any_cons, beq_false_of_ne hp, Bool.false_or] at h
      simp only [beq_false_of_ne hp, Bool.false_eq_true, if_false, ih h]

/-- "replace the value under `k`, or append the pair if there is none" — the update of `Fields.set` and of the stores' backing:
    afterwards `k` yields `v`, every other key what it yielded before -/
theorem find?_upsert [DecidableEq κ] (l : List (κ × β)) (k : κ) (v : β) (k' : κ) :
    ((if l.any (·.1 == k) then l.map (fun p => if p.1 == k then (k, v) else p) else l ++ [(k, v)]).find? (·.1 == k')).map (·.2) =
      if k' = k then some v else (l.find? (·.1 == k')).map (·.2) := by
  by_cases hk : k' = k
  · subst hk
    rw [if_pos rfl]
    split
    · rename_i h; exact find?_replace_self l k' v h
    · rename_i h
      have hn : l.find? (·.1 == k') = none := by
        rw [List.find?_eq_none]; intro x hx hxk; exact h (List.any_eq_true.2 ⟨x, hx, hxk⟩)
      simp [List.find?_append, hn]
  · rw [if_neg hk]
    split
    · exact find?_replace_ne l v (Ne.symm hk)
    · rw [List.find?_append, List.find?_singleton, beq_false_of_ne (Ne.symm hk)]
      cases l.find? (·.1 == k') <;> rfl
end Keyed

section PartialMap
variable {α β : Type _} {f : α → Option β} {l : List α} {bs : List β}

/-- `l.map f = bs.map some` says that `f` is defined on all of `l` and that its values there are `bs` -/
theorem defined_of_map_some (h : l.map f = bs.map some) {a : α} (ha : a ∈ l) : ∃ b, f a = some b :=
  let ⟨b, _, hb⟩ := List.mem_map.1 (h ▸ List.mem_map_of_mem (f := f) ha)
  ⟨b, hb.symm⟩

theorem filterMap_of_map_some (h : l.map f = bs.map some) : l.filterMap f = bs := by
  have := congrArg (List.filterMap id) h
  simpa [List.filterMap_map] using this
end PartialMap

end Qfx
