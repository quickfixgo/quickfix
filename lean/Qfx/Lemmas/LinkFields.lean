/-
  What travels over the link: the texts of numbers (`toString` read back by `readInt`), lookups in field lists, the
  message the peer receives for a written one (`toIn`: any tag is looked up in the header it writes or behind it), and the
  two readers of an observation list (`wiresOf`, `deliveredSeqs`).
-/
import Qfx.Lemmas.Values
import Qfx.Lemmas.SessC06
import Qfx.Lemmas.SessValid
import Qfx.Model.Link
import Std.Data.String.ToInt
namespace Qfx.Link
open Qfx Qfx.Sess

theorem wiresOf_append (a b : List Obs) : wiresOf (a ++ b) = wiresOf a ++ wiresOf b := List.filterMap_append

theorem deliveredSeqs_append (a b : List Obs) : deliveredSeqs (a ++ b) = deliveredSeqs a ++ deliveredSeqs b := List.filterMap_append

theorem mem_wiresOf (obs : List Obs) (m : OutMsg) : m ∈ wiresOf obs ↔ Obs.wire m ∈ obs := by
  unfold wiresOf
  simp only [List.mem_filterMap]
  constructor
  · rintro ⟨o, ho, h⟩
    cases o <;> first | cases h | skip
    exact ho
  · intro h; exact ⟨_, h, rfl⟩

theorem deliveredSeqs_none (l : List Obs) (h : ∀ o ∈ l, ∀ sq t, o ≠ .fromApp sq t) : deliveredSeqs l = [] := by
  unfold deliveredSeqs
  rw [List.filterMap_eq_nil_iff]
  intro o ho
  cases o <;> first | rfl | exact absurd rfl (h _ ho _ _)

theorem digitChar_toNat : ∀ d < 10, (Nat.digitChar d).toNat = 48 + d := by decide

theorem toDigits_bytes (n : Nat) : (Nat.toDigits 10 n).map Char.toNat = fmtNat n := by
  fun_induction fmtNat n with
  | case1 n h => rw [Nat.toDigits_eq_if (by omega), if_pos h]; simp [digitChar_toNat n h]
  | case2 n h ih =>
    rw [Nat.toDigits_eq_if (by omega), if_neg h, List.map_append, ih]
    simp [digitChar_toNat (n % 10) (by omega)]

theorem strBytes_toString_int (n : Int) : strBytes (toString n) = fmtInt n := by
  unfold strBytes fmtInt
  cases n with
  | ofNat k =>
    have : ¬ (Int.ofNat k < 0) := by simp
    simp only [this, if_false]
    show (Int.repr (Int.ofNat k)).toList.map Char.toNat = _
    simp only [Int.repr, Nat.toList_repr, toDigits_bytes]
    rfl
  | negSucc k =>
    have : (Int.negSucc k < 0) := Int.negSucc_lt_zero k
    simp only [this, if_true]
    show (Int.repr (Int.negSucc k)).toList.map Char.toNat = _
    simp only [Int.repr, String.toList_append, List.map_append, Nat.toList_repr, toDigits_bytes]
    rfl

theorem readInt_toString (n : Int) (h : inInt64 n) : readInt (strBytes (toString n)) = .ok n := by
  rw [strBytes_toString_int]; exact atoi_fmtInt n h

/-- any written integer is read back as *some* integer (wrap-around outside the 64-bit range) -/
theorem readInt_toString_some (n : Int) : ∃ v, readInt (strBytes (toString n)) = .ok v := by
  rw [strBytes_toString_int]
  unfold readInt fmtInt
  split
  · exact ⟨_, atoi_neg_digits _ (fmtNat_ne_nil _) (fmtNat_all_digits _)⟩
  · exact ⟨_, atoi_digits' _ (fmtNat_ne_nil _) (fmtNat_all_digits _)⟩

theorem toString_int_ne_empty (n : Int) : toString n ≠ "" := by
  intro h
  have h1 := strBytes_toString_int n
  rw [h] at h1
  have h2 : fmtInt n ≠ [] := by
    unfold fmtInt; split
    · simp
    · exact fmtNat_ne_nil _
  exact h2 h1.symm

theorem toString_nat_ne_empty (n : Nat) : toString n ≠ "" := by
  intro h
  have h1 : (toString n).toList = Nat.toDigits 10 n := Nat.toList_repr
  rw [h] at h1
  exact Nat.toDigits_ne_nil h1.symm

theorem toString_int_inj {a b : Int} (h : toString a = toString b) : a = b := Int.repr_injective h

theorem get?_nil (t : Nat) : Fields.get? [] t = none := rfl

theorem get?_cons (p : Nat × String) (f : Fields) (t : Nat) :
    Fields.get? (p :: f) t = if p.1 = t then some p.2 else Fields.get? f t :=
  find?_pair_cons p f t

theorem get?_mem {f : Fields} {t : Nat} {v : String} (h : Fields.get? f t = some v) : (t, v) ∈ f :=
  find?_pair_some h

theorem get?_filter (f : Fields) (q : Nat → Bool) (t : Nat) (ht : q t = true) :
    Fields.get? (f.filter (fun p => q p.1)) t = Fields.get? f t := by
  unfold Fields.get?; rw [find?_filter_key f q ht]

theorem has_iff_get? (f : Fields) (t : Nat) : Fields.has f t = (Fields.get? f t).isSome := by
  unfold Fields.has Fields.get?
  rw [Option.isSome_map, Bool.eq_iff_iff, List.any_eq_true, List.find?_isSome]

/-- the body tags (everything but the header tags and 43 / 122) are delivered unchanged -/
def bodyTag (t : Nat) : Bool := t != 8 && t != 35 && t != 49 && t != 56 && t != 34 && t != 52 && t != 43 && t != 122

/-- `dupF`, `origF`, `restF`, `hdrF`: the four parts `toIn` (Model/Link) puts together -/
def dupF (m : OutMsg) : Fields := match m.f.get? 43 with | some v => [(43, v)] | none => []
def origF (m : OutMsg) : Fields := if m.f.has 122 then [(122, "@0")] else []
def restF (m : OutMsg) : Fields := m.f.filter (fun p => p.1 != 43 && p.1 != 122)

def hdrF (cfg : Cfg) (m : OutMsg) : Fields :=
  [(8, bsName cfg.bs), (35, m.kind), (49, cfg.sender), (56, cfg.target), (34, toString m.seq), (52, "@0")]

theorem toIn_f (cfg : Cfg) (m : OutMsg) : (toIn cfg m).f = hdrF cfg m ++ (dupF m ++ (origF m ++ restF m)) := by
  cases h : m.f.get? 43 <;> simp [toIn, hdrF, dupF, origF, restF, h]

/-- `h` by `rfl` for a concrete tag -/
theorem toIn_hdr (cfg : Cfg) (m : OutMsg) (t : Nat) (v : String) (h : Fields.get? (hdrF cfg m) t = some v) :
    (toIn cfg m).f.get? t = some v := by
  rw [toIn_f]; exact (get?_append (hdrF cfg m) _ t).trans (by rw [h])

theorem toIn_nohdr (cfg : Cfg) (m : OutMsg) (t : Nat) (h : Fields.get? (hdrF cfg m) t = none) :
    (toIn cfg m).f.get? t = Fields.get? (dupF m ++ (origF m ++ restF m)) t := by
  rw [toIn_f]; exact (get?_append (hdrF cfg m) _ t).trans (by rw [h])

theorem toIn_kind (cfg : Cfg) (m : OutMsg) : kindOf (toIn cfg m) = m.kind := by simp [kindOf, toIn_hdr cfg m 35 _ rfl]
theorem toIn_seqText (cfg : Cfg) (m : OutMsg) : seqText (toIn cfg m) = toString m.seq := by simp [seqText, toIn_hdr cfg m 34 _ rfl]

theorem restF_get (m : OutMsg) (t : Nat) (h43 : t ≠ 43) (h122 : t ≠ 122) : Fields.get? (restF m) t = m.f.get? t :=
  get?_filter m.f (fun x => x != 43 && x != 122) t (by simp [h43, h122])

theorem restF_get43 (m : OutMsg) : Fields.get? (restF m) 43 = none :=
  get?_none_of_tags _ _ (by
    intro p hp
    have := (List.mem_filter.1 hp).2
    simp only [Bool.and_eq_true, bne_iff_ne, ne_eq] at this
    exact this.1)

theorem restF_get122 (m : OutMsg) : Fields.get? (restF m) 122 = none :=
  get?_none_of_tags _ _ (by
    intro p hp
    have := (List.mem_filter.1 hp).2
    simp only [Bool.and_eq_true, bne_iff_ne, ne_eq] at this
    exact this.2)

theorem dupF_get (m : OutMsg) (t : Nat) : Fields.get? (dupF m) t = if t = 43 then m.f.get? 43 else none := by
  unfold dupF
  cases h : m.f.get? 43 with
  | none => simp [get?_nil]
  | some v => simp only [get?_cons, get?_nil]; by_cases ht : t = 43 <;> simp [ht, eq_comm]

theorem origF_get (m : OutMsg) (t : Nat) : Fields.get? (origF m) t = if t = 122 ∧ m.f.has 122 = true then some "@0" else none := by
  unfold origF
  cases h : m.f.has 122 with
  | false => simp [get?_nil]
  | true => simp only [if_true, get?_cons, get?_nil, and_true]; by_cases ht : t = 122 <;> simp [ht, eq_comm]

theorem toIn_get_body (cfg : Cfg) (m : OutMsg) (t : Nat) (ht : bodyTag t = true) :
    (toIn cfg m).f.get? t = m.f.get? t := by
  simp only [bodyTag, Bool.and_eq_true, bne_iff_ne, ne_eq] at ht
  obtain ⟨⟨⟨⟨⟨⟨⟨h8, h35⟩, h49⟩, h56⟩, h34⟩, h52⟩, h43⟩, h122⟩ := ht
  rw [toIn_nohdr cfg m t (by
    simp only [hdrF, get?_cons, get?_nil]
    rw [if_neg (Ne.symm h8), if_neg (Ne.symm h35), if_neg (Ne.symm h49), if_neg (Ne.symm h56), if_neg (Ne.symm h34), if_neg (Ne.symm h52)]),
    get?_append, dupF_get, if_neg h43]
  simp only []
  rw [get?_append, origF_get, if_neg (fun h => h122 h.1)]
  exact restF_get m t h43 h122

theorem toIn_get43 (cfg : Cfg) (m : OutMsg) : (toIn cfg m).f.get? 43 = m.f.get? 43 := by
  rw [toIn_nohdr cfg m 43 rfl, get?_append, dupF_get, if_pos rfl]
  cases h : m.f.get? 43 with
  | some v => rfl
  | none =>
    simp only []
    rw [get?_append, origF_get, if_neg (fun h => absurd h.1 (by decide))]
    exact restF_get43 m

theorem toIn_get122 (cfg : Cfg) (m : OutMsg) :
    (toIn cfg m).f.get? 122 = if m.f.has 122 then some "@0" else none := by
  rw [toIn_nohdr cfg m 122 rfl, get?_append, dupF_get, if_neg (by decide)]
  simp only []
  rw [get?_append, origF_get]
  cases h : m.f.has 122 with
  | true => simp
  | false => simp [restF_get122]

/-- what an engine wrote arrives with its fields in section order: the header written by `toIn` (PossDupFlag and
    OrigSendingTime moved into it), then the remaining fields as the engine ordered them -/
theorem toIn_secOrd (cfg : Cfg) (m : OutMsg) (ho : SecOrd (restF m)) :
    ∃ p r, (toIn cfg m).f = p :: r ∧ Validate.isHeaderTag p.1 = true ∧ SecOrd r := by
  refine ⟨(8, bsName cfg.bs), _, toIn_f cfg m, (show Validate.isHeaderTag 8 = true by decide), ?_⟩
  have h1 : hdrOnly ([(35, m.kind), (49, cfg.sender), (56, cfg.target), (34, toString m.seq), (52, "@0")] ++ (dupF m ++ origF m)) = true := by
    apply hdrOnly_append (by rfl)
    apply hdrOnly_append
    · unfold dupF; split <;> rfl
    · unfold origF; split <;> rfl
  have := SecOrd.hdr_append h1 ho
  simpa [List.append_assoc] using this

theorem toIn_has35 (cfg : Cfg) (m : OutMsg) : (toIn cfg m).f.has 35 = true := by
  rw [toIn_f]; simp [hdrF, Fields.has]

/-- **the default validator (no data dictionary, any settings) accepts what an engine wrote**, provided every value is
    non-empty and the engine ordered its own fields header-first -/
theorem toIn_valid (cfg pcfg : Cfg) (m : OutMsg) (hne : NoEmpty (toIn pcfg m)) (ho : SecOrd (restF m))
    (happ : cfg.validator.app = none) : Valid cfg (toIn pcfg m) := by
  obtain ⟨p, r, hf, hp, hr⟩ := toIn_secOrd pcfg m ho
  exact validate_noDict_ok cfg _ p r hf hp hr hne (toIn_has35 pcfg m) happ

theorem bsName_ne_empty (n : Nat) : bsName n ≠ "" := by
  unfold bsName
  split <;> decide

theorem toIn_noEmpty (cfg : Cfg) (m : OutMsg) (hs : cfg.sender ≠ "") (ht : cfg.target ≠ "") (hk : m.kind ≠ "")
    (hf : ∀ p ∈ m.f, p.2 ≠ "") : NoEmpty (toIn cfg m) := by
  intro p hp
  rw [String.isEmpty_eq_false_iff]
  rw [toIn_f] at hp
  simp only [hdrF, List.cons_append, List.nil_append, List.mem_cons, List.mem_append] at hp
  rcases hp with rfl | rfl | rfl | rfl | rfl | rfl | hp
  · exact bsName_ne_empty _
  · exact hk
  · exact hs
  · exact ht
  · exact toString_int_ne_empty _
  · decide
  · rcases hp with hp | hp | hp
    · unfold dupF at hp
      split at hp
      · rename_i v hv
        simp only [List.mem_singleton] at hp; subst hp
        exact hf _ (get?_mem hv)
      · cases hp
    · unfold origF at hp
      split at hp
      · simp only [List.mem_singleton] at hp; subst hp; decide
      · cases hp
    · exact hf p (List.mem_filter.1 hp).1

theorem getTime_at0 (m : InMsg) (t : Nat) (h : m.f.get? t = some "@0") : getTime m t = .val 0 := by
  unfold getTime
  rw [h]
  have h1 : ("@0" : String).toList = '@' :: ['0'] := by decide
  have h2 : String.ofList ['0'] = Nat.repr 0 := by decide
  simp only [h1, h2, Nat.toInt?_repr]
  rfl

theorem getInt_of_get? (m : InMsg) (t : Nat) (n : Int) (h : m.f.get? t = some (toString n)) (hn : inInt64 n) : getInt m t = .val n := by
  unfold getInt; rw [h]; simp only [readInt_toString n hn]

theorem getInt_of_get?_some (m : InMsg) (t : Nat) (n : Int) (h : m.f.get? t = some (toString n)) : ∃ v, getInt m t = .val v := by
  unfold getInt; rw [h]
  obtain ⟨v, hv⟩ := readInt_toString_some n
  exact ⟨v, by simp only [hv]⟩

def appMsg (n : Int) (p : String) : OutMsg := { kind := "D", seq := n, f := [(9000, p)] }

theorem wrap64_in (x : Int) : inInt64 (wrap64 x) := by unfold wrap64 inInt64; omega

theorem parseUIntLoop_in64 (cs : Bytes) (n : Int) (hn : inInt64 n) (v : Int) (h : parseUIntLoop cs n = .ok v) : inInt64 v := by
  revert h
  -- case2: a digit, then the rest
  fun_induction parseUIntLoop cs n with
  | case1 n => rintro ⟨⟩; exact hn
  | case2 c cs n _ ih => exact ih (wrap64_in _)
  | case3 => nofun

theorem atoi_in64 (b : Bytes) (v : Int) (h : atoi b = .ok v) : inInt64 v := by
  have hp : ∀ d, parseUInt d = .ok v → inInt64 v := fun d => by
    fun_cases parseUInt d with
    | case1 => nofun
    | case2 => exact parseUIntLoop_in64 d 0 (by unfold inInt64; omega) v
  revert h
  -- case2: a minus and digits; case3: a minus and a failure
  fun_cases atoi b with
  | case2 => rintro ⟨⟩; exact wrap64_in _
  | case3 _ hr => exact fun h => (hr v h).elim
  | _ => exact hp _

theorem getInt_in64 (m : InMsg) (t : Nat) (v : Int) (h : getInt m t = .val v) : inInt64 v := by
  revert h
  -- case2: the field is there and reads as an integer
  fun_cases getInt m t with
  | case2 _ _ i hi => rintro ⟨⟩; exact atoi_in64 _ _ hi
  | _ => nofun

theorem getBool_Y (im : InMsg) (t : Nat) (h : im.f.get? t = some "Y") : getBool im t = .val true := by
  unfold getBool; rw [h]
  have : readBool (strBytes "Y") = .ok true := by decide
  simp only [this]

theorem getBool_missing (im : InMsg) (t : Nat) (h : im.f.get? t = none) : getBool im t = .missing := by
  unfold getBool; rw [h]

theorem has_toIn_body (cfg : Cfg) (m : OutMsg) (t : Nat) (ht : bodyTag t = true) : (toIn cfg m).f.has t = m.f.has t := by
  rw [has_iff_get?, has_iff_get?, toIn_get_body cfg m t ht]

end Qfx.Link
