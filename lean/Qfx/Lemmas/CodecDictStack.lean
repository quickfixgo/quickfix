/-
  Dictionary-guided parse (`parseGroup`, fixed code) for repeating groups with nested groups of any depth (suffix `N`: n levels): the tag stack as a list of
  resolved levels (`Resolves`), `popToMember` as a function of the stack (`popSpecRev`), one iteration of `parseGroup` as `stepSpec`
  (`grpSwitch_stack`) — pop to the nearest level that lists the tag, then enter there (`stepSpec_eq`, `enterAt`) —, member walks `WalkN`.
-/
import Qfx.Lemmas.CodecDictGroup
namespace Qfx
open Qfx.Spec

variable {d : Dicts}

/-- one level of the parser's tag stack: the group tag and the member list the dictionary gives for it -/
abbrev Level := Tag × List DNode

def stackTags (st : List Level) : List Tag := st.map (·.1)

/-- the member list of the innermost level -/
def lastGf : List Level → List DNode
  | [] => []
  | [l] => l.2
  | _ :: l2 :: r => lastGf (l2 :: r)

/-- what the dictionary says about tag `t` among the members `gf`: the member list of a repeating group, or nothing -/
def groupOf (gf : List DNode) (t : Tag) : Option (List DNode) :=
  match dfind gf t with
  | some n => if n.children.isEmpty then none else some n.children
  | none => none

theorem groupOf_some {gf : List DNode} {t : Tag} {c : List DNode} (h : groupOf gf t = some c) :
    ∃ n, dfind gf t = some n ∧ n.children = c ∧ c.isEmpty = false := by
  revert h
  -- case2: `dfind` finds a node that has children
  fun_cases groupOf gf t with
  | case2 n hd he => intro h; cases h; exact ⟨n, hd, rfl, by simpa using he⟩
  | _ => nofun

theorem pathWalk_single (C : List DNode) (t : Tag) : pathWalk C [t] = groupOf C t := by
  unfold groupOf; rfl

theorem pathWalk_cons_found (C : List DNode) (t t2 : Tag) (r : List Tag) (c : List DNode) (h : groupOf C t = some c) :
    pathWalk C (t :: t2 :: r) = pathWalk c (t2 :: r) := by
  obtain ⟨n, hd, hc, _⟩ := groupOf_some h
  simp only [pathWalk, hd, hc]

/-- the walk along a path extended by one tag asks for that tag where the walk along the path arrives -/
theorem pathWalk_snoc : ∀ (p : List Tag) (C c : List DNode) (t : Tag), pathWalk C p = some c → pathWalk C (p ++ [t]) = groupOf c t
  | [], _, _, _, h => by cases h
  | [x], C, c, t, h => by
    rw [pathWalk_single] at h
    exact (pathWalk_cons_found C x t [] c h).trans (pathWalk_single c t)
  | x :: y :: r, C, c, t, h => by
    simp only [List.cons_append, pathWalk] at h ⊢
    cases hd : dfind C x with
    | some n => rw [hd] at h; exact pathWalk_snoc (y :: r) n.children c t h
    | none => rw [hd] at h; exact pathWalk_snoc (y :: r) C c t h

theorem lastGf_eq (st : List Level) : lastGf st = (st.getLast?.map (·.2)).getD [] := by
  induction st with
  | nil => rfl
  | cons a r ih =>
    cases r with
    | nil => rfl
    | cons b c => rw [lastGf, ih, List.getLast?_cons_cons]

theorem lastGf_reverse_cons (p : Level) (r : List Level) : lastGf (p :: r).reverse = p.2 := by simp [lastGf_eq]

theorem lastGf_snoc (st : List Level) (l : Level) : lastGf (st ++ [l]) = l.2 := by simp [lastGf_eq]

theorem stackTags_snoc (st : List Level) (l : Level) : stackTags (st ++ [l]) = stackTags st ++ [l.1] := by simp [stackTags]

theorem stackTags_reverse (st : List Level) : stackTags st.reverse = (stackTags st).reverse := List.map_reverse

/-- the dictionary resolves the stack from the node list `C`: the first level is a repeating group among `C`, and every level pushed on
    it a repeating group among the members of the level it is pushed on -/
inductive Resolves (C : List DNode) : List Level → Prop where
  | one {t : Tag} {c : List DNode} : groupOf C t = some c → Resolves C [(t, c)]
  | push {st : List Level} {t : Tag} {c : List DNode} : Resolves C st → groupOf (lastGf st) t = some c → Resolves C (st ++ [(t, c)])

theorem resolves_walk (st : List Level) (C : List DNode) (h : Resolves C st) : pathWalk C (stackTags st) = some (lastGf st) := by
  induction h with
  | one hg => exact (pathWalk_single C _).trans hg
  | push _ hg ih => rw [stackTags_snoc, pathWalk_snoc _ _ _ _ ih, lastGf_snoc]; exact hg

theorem resolves_extend (st : List Level) (C : List DNode) (t : Tag) (h : Resolves C st) :
    pathWalk C (stackTags st ++ [t]) = groupOf (lastGf st) t :=
  pathWalk_snoc _ _ _ t (resolves_walk st C h)

theorem resolves_prefix (a b : List Level) (C : List DNode) (hne : a ≠ []) (h : Resolves C (a ++ b)) : Resolves C a := by
  generalize hst : a ++ b = st at h
  induction h generalizing b with
  | one hg =>
    cases a with
    | nil => exact absurd rfl hne
    | cons x a' =>
      simp only [List.cons_append, List.cons.injEq, List.append_eq_nil_iff] at hst
      obtain ⟨rfl, rfl, rfl⟩ := hst
      exact .one hg
  | @push st t c hr hg ih =>
    rcases List.eq_nil_or_concat b with rfl | ⟨b', l, rfl⟩
    · rw [List.append_nil] at hst; subst hst; exact .push hr hg
    · rw [List.concat_eq_append, ← List.append_assoc] at hst
      exact ih b' (List.append_inj_left' hst rfl)

/-- the application dictionary's field list for the message type -/
def AppMsg (d : Dicts) (mt : Bytes) (fs : List DNode) : Prop := ∃ msgs, d.app = some msgs ∧ alFindB msgs mt = some fs

theorem appMsg_fields {mt : Bytes} {fs : List DNode} (ha : AppMsg d mt fs) (fields : List TagValue) (hd : FieldMap) (t35 : TagValue)
    (hmt : MTInv fields hd t35) (hv : t35.value = mt) : msgFields d fields hd = some fs := by
  obtain ⟨msgs, hap, hfs⟩ := ha
  simp only [msgFields, hap, hmt.getBytes, hv, hfs]

/-- `popToMember` on a resolved stack, as a function of the stack alone (argument: the REVERSED stack) -/
def popSpecRev (t : Tag) : List Level → Option (List Level)
  | [] => none
  | _ :: r =>
    match r with
    | [] => none
    | p :: _ => if isGroupMember t p.2 then some r.reverse else popSpecRev t r

theorem popToMember_cons2 (fields : List TagValue) (hd : FieldMap) (t x y : Tag) (r : List Tag) :
    popToMember d fields hd t (x :: y :: r) =
      if isGroupMember t (getGroupFields d fields hd (y :: r).reverse) then
        some ((y :: r).reverse, getGroupFields d fields hd (y :: r).reverse)
      else popToMember d fields hd t (y :: r) := by
  rw [popToMember]   -- the equation carries the side goal that the list does not match the single-element pattern
  intro h; cases h

theorem popSpecRev_cons2 (t : Tag) (x p : Level) (r : List Level) :
    popSpecRev t (x :: p :: r) = if isGroupMember t p.2 then some (p :: r).reverse else popSpecRev t (p :: r) := by
  rw [popSpecRev]

theorem popToMember_spec {mt : Bytes} {fs : List DNode} (ha : AppMsg d mt fs) (fields : List TagValue) (hd : FieldMap) (t35 : TagValue)
    (hmt : MTInv fields hd t35) (hv : t35.value = mt) (t : Tag) :
    ∀ (rs : List Level), Resolves fs rs.reverse →
      popToMember d fields hd t (stackTags rs) = (popSpecRev t rs).map (fun st' => (stackTags st', lastGf st')) := by
  have hmf := appMsg_fields ha fields hd t35 hmt hv
  intro rs
  induction rs with
  | nil => intro _; rfl
  | cons x r ih =>
    intro hres
    cases r with
    | nil => rfl
    | cons p r2 =>
      have hpre : Resolves fs (p :: r2).reverse := resolves_prefix _ [x] _ (by simp) (by simpa using hres)
      -- the member list the parser looks up for the enclosing levels is the one the stack records
      have hgf : getGroupFields d fields hd (p.1 :: stackTags r2).reverse = p.2 := by
        show getGroupFields d fields hd (stackTags (p :: r2)).reverse = p.2
        simp only [getGroupFields, hmf, ← stackTags_reverse, resolves_walk _ _ hpre, lastGf_reverse_cons]
      show popToMember d fields hd t (x.1 :: p.1 :: stackTags r2) = _
      rw [popToMember_cons2, popSpecRev_cons2, hgf]
      by_cases hm : isGroupMember t p.2 = true
      · simp only [hm, if_true, Option.map_some, stackTags_reverse, lastGf_reverse_cons]; rfl
      · rw [if_neg hm, if_neg hm]; exact ih hpre

/-- popping drops, from the innermost level outwards, the levels that do not list the tag; the innermost level itself is not asked -/
theorem popSpecRev_eq (t : Tag) (x : Level) (r : List Level) :
    popSpecRev t (x :: r) = (match r.dropWhile (fun l => !isGroupMember t l.2) with | [] => none | r' => some r'.reverse) := by
  induction r generalizing x with
  | nil => rfl
  | cons p r ih =>
    rw [popSpecRev_cons2, List.dropWhile_cons, ih]
    by_cases hm : isGroupMember t p.2 = true <;> simp only [hm, if_true, Bool.not_true, Bool.not_false, Bool.false_eq_true, if_false]

theorem popSpecRev_prefix (t : Tag) (rs st1 : List Level) (h : popSpecRev t rs = some st1) : st1 ≠ [] ∧ ∃ b, rs.reverse = st1 ++ b := by
  cases rs with
  | nil => cases h
  | cons x r =>
    rw [popSpecRev_eq] at h
    obtain ⟨pre, hpre⟩ := List.dropWhile_suffix (l := r) (fun l => !isGroupMember t l.2)
    generalize r.dropWhile _ = r' at h hpre
    cases r' with
    | nil => cases h
    | cons y r2 => cases h; exact ⟨by simp, (x :: pre).reverse, by rw [← List.reverse_append, List.cons_append, hpre]⟩

/-- the parser's move on a member-or-not field with tag `t`, as a function of the stack: the next stack, or `none` = the group ends -/
def stepSpec (st : List Level) (t : Tag) : Option (List Level) :=
  if isGroupMember t (lastGf st) then
    (match groupOf (lastGf st) t with | some c => some (st ++ [(t, c)]) | none => some st)
  else
    match popSpecRev t st.reverse with
    | some st1 => (match groupOf (lastGf st1) t with | some c => some (st1 ++ [(t, c)]) | none => some st1)
    | none => none

/-- the stack once a field listed at its last level has been taken: the nested group the field starts there, if any, is pushed -/
def enterAt (st : List Level) (t : Tag) : List Level :=
  match groupOf (lastGf st) t with
  | some c => st ++ [(t, c)]
  | none => st

/-- `stepSpec` pops to the nearest level that lists the tag and enters there -/
theorem stepSpec_eq (st : List Level) (t : Tag) :
    stepSpec st t = if isGroupMember t (lastGf st) then some (enterAt st t) else (popSpecRev t st.reverse).map (enterAt · t) := by
  unfold stepSpec enterAt
  split
  · cases groupOf (lastGf st) t <;> rfl
  · cases popSpecRev t st.reverse with
    | none => rfl
    | some st1 => cases hg : groupOf (lastGf st1) t <;> simp only [Option.map_some, hg]

theorem popSpecRev_resolves {fs : List DNode} {st st1 : List Level} {t : Tag} (hres : Resolves fs st)
    (hp : popSpecRev t st.reverse = some st1) : Resolves fs st1 := by
  obtain ⟨hne, b, hb⟩ := popSpecRev_prefix t _ _ hp
  rw [List.reverse_reverse] at hb
  exact resolves_prefix st1 b fs hne (by rw [← hb]; exact hres)

theorem enterAt_resolves {fs : List DNode} {st : List Level} (hres : Resolves fs st) (t : Tag) : Resolves fs (enterAt st t) := by
  unfold enterAt
  cases hg : groupOf (lastGf st) t with
  | none => exact hres
  | some c => exact .push hres hg

theorem stepSpec_resolves {fs : List DNode} (st : List Level) (hres : Resolves fs st) (t : Tag) (st' : List Level)
    (h : stepSpec st t = some st') : Resolves fs st' := by
  rw [stepSpec_eq] at h
  split at h
  · cases h; exact enterAt_resolves hres t
  · cases hp : popSpecRev t st.reverse with
    | none => rw [hp] at h; cases h
    | some st1 => rw [hp] at h; cases h; exact enterAt_resolves (popSpecRev_resolves hres hp) t

/-- entering at the last level of a resolved stack is what the parser does there: it asks the dictionary whether the tag path extended by
    the tag is a repeating group and, if so, goes on with that path and its member list (`X`: what it does with path and member list) -/
theorem enterAt_mode {α : Type} {mt : Bytes} {fs : List DNode} (ha : AppMsg d mt fs) (fields : List TagValue) (hd : FieldMap) (t35 : TagValue)
    (hmt : MTInv fields hd t35) (hv : t35.value = mt) (st : List Level) (hres : Resolves fs st) (t : Tag) (X : List Tag → List DNode → α) :
    (if isNumInGroupField d fields hd (stackTags st ++ [t]) = true then X (stackTags st ++ [t]) (getGroupFields d fields hd (stackTags st ++ [t]))
      else X (stackTags st) (lastGf st)) = X (stackTags (enterAt st t)) (lastGf (enterAt st t)) := by
  have hmf := appMsg_fields ha fields hd t35 hmt hv
  unfold enterAt
  cases hg : groupOf (lastGf st) t <;>
    simp only [isNumInGroupField, getGroupFields, hmf, resolves_extend st fs t hres, hg, Option.isSome_none, Option.isSome_some,
      Bool.false_eq_true, if_false, if_true, stackTags_snoc, lastGf_snoc]

/-- one iteration of `parseGroup` (fixed code) on a resolved tag stack of any depth: the stack moves as `stepSpec` says, or the group ends -/
theorem grpSwitch_stack {mt : Bytes} {fs : List DNode} (ha : AppMsg d mt fs) (fields : List TagValue) (idx j : Nat) (c : PCore) (tv t35 : TagValue)
    (hmt : MTInv fields c.header t35) (hv : t35.value = mt) (st : List Level) (hres : Resolves fs st)
    (hside : isGroupMember tv.tag (lastGf st) = false →
      isHeaderField d tv.tag = false ∧ isTrailerField d tv.tag = false ∧ NoGroupTag d tv.tag) :
    grpSwitch Fixes.cur d fields idx tv j (stackTags st) (lastGf st) c =
      match stepSpec st tv.tag with
      | some st' => .ok ({ c with trailerBytes := c.rawBytes }, some (.grp j (stackTags st') (lastGf st')))
      | none =>
        (match addDm fields j idx { c with trailerBytes := c.rawBytes } with
         | .ok c1 => .ok ({ c1 with body := c1.body.add tv.tag (.view idx 1) }, none)
         | .err e => .err e
         | .fault w => .fault w) := by
  rw [stepSpec_eq]
  by_cases hm : isGroupMember tv.tag (lastGf st) = true
  · simp only [grpSwitch, hm, if_true]
    exact enterAt_mode ha fields c.header t35 hmt hv st hres tv.tag fun tags gf => Res.ok (_, some (Mode.grp j tags gf))
  · have hm' : isGroupMember tv.tag (lastGf st) = false := by simpa using hm
    obtain ⟨hh, ht, hng⟩ := hside hm'
    -- a tag the innermost level does not list: `popToMember` looks for the nearest enclosing level that does
    have hpop := popToMember_spec ha fields c.header t35 hmt hv tv.tag st.reverse (by rw [List.reverse_reverse]; exact hres)
    rw [stackTags_reverse] at hpop
    cases hp : popSpecRev tv.tag st.reverse with
    | none =>
      rw [hp] at hpop
      simp only [grpSwitch, hm', hh, ht, isNum_false d _ _ tv.tag hng, Fixes.cur, if_true, Bool.false_eq_true, if_false, hpop,
        Option.map_none]
      rfl
    | some st1 =>
      rw [hp] at hpop
      simp only [grpSwitch, hm', hh, ht, isNum_false d _ _ tv.tag hng, Fixes.cur, if_true, Bool.false_eq_true, if_false, hpop,
        Option.map_some]
      exact enterAt_mode ha fields c.header t35 hmt hv st1 (popSpecRev_resolves hres hp) tv.tag fun tags gf => Res.ok (_, some (Mode.grp j tags gf))

/-- the member fields of a repeating group with nested groups of any depth, in any arrangement the parser accepts: each field moves
    the tag stack as `stepSpec` says (stay, push a nested group, pop to the enclosing level that lists the tag, pop and push) -/
inductive WalkN (d : Dicts) : List Level → List TagValue → List Level → Prop where
  | nil (st : List Level) : WalkN d st [] st
  | step {st st1 st' : List Level} {tv : TagValue} {r : List TagValue} : IsWire tv →
      (isGroupMember tv.tag (lastGf st) = false →
        isHeaderField d tv.tag = false ∧ isTrailerField d tv.tag = false ∧ NoGroupTag d tv.tag) →
      stepSpec st tv.tag = some st1 → WalkN d st1 r st' → WalkN d st (tv :: r) st'

theorem WalkN.wire {st st' : List Level} {M : List TagValue} (h : WalkN d st M st') : ∀ tv ∈ M, IsWire tv := by
  induction h with
  | nil s => intro tv h; cases h
  | step hw _ _ _ ih =>
    intro x hx; rcases List.mem_cons.1 hx with e | e
    · subst e; exact hw
    · exact ih x e

theorem WalkN.trans {a b c : List Level} {M1 M2 : List TagValue} (h1 : WalkN d a M1 b) (h2 : WalkN d b M2 c) : WalkN d a (M1 ++ M2) c := by
  induction h1 with
  | nil s => simpa using h2
  | step hw hs hst _ ih => exact .step hw hs hst (ih h2)

theorem lastGf_append_ne (st0 ext : List Level) (hne : ext ≠ []) : lastGf (st0 ++ ext) = lastGf ext := by
  obtain ⟨a, r, rfl⟩ := List.exists_cons_of_ne_nil hne
  simp [lastGf_eq, List.getLast?_append, List.getLast?_cons]

theorem lastGf_mem (ext : List Level) (hne : ext ≠ []) : ∃ l ∈ ext, lastGf ext = l.2 :=
  ⟨ext.getLast hne, List.getLast_mem hne, by rw [lastGf_eq, List.getLast?_eq_some_getLast hne]; rfl⟩

theorem lastGf_notMember (t : Tag) (st : List Level) (h : ∀ l ∈ st, isGroupMember t l.2 = false) :
    isGroupMember t (lastGf st) = false := by
  cases st with
  | nil => rfl
  | cons a r => obtain ⟨l, hl, e⟩ := lastGf_mem (a :: r) (by simp); rw [e]; exact h l hl

/-- popping finds the nearest level that lists the tag: the levels `er` (innermost first) do not list it, the level `p` behind them does -/
theorem popSpecRev_ext (t : Tag) (p : Level) (q : List Level) (hp : isGroupMember t p.2 = true) (er : List Level) (hne : er ≠ [])
    (hall : ∀ l ∈ er, isGroupMember t l.2 = false) : popSpecRev t (er ++ p :: q) = some (p :: q).reverse := by
  obtain ⟨x, er', rfl⟩ := List.exists_cons_of_ne_nil hne
  rw [List.cons_append, popSpecRev_eq, dropWhile_stop (fun l hl => by rw [hall l (List.mem_cons_of_mem _ hl)]; rfl) (by rw [hp]; decide)]

/-- a field listed at the last level of `st0` (and at no level of the extension) brings the stack back to `st0`, or to the nested
    group it starts there -/
theorem stepSpec_reenter (t : Tag) (st0 ext : List Level) (h0 : st0 ≠ []) (hm : isGroupMember t (lastGf st0) = true)
    (hext : ∀ l ∈ ext, isGroupMember t l.2 = false) :
    stepSpec (st0 ++ ext) t = some (enterAt st0 t) := by
  cases ext with
  | nil => rw [List.append_nil, stepSpec_eq, if_pos hm]
  | cons x r =>
    have hlast : isGroupMember t (lastGf (st0 ++ x :: r)) = false := by
      rw [lastGf_append_ne st0 (x :: r) (by simp)]; exact lastGf_notMember t _ hext
    obtain ⟨p, q, hpq⟩ := List.exists_cons_of_ne_nil (mt List.reverse_eq_nil_iff.1 h0)
    have hst0 : st0 = (p :: q).reverse := by rw [← hpq, List.reverse_reverse]
    have hp : isGroupMember t p.2 = true := by rw [hst0, lastGf_reverse_cons] at hm; exact hm
    have hpop : popSpecRev t (st0 ++ x :: r).reverse = some st0 := by
      rw [List.reverse_append, hpq, hst0]
      exact popSpecRev_ext t p q hp (x :: r).reverse (by simp) (fun l hl => hext l (by simp only [List.mem_reverse] at hl; exact hl))
    rw [stepSpec_eq, hlast, hpop]
    rfl

theorem popSpecRev_none (t : Tag) (rs : List Level) (h : ∀ l ∈ rs, isGroupMember t l.2 = false) : popSpecRev t rs = none := by
  cases rs with
  | nil => rfl
  | cons x r => rw [popSpecRev_eq, dropWhile_all fun l hl => by rw [h l (List.mem_cons_of_mem _ hl)]; rfl]

theorem stepSpec_exit (t : Tag) (st : List Level) (h : ∀ l ∈ st, isGroupMember t l.2 = false) : stepSpec st t = none := by
  rw [stepSpec_eq, lastGf_notMember t st h, popSpecRev_none t st.reverse (fun l hl => h l (by simpa using hl))]
  rfl

theorem groupOf_isMember {C : List DNode} {t : Tag} {c : List DNode} (h : groupOf C t = some c) : isGroupMember t C = true := by
  obtain ⟨n, hn, _, _⟩ := groupOf_some h
  exact dfind_isMember C t n hn

end Qfx
