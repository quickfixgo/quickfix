/-
  Fidelity of the parse for every well-formed wire message under any dictionaries: a loop invariant that does not look at what the
  dictionaries make of the fields (`WInv`; `wire_iter`).  No condition on the dictionaries: even when
  a repeating group lists CheckSum, `parseGroup` swallows the field, runs out of fields, and `doParsing` ends the loop on the field parsed
  last.
-/
import Qfx.Lemmas.CodecTotal
import Qfx.Lemmas.CodecParseMsg
namespace Qfx
open Qfx.Spec

variable {d : Dicts}

/-- what the loop keeps while it walks a wire message without XMLDataLen and without a further BodyLength field -/
structure WInv (fields : List TagValue) (c : PCore) : Prop where
  secs : SecsOK fields c
  xlen : c.xmlDataLen = 0
  nine : alFind c.header.lookup 9 = some (.view 1 1)

theorem mainSwitch_keeps (fx : Fixes) (fields : List TagValue) (idx : Nat) (tv : TagValue) (c : PCore) (h9 : tv.tag ≠ 9) :
    (mainSwitch fx d fields idx tv c).1.rawBytes = c.rawBytes ∧ (mainSwitch fx d fields idx tv c).1.xmlDataLen = c.xmlDataLen ∧
    alFind (mainSwitch fx d fields idx tv c).1.header.lookup 9 = alFind c.header.lookup 9 := by
  have hk := c.header.find_add_other tv.tag (.view idx 1) h9
  exact mainSwitch_elim (P := fun r => r.1.rawBytes = c.rawBytes ∧ r.1.xmlDataLen = c.xmlDataLen ∧
      alFind r.1.header.lookup 9 = alFind c.header.lookup 9) fx d fields idx tv c
    ⟨rfl, rfl, hk⟩ ⟨rfl, rfl, rfl⟩ (fun _ => ⟨rfl, rfl, rfl⟩) ⟨rfl, rfl, rfl⟩

theorem grpSwitch_keeps (fields : List TagValue) (idx : Nat) (tv : TagValue) (dmStart : Nat) (tags : List Tag) (gf : List DNode)
    (c c1 : PCore) (mo : Option Mode) (hd : dmStart < fields.length) (h9 : tv.tag ≠ 9)
    (h : grpSwitch Fixes.cur d fields idx tv dmStart tags gf c = .ok (c1, mo)) :
    c1.rawBytes = c.rawBytes ∧ c1.xmlDataLen = c.xmlDataLen ∧
    alFind c1.header.lookup 9 = alFind c.header.lookup 9 ∧ ∀ m, mo = some m → ∃ j t g, m = .grp j t g := by
  have hT := addDm_eq fields dmStart idx c hd
  have hB := addDm_eq fields dmStart idx { c with trailerBytes := c.rawBytes } hd
  have hk := c.header.find_add_other tv.tag (.view idx 1) h9
  revert h
  refine grpSwitch_elim (P := fun r => r = .ok (c1, mo) → c1.rawBytes = c.rawBytes ∧ c1.xmlDataLen = c.xmlDataLen ∧
    alFind c1.header.lookup 9 = alFind c.header.lookup 9 ∧ ∀ m, mo = some m → ∃ j t g, m = .grp j t g)
    d fields idx tv dmStart tags gf c ?_ ?_ ?_ ?_ ?_
  -- arms: stay, hdr, trl, grp, body
  · intro tags' gf' h; cases h
    exact ⟨rfl, rfl, rfl, fun m hm => by cases hm; exact ⟨_, _, _, rfl⟩⟩
  · simp only [hT]; intro h; cases h
    exact ⟨rfl, rfl, hk, fun m hm => by cases hm⟩
  · simp only [hT]; intro h; cases h
    exact ⟨rfl, rfl, rfl, fun m hm => by cases hm⟩
  · intro tags' gf'; simp only [hB]; intro h; cases h
    exact ⟨rfl, rfl, rfl, fun m hm => by cases hm; exact ⟨_, _, _, rfl⟩⟩
  · simp only [hB]; intro h; cases h
    exact ⟨rfl, rfl, rfl, fun m hm => by cases hm⟩

theorem WInv.plainTail {fields : List TagValue} {c : PCore} (h : WInv fields c) : WInv fields (plainTail c) := by
  obtain ⟨k1, k2, k3, k4, k5, k6⟩ := plainTail_raw c
  exact ⟨⟨by rw [k4]; exact h.secs.h, by rw [k5]; exact h.secs.b, by rw [k6]; exact h.secs.t⟩, by rw [k2]; exact h.xlen,
    by rw [k4]; exact h.nine⟩

/-- whatever the switch of either mode does with a field other than BodyLength: the views stay in range, the buffer, the XMLData length
    and the header's BodyLength entry stay, and only `parseGroup` is entered -/
theorem switchOf_keeps (mode : Mode) (fields : List TagValue) (idx : Nat) (tv : TagValue) (c : PCore) (hm : ModeOK idx mode)
    (hidx : idx < fields.length) (hsec : SecsOK fields c) (h9 : tv.tag ≠ 9) :
    ∃ c1 mo, switchOf Fixes.cur d fields idx tv c mode = .ok (c1, mo) ∧ SecsOK fields c1 ∧ c1.rawBytes = c.rawBytes ∧
      c1.xmlDataLen = c.xmlDataLen ∧ alFind c1.header.lookup 9 = alFind c.header.lookup 9 ∧
      ∀ m, mo = some m → ModeOK (idx + 1) m ∧ ∃ j t g, m = .grp j t g := by
  cases mode with
  | main =>
    obtain ⟨k1, k2, k4⟩ := mainSwitch_keeps (d := d) Fixes.cur fields idx tv c h9
    obtain ⟨s1, s2⟩ := mainSwitch_secs Fixes.cur d fields idx tv c hsec hidx
    refine ⟨_, _, rfl, s1, k1, k2, k4, fun m hm => ⟨s2 m hm, ?_⟩⟩
    revert hm
    exact mainSwitch_elim (P := fun r => r.2 = some m → ∃ j t g, m = .grp j t g) Fixes.cur d fields idx tv c
      (fun h => by cases h) (fun h => by cases h) (fun _ h => by cases h; exact ⟨_, _, _, rfl⟩) (fun h => by cases h)
  | grp j tags gf =>
    obtain ⟨c1, mo, hg, s1, s2⟩ := grpSwitch_secs d fields idx tv j tags gf c hm hidx hsec
    obtain ⟨k1, k2, k4, k5⟩ := grpSwitch_keeps (d := d) fields idx tv j tags gf c c1 mo (by have : j < idx := hm; omega) h9 hg
    exact ⟨c1, mo, hg, s1, k1, k2, k4, fun m hm => ⟨s2 m hm, k5 m hm⟩⟩

/-- the ghost state is trivial, the invariant does not look at the dictionaries -/
def WireI (_ : Unit) (mode : Mode) (fields : List TagValue) (idx : Nat) (c : PCore) : Prop := WInv fields c ∧ ModeOK idx mode

def WireT (_ : Unit) (tv : TagValue) (_ : Unit) : Prop := IsWire tv ∧ tv.tag ≠ 10 ∧ tv.tag ≠ 212 ∧ tv.tag ≠ 9

/-- one iteration on a wire field other than CheckSum, any mode, any dictionaries: the field is stored and the loop goes on.  The smallest
    instance of `Advances`: ghost state `Unit`, the invariant `WInv` with the mode in range -/
theorem wire_iter : Advances Fixes.cur d WireI WireT := by
  intro _ tv _ ⟨hw, hT⟩ mode fields idx c raw' hI hidx hraw
  have hex : extractField c.rawBytes = (raw', .ok tv) := by rw [hraw]; exact extractField_wire tv raw' hw
  obtain ⟨c1, mo, hsw, s1, k1, k2, k4, k5⟩ := switchOf_keeps (d := d) mode (fields.set idx tv) idx tv { c with rawBytes := raw' } hI.2
    (by rw [List.length_set]; exact hidx) ⟨hI.1.secs.h.set idx tv, hI.1.secs.b.set idx tv, hI.1.secs.t.set idx tv⟩ hT.2.2
  have hinv1 : WInv (fields.set idx tv) c1 := ⟨s1, by rw [k2]; exact hI.1.xlen, by rw [k4]; exact hI.1.nine⟩
  cases mo with
  | some m => exact ⟨m, c1, parseLoop_goes Fixes.cur mode fields idx c c1 tv raw' hidx hI.1.xlen hex m hsw, ⟨hinv1, (k5 m rfl).1⟩, k1⟩
  | none =>
    exact ⟨.main, plainTail c1, parseLoop_back Fixes.cur mode fields idx c c1 tv raw' hidx hI.1.xlen hex hsw hT.1 hT.2.1,
      ⟨hinv1.plainTail, trivial⟩, by rw [(plainTail_raw c1).1]; exact k1⟩

/-- `parseGroup` has swallowed CheckSum as a group member and finds no field left: the group is added to the body, and `doParsing`, looking
    at the field parsed last, ends the loop -/
theorem grp_out_of_fields (fields : List TagValue) (idx j : Nat) (t : List Tag) (g : List DNode) (c : PCore) (tv : TagValue)
    (hlen : idx + 1 = fields.length) (hj : j < idx + 1) (hlast : fields[idx]? = some tv) (h10 : tv.tag = 10) :
    parseLoop Fixes.cur d (.grp j t g) fields (idx + 1) c =
      finishParse fields { c with body := c.body.add (fields[j]'(by omega)).tag (.view j (idx + 1 - j)) } := by
  rw [parseLoop]
  have : ¬ (idx + 1 < fields.length) := by omega
  simp only [this, dite_false, outOfFields, Fixes.cur, if_true]
  rw [addDm_eq fields j (idx + 1) c (by omega)]
  simp only [Nat.add_sub_cancel, hlast, h10, if_true]

theorem wire_loop (t10 : TagValue) (hw10 : IsWire t10) (h10 : t10.tag = 10) (tl : Bytes)
    (rest : List TagValue) (mode : Mode) (fields : List TagValue) (idx : Nat) (c : PCore)
    (hall : ∀ tv ∈ rest, IsWire tv ∧ tv.tag ≠ 10 ∧ tv.tag ≠ 212 ∧ tv.tag ≠ 9) (hinv : WInv fields c) (hm : ModeOK idx mode)
    (hraw : c.rawBytes = wireOf rest ++ (t10.bytes ++ tl)) (hlen : idx + rest.length + 1 = fields.length) :
    ∃ c', parseLoop Fixes.cur d mode fields idx c = finishParse (setRange fields idx (rest ++ [t10])) c' ∧
      alFind c'.header.lookup 9 = some (.view 1 1) := by
  obtain ⟨m1, c1, e1, ⟨hinv1, hm1⟩, hraw1⟩ := loop_chain (wire_iter (d := d)) (Chain.of_forall () rest hall) mode fields idx c
    (t10.bytes ++ tl) ⟨hinv, hm⟩ hraw (by omega)
  rw [e1, setRange_append]
  have hFl := setRange_length fields idx rest
  generalize setRange fields idx rest = F at *
  have hidx : idx + rest.length < F.length := by omega
  -- CheckSum: filed in the trailer, or swallowed by `parseGroup`, which then finds no field left
  obtain ⟨c2, mo, hsw, s1, k1, k2, k4, k5⟩ := switchOf_keeps (d := d) m1 (F.set (idx + rest.length) t10) (idx + rest.length) t10
    { c1 with rawBytes := tl } hm1 (by rw [List.length_set]; exact hidx) ⟨hinv1.secs.h.set _ t10, hinv1.secs.b.set _ t10, hinv1.secs.t.set _ t10⟩ (by rw [h10]; decide)
  have hex : extractField c1.rawBytes = (tl, .ok t10) := by rw [hraw1]; exact extractField_wire t10 tl hw10
  have h9 : alFind c2.header.lookup 9 = some (.view 1 1) := by rw [k4]; exact hinv1.nine
  cases mo with
  | none => exact ⟨c2, parseLoop_ends Fixes.cur m1 F _ c1 c2 t10 tl hidx hinv1.xlen hex hsw h10, h9⟩
  | some m =>
    obtain ⟨hj, j, t, g, rfl⟩ := k5 m rfl
    rw [show setRange F (idx + rest.length) [t10] = F.set (idx + rest.length) t10 from rfl,
      parseLoop_goes Fixes.cur m1 F _ c1 c2 t10 tl hidx hinv1.xlen hex _ hsw,
      grp_out_of_fields (d := d) (F.set (idx + rest.length) t10) (idx + rest.length) j t g c2 t10 (by rw [List.length_set]; omega) hj
        (by simp [hidx]) h10]
    exact ⟨_, rfl, h9⟩

theorem parse_wire_anydict (t8 t9 t35 : TagValue) (pre : List TagValue) (t10 : TagValue)
    (hw : WireMsg t8 t9 t35 pre t10)
    (hbl : atoi t9.value = .ok ((fieldsLength (t8 :: t9 :: t35 :: (pre ++ [t10])) : Nat) : Int)) :
    ∃ c', parseMessage Fixes.cur d (wireOf (t8 :: t9 :: t35 :: (pre ++ [t10]))) =
      .ok (msgOf (wireOf (t8 :: t9 :: t35 :: (pre ++ [t10]))) (t8 :: t9 :: t35 :: (pre ++ [t10])) c') := by
  have hrestW : ∀ tv ∈ pre ++ [t10], IsWire tv :=
    List.forall_mem_append.2 ⟨fun tv h => (hw.wpre tv h).1, List.forall_mem_singleton.2 hw.w10⟩
  rw [parseMessage_lead_wire Fixes.cur t8 t9 t35 _ hw.w8 hw.w9 hw.w35 hrestW hw.tag8 hw.tag9 hw.tag35]
  have hwire : wireOf (pre ++ [t10]) = wireOf pre ++ (t10.bytes ++ []) := by simp [wireOf]
  rw [hwire]
  have hinv0 : WInv ([t8, t9, t35] ++ List.replicate (pre ++ [t10]).length TagValue.zero) (plainInit t8 t9 t35 (wireOf pre ++ (t10.bytes ++ []))) :=
    ⟨⟨(((HdrOK.empty _ .header).add t8.tag 0 (by simp)).add t9.tag 1 (by simp)).add t35.tag 2 (by simp), ViewsOK.empty _ _, ViewsOK.empty _ _⟩,
      rfl, (plainInit_find t8 t9 t35 _ hw.tag8 hw.tag9 hw.tag35).2.1⟩
  obtain ⟨c', h1, h2⟩ := wire_loop (d := d) t10 hw.w10 hw.tag10 [] pre .main _ 3 _
    (fun tv h => ⟨(hw.wpre tv h).1, (hw.wpre tv h).2.1, (hw.wpre tv h).2.2, hw.single9 tv h⟩) hinv0 trivial rfl (by simp; omega)
  rw [h1]
  have hsr := setRange_replicate TagValue.zero (pre ++ [t10]) [t8, t9, t35]
  simp only [List.length_cons, List.length_nil] at hsr
  rw [hsr]
  have hF : [t8, t9, t35] ++ (pre ++ [t10]) = t8 :: t9 :: t35 :: (pre ++ [t10]) := rfl
  rw [hF, finish_ok _ c' t9 h2 (by simp) hbl]
  exact ⟨_, rfl⟩

end Qfx
