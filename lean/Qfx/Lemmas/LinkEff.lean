/-
  Exact effects, with persistence on: of the sending functions (`Eff`: what is written, what stays queued, by how much
  the next outbound number moves), of the handlers on messages the peer wrote (`Res`), of one whole event (`StepIs`).
  Each record is the previous one read one level up: `Res` adds the expected number and the next state a handler returns,
  `StepIs` reads both off `step` (written messages as `wiresOf`); LinkReplay's step lemmas read `StepIs` on the link (`At`).
-/
import Qfx.Lemmas.LinkCtx
import Qfx.Lemmas.LinkSnd
namespace Qfx.Link
open Qfx Qfx.Sess

/-- the messages written according to a log (newest first), oldest first -/
def wl (s : Sess) : List OutMsg := wiresOf s.log.reverse

theorem wl_emit_wire (s : Sess) (m : OutMsg) : wl (s.emit (.wire m)) = wl s ++ [m] := by
  simp [wl, Sess.emit, wiresOf]

theorem wl_emit (s : Sess) (o : Obs) (h : ∀ m, o ≠ .wire m) : wl (s.emit o) = wl s := by
  have : wiresOf [o] = [] := by cases o <;> first | rfl | exact absurd rfl (h _)
  simp only [wl, Sess.emit, List.reverse_cons, wiresOf_append, this, List.append_nil]

/-- `s'` is `s` after sending: `n` more numbers used, `W` written (in order), queue now `q`; state, configuration,
    connection, inbound buffer and expected number untouched -/
structure Eff (s s' : Sess) (n : Int) (W q : List OutMsg) : Prop where
  fr : Fr s s'
  tgt : s'.store.target = s.store.target
  snd : s'.store.sender = s.store.sender + n
  w : wl s' = wl s ++ W
  q : s'.toSend = q
  grow : Grow true s.store s'.store

theorem Eff.refl (s : Sess) : Eff s s 0 [] s.toSend := ⟨Fr.refl s, rfl, by omega, by simp, rfl, Grow.refl _ _⟩

theorem Eff.trans {a b c : Sess} {n1 n2 : Int} {W1 W2 q1 q2 : List OutMsg} (h1 : Eff a b n1 W1 q1) (h2 : Eff b c n2 W2 q2) :
    Eff a c (n1 + n2) (W1 ++ W2) q2 :=
  ⟨h1.fr.trans h2.fr, h2.tgt.trans h1.tgt, by rw [h2.snd, h1.snd]; omega, by rw [h2.w, h1.w, List.append_assoc], h2.q, h1.grow.trans h2.grow⟩

theorem Eff.after {a b c : Sess} {n : Int} {W q q' : List OutMsg} (h1 : Eff a b 0 [] q') (h2 : Eff b c n W q) : Eff a c n W q := by
  have := h1.trans h2
  rwa [Int.zero_add, List.nil_append] at this

theorem Eff.before {a b c : Sess} {n : Int} {W q : List OutMsg} (h1 : Eff a b n W q) (h2 : Eff b c 0 [] b.toSend) : Eff a c n W q := by
  have := h1.trans h2
  rwa [Int.add_zero, List.append_nil, h1.q] at this

theorem Eff.emit (s : Sess) (o : Obs) (h : ∀ m, o ≠ .wire m) : Eff s (s.emit o) 0 [] s.toSend :=
  ⟨⟨rfl, rfl, rfl, rfl, rfl⟩, rfl, by show s.store.sender = _; omega, by rw [wl_emit s o h]; simp, rfl, Grow.refl _ _⟩

theorem Eff.of_eq {s s' : Sess} (hf : Fr s s') (h2 : s'.store = s.store) (h3 : s'.log = s.log) (h4 : s'.toSend = s.toSend) :
    Eff s s' 0 [] s.toSend :=
  ⟨hf, by rw [h2], by rw [h2]; omega, by simp [wl, h3], h4, by rw [h2]; exact Grow.refl _ _⟩

theorem wiresOf_wire (ms : List OutMsg) : wiresOf (ms.map Obs.wire) = ms := by
  induction ms with
  | nil => rfl
  | cons m rest ih => simp [wiresOf] at ih ⊢; exact ih

theorem wl_wrote (s : Sess) (ms : List OutMsg) : wl (s.wrote ms) = wl s ++ ms := by
  simp only [wl, Sess.wrote, List.reverse_append, List.reverse_reverse, wiresOf_append, wiresOf_wire]

/-- with a connection `sendQueued` writes the queue -/
theorem wl_sendQueued (s : Sess) (ho : s.out = true) : wl (sendQueued s) = wl s ++ s.toSend := by
  unfold sendQueued
  rw [if_pos ho]
  exact wl_wrote s s.toSend

theorem eff_sendQueued (s : Sess) (ho : s.out = true) : Eff s (sendQueued s) 0 s.toSend [] := by
  refine ⟨fr_sendQueued s, ?_, ?_, wl_sendQueued s ho, ?_, ?_⟩ <;> unfold sendQueued <;> rw [if_pos ho]
  · exact (Int.add_zero _).symm
  · exact Grow.refl _ _

theorem eff_filed (s : Sess) (m : OutMsg) (hm : OutOK m) (hp : s.cfg.persist = true) (q : List OutMsg) :
    Eff s (s.filed q (numbered s m)) 1 [] (q ++ [numbered s m]) := by
  unfold Sess.filed
  rw [persistOut_eq s _ _ hp]
  exact ⟨⟨rfl, rfl, rfl, rfl, rfl⟩, rfl, rfl, by simp [wl, Sess.emit, Sess.setToSend, wiresOf], rfl, Grow.save true s.store _ (fun _ => hm.adm)⟩

theorem eff_filed_sent (s : Sess) (m : OutMsg) (hm : OutOK m) (hp : s.cfg.persist = true) (ho : s.out = true) (q : List OutMsg) :
    Eff s (sendQueued (s.filed q (numbered s m))) 1 (q ++ [numbered s m]) [] := by
  have h1 := eff_filed s m hm hp q
  have h2 := eff_sendQueued _ (h1.fr.out.trans ho)
  rw [h1.q] at h2
  have := h1.trans h2
  rwa [Int.add_zero, List.nil_append] at this

theorem eff_queueForSend (s : Sess) (m : OutMsg) (hm : OutOK m) (hp : s.cfg.persist = true) :
    Eff s (queueForSend s m) 1 [] (s.toSend ++ [numbered s m]) := by
  rw [queueForSend_eq, hm.accepted, filed_ok s hm]
  exact eff_filed s m hm hp _

theorem eff_sendInReplyTo_on (s : Sess) (m : OutMsg) (hm : OutOK m) (hp : s.cfg.persist = true) (hl : s.st.loggedOn = true) (ho : s.out = true) :
    Eff s (sendInReplyTo s m) 1 (s.toSend ++ [numbered s m]) [] := by
  rw [sendInReplyTo_eq, hl, hm.accepted, filed_ok s hm]
  exact eff_filed_sent s m hm hp ho _

theorem eff_sendInReplyTo_off (s : Sess) (m : OutMsg) (hm : OutOK m) (hp : s.cfg.persist = true) (hl : s.st.loggedOn = false) :
    Eff s (sendInReplyTo s m) 1 [] (s.toSend ++ [numbered s m.asNew]) := by
  rw [sendInReplyTo_eq, hl]
  exact eff_queueForSend s m.asNew hm.asNew hp

theorem eff_dropAndSend (s : Sess) (m : OutMsg) (hm : OutOK m) (hp : s.cfg.persist = true) (ho : s.out = true) :
    Eff s (dropAndSend s m) 1 [numbered s m] [] := by
  rw [dropAndSend_eq, hm.accepted, filed_ok s hm]
  exact eff_filed_sent s m hm hp ho _

/-- result `r` of a handler: `n` numbers used, `W` written, queue now `q`, expected number `t'`, next state `nx` -/
structure Res (s : Sess) (r : Sess × SState) (n : Int) (W q : List OutMsg) (t' : Int) (nx : SState) : Prop where
  fr : Fr s r.1
  tgt : r.1.store.target = t'
  snd : r.1.store.sender = s.store.sender + n
  w : wl r.1 = wl s ++ W
  q : r.1.toSend = q
  nx : r.2 = nx
  grow : Grow true s.store r.1.store

theorem Res.of_eff {s s1 : Sess} {n : Int} {W q : List OutMsg} (h : Eff s s1 n W q) (nx : SState) :
    Res s (s1, nx) n W q s.store.target nx := ⟨h.fr, h.tgt, h.snd, h.w, h.q, rfl, h.grow⟩

theorem Res.of_eff_incr {s s1 : Sess} {n : Int} {W q : List OutMsg} (h : Eff s s1 n W q) (nx : SState) :
    Res s (incrTarget s1, nx) n W q (s.store.target + 1) nx :=
  ⟨h.fr.trans (fr_incrTarget s1), by simp [incrTarget, Sess.emit, Sess.setTarget, h.tgt], h.snd,
    by rw [show wl (incrTarget s1) = wl s1 from wl_emit _ _ (by intro _; simp)]; exact h.w, h.q, rfl, h.grow.target _⟩

/-- a Logon as an engine with configuration `cfg` composes it -/
def IsLogon (cfg : Cfg) (m : OutMsg) : Prop := m.kind = "A" ∧ (cfg.bs = 5 → cfg.applVer ≠ "" → m.f.has 1137 = true)

/-- header bookkeeping (number, tag 369, reply marker) does not matter: any message with the kind and fields of `logonMsg` -/
theorem isLogon_of (x : Sess) (mL : OutMsg) (nx : Option Int) (hk : mL.kind = "A") (hf : mL.f = (logonMsgX x false nx).f) :
    IsLogon x.cfg mL := by
  refine ⟨hk, fun _ hv => ?_⟩
  have : x.cfg.applVer.isEmpty = false := String.isEmpty_eq_false_iff.2 hv
  rw [hf]
  simp [logonMsgX, mkOut, Fields.has, this]

/-- how an engine answers a Logon: the acceptor writes its own Logon (dropping its queue), the initiator nothing.  `n0`, `W`, `q0`
    are those of `Eff`; for an initiator `mL` is any message -/
def LogonRole (s : Sess) (n0 : Int) (W q0 : List OutMsg) : Prop :=
  ∃ mL, (s.cfg.initiator = false → IsLogon s.cfg mL ∧ mL.seq = s.store.sender) ∧ n0 = (if s.cfg.initiator then 0 else 1) ∧
    q0 = (if s.cfg.initiator then s.toSend else []) ∧ W = (if s.cfg.initiator then [] else [mL])

theorem eff_logonReply (s : Sess) (im : InMsg) (hp : s.cfg.persist = true) (ho : s.out = true) :
    ∃ n0 W q0, LogonRole s n0 W q0 ∧ Eff s (logonReply s im false) n0 W q0 := by
  unfold logonReply
  cases hi : s.cfg.initiator
  · simp only [Bool.not_false, if_true]
    generalize hx : (if (!s.cfg.hbOverride) = true then match getInt im 108 with | Got.val h => s.setHb h | x => s else s) = x
    have hX : Eff s x 0 [] s.toSend := by
      rw [← hx]
      split
      · split
        · exact Eff.of_eq ⟨rfl, rfl, rfl, rfl, rfl⟩ rfl rfl rfl
        · exact Eff.refl s
      · exact Eff.refl s
    have hxp : x.cfg.persist = true := by rw [hX.fr.cfg]; exact hp
    have hxo : x.out = true := by rw [hX.fr.out]; exact ho
    have h2 := eff_dropAndSend x ((logonMsgRe x false im).inReplyTo im) ((outOK_logonX x _).re im) hxp hxo
    simp only [Bool.false_and, Bool.false_eq_true, if_false]
    refine ⟨1, _, [], ?_, hX.after h2⟩
    unfold LogonRole
    rw [hi]
    refine ⟨numbered x ((logonMsgRe x false im).inReplyTo im), fun _ => ⟨?_, ?_⟩, rfl, rfl, rfl⟩
    · have := isLogon_of x (numbered x ((logonMsgRe x false im).inReplyTo im)) _ rfl rfl
      rw [hX.fr.cfg] at this; exact this
    · show x.store.sender = _; rw [hX.snd]; omega
  · exact ⟨0, [], s.toSend, by unfold LogonRole; rw [hi]; exact ⟨default, (fun h => nomatch h), rfl, rfl, rfl⟩, Eff.refl s⟩

theorem eff_handleLogon {c : Ctx} (hc : CtxOK c) {s : Sess} (hs : s.cfg = c.cfg) {m : OutMsg} (hw : Wire c.P m)
    (hlog : IsLogon c.pcfg m) (hv : c.cfg.bs = 5 → c.pcfg.applVer ≠ "") (ho : s.out = true) (hge : s.store.target ≤ m.seq) :
    ∃ s1 n0 W q0, LogonRole s n0 W q0 ∧ Eff s s1 n0 W q0 ∧
      handleLogon s (toIn c.pcfg m) =
        if m.seq > s.store.target then (s1, some (.rej (.tooHigh m.seq s.store.target))) else (incrTarget s1, none) := by
  have hp : s.cfg.persist = true := by rw [hs]; exact hc.persist
  have h1137 : (s.cfg.bs == 5 && !(toIn c.pcfg m).f.has 1137) = false := by
    rw [has_toIn_body _ _ 1137 (by decide)]
    cases hb : (s.cfg.bs == 5) with
    | false => rfl
    | true =>
      have hb5 : c.cfg.bs = 5 := by rw [← hs]; simpa using hb
      have := hlog.2 (by rw [← hc.bs]; exact hb5) (hv hb5)
      simp [this]
  have e1 : Eff s (logonS1 s) 0 [] s.toSend := by
    unfold logonS1; split
    · exact Eff.emit s _ (by intro _; simp)
    · exact Eff.refl s
  have e2 : Eff s (logonS2 s (toIn c.pcfg m)) 0 [] s.toSend :=
    e1.before (Eff.emit _ (cbOf (logonS1 s) (toIn c.pcfg m)) (by intro x; unfold cbOf; split <;> simp))
  rw [handleLogon_pool hc hs hw h1137, if_neg (by omega)]
  generalize logonS2 s (toIn c.pcfg m) = s2 at e2 ⊢
  have hp2 : s2.cfg.persist = true := by rw [e2.fr.cfg]; exact hp
  have ho2 : s2.out = true := by rw [e2.fr.out]; exact ho
  -- the reply, then `logonFinish` after it
  obtain ⟨n0, W, q0, hrole, hr⟩ := eff_logonReply s2 (toIn c.pcfg m) hp2 ho2
  unfold LogonRole at hrole
  rw [e2.fr.cfg, e2.q, e2.snd, Int.add_zero] at hrole
  have e3 := e2.after hr
  generalize logonReply s2 (toIn c.pcfg m) false = x at e3
  have e4 : Eff s (notified x) n0 W q0 :=
    ((e3.before (Eff.of_eq (s' := x.setSentReset false) ⟨rfl, rfl, rfl, rfl, rfl⟩ rfl rfl rfl)).before
      (Eff.emit _ (Obs.armPeer (1200 * x.hb)) (by intro _; simp))).before (Eff.emit _ Obs.onLogon (by intro _; simp))
  exact ⟨_, n0, W, q0, hrole, e4, by rw [logonFinish_pool hc hw x (e3.fr.cfg.trans hs) s.store.sender, e4.tgt]⟩

theorem res_logonFix {c : Ctx} (hc : CtxOK c) {s : Sess} (hs : s.cfg = c.cfg) {m : OutMsg} (hw : Wire c.P m)
    (hlog : IsLogon c.pcfg m) (hv : c.cfg.bs = 5 → c.pcfg.applVer ≠ "") (ho : s.out = true) (hst : s.st = .logon)
    (hge : s.store.target ≤ m.seq) :
    ∃ n0 W q0, LogonRole s n0 W q0 ∧
      (m.seq = s.store.target → Res s (fixMsgInCore s (toIn c.pcfg m)) n0 W q0 (s.store.target + 1) .inSession) ∧
      (s.store.target < m.seq → Res s (fixMsgInCore s (toIn c.pcfg m)) (n0 + 1) W
          (q0 ++ [{ stamp s (rrOut s.cfg s.store.target (m.seq - 1)) with seq := s.store.sender + n0 }]) s.store.target
          (.resend [] (rrCur s.cfg s.store.target (m.seq - 1)) (m.seq - 1))) := by
  obtain ⟨s1, n0, W, q0, hrole, e1, hh⟩ := eff_handleLogon hc hs hw hlog hv ho hge
  have hfx : fixMsgInCore s (toIn c.pcfg m) =
      if m.seq > s.store.target then
        (sendInReplyTo s1 (rrOut s1.cfg s.store.target (m.seq - 1)), .resend [] (rrCur s1.cfg s.store.target (m.seq - 1)) (m.seq - 1))
      else (incrTarget s1, .inSession) := by
    rw [fixMsgInCore_logon _ _ hst]
    unfold logonFixMsgIn
    simp only [toIn_kind, hlog.1, bne_self_eq_false, Bool.false_eq_true, if_false]
    rw [hh]
    by_cases h : m.seq > s.store.target
    · rw [if_pos h, if_pos h]; simp only [sRR_eq]
    · rw [if_neg h, if_neg h]
  refine ⟨n0, W, q0, hrole, ?_, ?_⟩
  · intro heq
    rw [hfx, if_neg (by omega)]; exact Res.of_eff_incr e1 _
  · intro hlt
    have hnl : s1.st.loggedOn = false := by rw [e1.fr.st, hst]; rfl
    have hp1 : s1.cfg.persist = true := by rw [e1.fr.cfg, hs]; exact hc.persist
    have e2 := eff_sendInReplyTo_off s1 (rrOut s1.cfg s.store.target (m.seq - 1)) (outOK_resendRequest _ _) hp1 hnl
    rw [hfx, if_pos (by omega)]
    rw [e1.fr.cfg] at e2 ⊢
    have hst : stamp s1 (rrOut s.cfg s.store.target (m.seq - 1)).asNew = stamp s (rrOut s.cfg s.store.target (m.seq - 1)) :=
      stamp_congr s s1 _ e1.fr.cfg e1.tgt
    have e3 := e1.trans e2
    rw [List.append_nil, e1.q] at e3
    simp only [numbered, e1.snd, hst] at e3
    exact Res.of_eff e3 _

theorem eff_resendMessages (s : Sess) (b e : Int) (hl : s.st.loggedOn = true) (ho : s.out = true) (hp : s.cfg.persist = true) :
    (replyPlanR s.replyLast true s.store b e = [] ∧ resendMessages s b e = s) ∨
    (replyPlanR s.replyLast true s.store b e ≠ [] ∧ Eff s (resendMessages s b e) 0 (s.toSend ++ replyPlanR s.replyLast true s.store b e) []) := by
  rw [resendMessages_eq, hp]
  cases hpl : replyPlanR s.replyLast true s.store b e with
  | nil => left; exact ⟨rfl, rfl⟩
  | cons m rest =>
    right
    refine ⟨by simp, ?_⟩
    rw [enqAll_out s m rest ho]
    have hk : s.keptQueue = s.toSend := by simp [Sess.keptQueue, hl]
    rw [hk]
    exact ⟨⟨rfl, rfl, rfl, rfl, rfl⟩, rfl, by show s.store.sender = _; omega, wl_wrote _ _, rfl, Grow.refl _ _⟩

theorem res_resendRequest {c : Ctx} (hc : CtxOK c) {s : Sess} (hs : s.cfg = c.cfg) {m : OutMsg} (hw : Wire c.P m)
    (hk2 : m.kind = "2") (b e : Int) (h7 : m.f.get? 7 = some (toString b)) (h16 : m.f.get? 16 = some (toString e))
    (hb64 : inInt64 b) (he64 : inInt64 e) (hl : s.st.loggedOn = true) (ho : s.out = true) (hge : s.store.target ≤ m.seq) :
    ∃ W q, ((replyPlanR (replyLastOf s (toIn c.pcfg m)) true s.store b (clipEnd s.cfg s.store.sender e) = [] ∧ W = [] ∧ q = s.toSend) ∨
            (replyPlanR (replyLastOf s (toIn c.pcfg m)) true s.store b (clipEnd s.cfg s.store.sender e) ≠ [] ∧
              W = s.toSend ++ replyPlanR (replyLastOf s (toIn c.pcfg m)) true s.store b (clipEnd s.cfg s.store.sender e) ∧ q = [])) ∧
      Res s (handleResendRequest s (toIn c.pcfg m)) 0 W q (if m.seq = s.store.target then s.store.target + 1 else s.store.target) .inSession := by
  have ha : isAdminKind m.kind = true := by rw [hk2]; decide
  have hb : getInt (toIn c.pcfg m) 7 = .val b := getInt_of_get? _ _ _ (by rw [toIn_get_body _ _ 7 (by decide)]; exact h7) hb64
  have he : getInt (toIn c.pcfg m) 16 = .val e := getInt_of_get? _ _ _ (by rw [toIn_get_body _ _ 16 (by decide)]; exact h16) he64
  rw [handleResendRequest_pool hc hs hw hb he rfl]
  generalize hs1 : (s.emit (cbObs s (toIn c.pcfg m))).setReplyLast (replyLastOf s (toIn c.pcfg m)) = s1
  have e1 : Eff s s1 0 [] s.toSend := hs1 ▸ (Eff.emit s (cbObs s (toIn c.pcfg m)) (by intro x; rw [cbObs_toIn, if_pos ha]; simp)).before
    (Eff.of_eq (s' := (s.emit (cbObs s (toIn c.pcfg m))).setReplyLast (replyLastOf s (toIn c.pcfg m))) ⟨rfl, rfl, rfl, rfl, rfl⟩ rfl rfl rfl)
  have key : ∀ s2 : Sess, ∀ W q, Eff s s2 0 W q →
      Res s (if m.seq < s2.store.target then (s2, SState.inSession) else if m.seq > s2.store.target then (s2, .inSession)
        else (incrTarget s2, .inSession)) 0 W q (if m.seq = s.store.target then s.store.target + 1 else s.store.target) .inSession := by
    intro s2 W q e2
    rw [e2.tgt, if_neg (by omega)]
    by_cases h2 : m.seq > s.store.target
    · rw [if_pos h2, if_neg (by omega)]; exact Res.of_eff e2 _
    · rw [if_neg h2, if_pos (by omega)]; exact Res.of_eff_incr e2 _
  rcases eff_resendMessages s1 b (clipEnd s.cfg s.store.sender e) (by rw [e1.fr.st]; exact hl) (by rw [e1.fr.out]; exact ho)
    (by rw [e1.fr.cfg, hs]; exact hc.persist) with ⟨hpl, hr⟩ | ⟨hpl, hr⟩
  · rw [hr]
    exact ⟨[], s.toSend, Or.inl ⟨by rw [← hs1] at hpl; exact hpl, rfl, rfl⟩, key s1 [] s.toSend e1⟩
  · have e2 := e1.after hr
    rw [e1.q] at e2
    rw [← hs1] at hpl e2
    exact ⟨_, [], Or.inr ⟨hpl, rfl, rfl⟩, by rw [← hs1]; exact key _ _ [] e2⟩

theorem res_gapFill {c : Ctx} (hc : CtxOK c) {s : Sess} (hs : s.cfg = c.cfg) (b e : Int) (l : Option Int) (hw : Wire c.P (gapFillL b e l))
    (hb : b = s.store.target) :
    Res s (inSessionFixMsgIn s (toIn c.pcfg (gapFillL b e l))) 0 [] s.toSend e .inSession := by
  rw [inSession_sequenceReset _ _ (toIn_kind _ _), handleSequenceReset_pool hc hs hw, if_neg (by omega), if_neg (by omega)]
  refine ⟨⟨rfl, rfl, rfl, rfl, rfl⟩, rfl, (Int.add_zero _).symm, ?_, rfl, rfl, Grow.target (Grow.refl true s.store) e⟩
  show wl (((s.emit _).setTarget e).emit _) = _
  rw [wl_emit _ _ (by intro _; simp)]
  show wl (s.emit _) = _
  rw [wl_emit _ _ (by intro x; rw [cbObs_toIn]; split <;> simp)]
  exact (List.append_nil _).symm

theorem res_plain {c : Ctx} (hc : CtxOK c) {s : Sess} (hs : s.cfg = c.cfg) {m : OutMsg} (hw : Wire c.P m)
    (hk : m.kind ≠ "A" ∧ m.kind ≠ "5" ∧ m.kind ≠ "2" ∧ m.kind ≠ "4" ∧ m.kind ≠ "1") (hseq : m.seq = s.store.target) :
    Res s (inSessionFixMsgIn s (toIn c.pcfg m)) 0 [] s.toSend (s.store.target + 1) .inSession := by
  obtain ⟨hA, h5, h2, h4, h1⟩ := hk
  have hkd := toIn_kind c.pcfg m
  rw [inSession_other _ _ (hkd ▸ hA) (hkd ▸ h5) (hkd ▸ h2) (hkd ▸ h4) (hkd ▸ h1), verifySelect_pool hc hs hw]
  have g1 : ¬ m.seq < s.store.target := by omega
  have g2 : ¬ s.store.target < m.seq := by omega
  simp only [true_and, if_true, g1, g2, if_false]
  exact Res.of_eff_incr (Eff.emit s _ (by intro x; rw [cbObs_toIn]; split <;> simp)) _

theorem res_resendFix {s : Sess} {im : InMsg} {n : Int} {W q : List OutMsg} {t' : Int} (fin : Int)
    (h : Res s (inSessionFixMsgIn s im) n W q t' .inSession) (hg : getBool im 123 ≠ .garbled) :
    Res s (resendFixMsgIn s [] 0 fin im) n W q t' (if fin ≥ t' then .resend [] 0 fin else .inSession) := by
  unfold resendFixMsgIn
  generalize inSessionFixMsgIn s im = r at h
  obtain ⟨s', nx⟩ := r
  obtain ⟨hfr, htg, hsn, hw, hq, hnx, hgr⟩ := h
  simp only [] at hfr htg hsn hw hq hnx hgr ⊢
  subst hnx
  simp only [SState.loggedOn, Bool.not_true, Bool.false_eq_true, if_false, bne_self_eq_false, Bool.false_and, Bool.and_false]
  rw [htg]
  by_cases hf : fin ≥ t'
  · simp only [hf, if_true]
    exact ⟨hfr, htg, hsn, hw, hq, rfl, hgr⟩
  · simp only [hf, if_false]
    simp only [drainStash, List.find?_nil]
    exact ⟨hfr, htg, hsn, hw, hq, rfl, hgr⟩

/-- what one event did to an engine, as far as the resynchronisation is concerned (`o`: whether it has a connection) -/
structure StepIs (s : Sess) (e : Ev) (st' : SState) (t' n : Int) (W q : List OutMsg) (o : Bool) : Prop where
  st : (step s e).1.st = st'
  tgt : (step s e).1.store.target = t'
  snd : (step s e).1.store.sender = s.store.sender + n
  w : wiresOf (step s e).2.1 = W
  q : (step s e).1.toSend = q
  out : (step s e).1.out = o
  grow : Grow true s.store (step s e).1.store

/-- `step` read off the state `y` in which `stepCore` ends; `b` is `s` with an empty log (and possibly a fresh connection) -/
theorem stepIs_of_res {s b : Sess} {e : Ev} {r : Sess × SState} {n t' : Int} {W q : List OutMsg} {nx : SState}
    (hb : b.store = s.store) (hbw : wl b = []) (h : Res b r n W q t' nx) {y : Sess} (hy : (stepCore s.clearLog e).1 = y)
    (h0 : y.st = nx) (h1 : y.store = r.1.store) (h2 : wl y = wl r.1) (h3 : y.toSend = r.1.toSend) (h4 : y.out = r.1.out) :
    StepIs s e nx t' n W q b.out := by
  have hs : (step s e).1 = y.clearLog := by rw [← hy]; rfl
  have hl : (step s e).2.1 = y.log.reverse := by rw [← hy]; rfl
  refine ⟨by rw [hs]; exact h0, by rw [hs]; exact (congrArg Store.target h1).trans h.tgt,
    by rw [hs, ← hb]; exact (congrArg Store.sender h1).trans h.snd, ?_, by rw [hs]; exact h3.trans h.q,
    by rw [hs]; exact h4.trans h.fr.out, by rw [hs, ← hb]; exact h1 ▸ h.grow⟩
  rw [hl]
  exact h2.trans (by rw [h.w, hbw]; rfl)

theorem stepIs_of_eff {s b x : Sess} {e : Ev} {n : Int} {W q : List OutMsg} {nx : SState} (hb : b.store = s.store) (hbw : wl b = [])
    (h : Eff b x n W q) (hy : (stepCore s.clearLog e).1 = x.setSt nx) : StepIs s e nx b.store.target n W q b.out :=
  stepIs_of_res hb hbw (Res.of_eff h nx) hy rfl rfl rfl rfl rfl

theorem stepIs_incoming (s : Sess) (im : InMsg) (hcon : s.st.connected = true) {n : Int} {W q : List OutMsg} {t' : Int} {nx : SState}
    (hr : Res s.clearLog (fixMsgInCore s.clearLog im) n W q t' nx) (hnx : nx.connected = true) :
    StepIs s (.incomingMsg (some im)) nx t' n W q s.out := by
  have hy : (stepCore s.clearLog (.incomingMsg (some im))).1 =
      ((fixMsgInCore s.clearLog im).1.setSt nx).emit (.armPeer (1200 * (fixMsgInCore s.clearLog im).1.hb)) :=
    hr.nx ▸ incoming_connected _ s.clearLog im hcon (hr.nx ▸ hnx)
  exact stepIs_of_res (b := s.clearLog) rfl rfl hr hy rfl rfl (wl_emit _ _ (by intro _; simp)) rfl rfl

theorem stepIs_flush (s : Sess) (hl : s.st.loggedOn = true) (ho : s.out = true) :
    StepIs s .flush s.st s.store.target 0 s.toSend [] true := by
  have hy : (stepCore s.clearLog .flush).1 = sendQueued s.clearLog :=
    (stepCore_flush s.clearLog (connected_sessionTime _ (loggedOn_connected _ hl))).trans (if_pos hl)
  have e := eff_sendQueued s.clearLog ho
  rw [← ho]
  exact stepIs_of_res (b := s.clearLog) rfl rfl (Res.of_eff e s.st) hy e.fr.st rfl rfl rfl rfl

theorem stepIs_connect_acceptor {s : Sess} (hst : s.st = .latent) (hi : s.cfg.initiator = false) :
    StepIs s .connect .logon s.store.target 0 [] s.toSend true := by
  have hy : (stepCore s.clearLog .connect).1 = s.clearLog.openConn.setSt .logon := by
    show (connect s.clearLog).1 = _
    rw [connect_acceptor s.clearLog (by show s.st.connected = false; rw [hst]; rfl) (by show s.st.sessionTime = true; rw [hst]; rfl) hi]
  exact stepIs_of_eff (b := s.clearLog.openConn) rfl rfl (Eff.refl _) hy

theorem stepIs_connect_initiator {s : Sess} (hst : s.st = .latent) (hi : s.cfg.initiator = true) (hnr : NoResetCfg s.cfg)
    (hp : s.cfg.persist = true) :
    ∃ mL, IsLogon s.cfg mL ∧ mL.seq = s.store.sender ∧ StepIs s .connect .logon s.store.target 1 [mL] [] true := by
  have hy := congrArg Prod.fst (connect_initiator_noReset s.clearLog (by show s.st.connected = false; rw [hst]; rfl)
    (by show s.st.sessionTime = true; rw [hst]; rfl) hi hnr)
  generalize hx : (if s.clearLog.openConn.cfg.refreshOnLogon = true then s.clearLog.openConn.emit Obs.refresh else s.clearLog.openConn) = x at hy
  have ex : Eff s.clearLog.openConn x 0 [] s.toSend := by
    rw [← hx]; split
    · exact Eff.emit _ _ (by intro _; simp)
    · exact Eff.refl _
  have hxc : x.cfg = s.cfg := ex.fr.cfg
  have e3 := ex.trans (eff_dropAndSend x (logonMsg x false) (outOK_logon x) (by rw [hxc]; exact hp) (by rw [ex.fr.out]; rfl))
  refine ⟨numbered x (logonMsg x false), ?_, ?_, stepIs_of_eff (b := s.clearLog.openConn) rfl rfl e3 hy⟩
  · have := isLogon_of x (numbered x (logonMsg x false)) _ rfl rfl; rw [hxc] at this; exact this
  · show x.store.sender = _; rw [ex.snd]; exact Int.add_zero _

end Qfx.Link
