/-
  Lemmas for C03 (range logic of the reply to a ResendRequest): the model's `resendLoop` / `resendMessages` follow the
  pure plan of Spec/SessionTypedC03 (`resendLoop_eq`, `resendMessages_eq`); the plan is a coverage chain; the store holds
  every number it has used (`StoredAllInv`).  At the head: store invariants over whole histories.
-/
import Qfx.Spec.SessionTypedC03
import Qfx.Lemmas.SessWalk
namespace Qfx.Sess
open Qfx
/-! ### store invariants over whole histories: any property of (persistence flag, message store) closed under the four store
    mutations the session performs (reset, save-under-the-next-number, count-without-saving, set-target) holds after every
    model function, hence after every event history.  One relation `SP s x` ("`x` is reached from `s` by such mutations, same
    configuration"), closed under every primitive update of the model: the smallest instance of SessWalk and the one to copy -/

structure StoreClosed (P : Bool → Store → Prop) : Prop where
  reset : ∀ p st, P p st → P p st.reset
  save : ∀ st (m : OutMsg), P true st → m.seq = st.sender →
    P true { st with msgs := (st.sender, m) :: st.msgs, sender := st.sender + 1 }
  inc : ∀ st, P false st → P false { st with sender := st.sender + 1 }
  target : ∀ p st n, P p st → P p { st with target := n }

def SP (s s' : Sess) : Prop :=
  s'.cfg = s.cfg ∧ ∀ P, StoreClosed P → P s.cfg.persist s.store → P s.cfg.persist s'.store

theorem SP.refl (s : Sess) : SP s s := ⟨rfl, fun _ _ h => h⟩
theorem SP.trans {a b c : Sess} (h1 : SP a b) (h2 : SP b c) : SP a c :=
  ⟨h2.1.trans h1.1, fun P hc h => by have := h2.2 P hc (by rw [h1.1]; exact h1.2 P hc h); rwa [h1.1] at this⟩
theorem SP.of_eq {s s' : Sess} (h1 : s'.cfg = s.cfg) (h2 : s'.store = s.store) : SP s s' :=
  ⟨h1, fun _ _ h => by rw [h2]; exact h⟩

theorem sp_storeReset (s : Sess) : SP s s.storeReset := ⟨rfl, fun _ hc h => hc.reset _ _ h⟩
theorem sp_setTarget (s : Sess) (n : Int) : SP s (s.setTarget n) := ⟨rfl, fun _ hc h => hc.target _ _ n h⟩
theorem sp_incrTarget (s : Sess) : SP s (incrTarget s) := ⟨rfl, fun _ hc h => hc.target _ _ _ h⟩

theorem sp_persistOut (s : Sess) (m : OutMsg) (hm : m.seq = s.store.sender) : SP s (s.persistOut s.store.sender m) := by
  unfold Sess.persistOut
  split
  · rename_i hp
    exact ⟨rfl, fun P hc h => by rw [hp] at h ⊢; exact hc.save _ m h hm⟩
  · rename_i hp
    have hp' : s.cfg.persist = false := by simpa using hp
    exact ⟨rfl, fun P hc h => by rw [hp'] at h ⊢; exact hc.inc _ h⟩

theorem spPrim : PrimRel SP where
  refl := SP.refl
  trans := SP.trans
  quiet := fun _ _ _ _ => SP.of_eq rfl rfl
  setToSend := fun _ _ => SP.of_eq rfl rfl
  persistOut := sp_persistOut
  storeReset := sp_storeReset
  sendQueued := fun s => ite_both (SP.of_eq rfl rfl) (SP.refl s)

theorem spSend : SendRel SP := spPrim.toSendRel (fun _ _ => SP.of_eq rfl rfl) sp_incrTarget

theorem spStep : StepRel SP where
  toSendRel := spSend
  sendResendRequest := spPrim.sendResendRequest
  notice := fun _ _ _ => SP.of_eq rfl rfl
  dropAndSend := spPrim.dropAndSend
  dropAndReset := spPrim.dropAndReset
  setT := fun s n _ => (sp_setTarget s n).trans (SP.of_eq rfl rfl)
  plain := spSend.plain_of_verify spPrim.sendResendRequest fun s m => by
    unfold verifyAppImpl
    split
    · exact SP.refl s
    · exact ite_both (SP.of_eq rfl rfl) (SP.of_eq rfl rfl)
  frame := fun _ _ _ _ _ _ _ _ => SP.of_eq rfl rfl
  dropQueue := fun _ => SP.of_eq rfl rfl
  sendQueued := spPrim.sendQueued

section peel
variable {s x : Sess}
theorem speel_setPendingStop (h : SP s x) : SP s x.setPendingStop := h.trans (SP.of_eq rfl rfl)
theorem speel_clearLog (h : SP s x) : SP s x.clearLog := h.trans (SP.of_eq rfl rfl)
theorem speel_sendResendRequest (b e : Int) (h : SP s x) : SP s (sendResendRequest x b e).1 :=
  h.trans (spPrim.sendResendRequest x b e)
end peel

theorem sp_stepCore (s : Sess) (e : Ev) : SP s (stepCore s e).1 :=
  spStep.stepCore s e fun m _ => spPrim.queueForSend s m

theorem sp_step (s : Sess) (e : Ev) : SP s (step s e).1 := by
  unfold step
  exact (((SP.of_eq (s := s) (s' := s.clearLog) rfl rfl)).trans (sp_stepCore s.clearLog e)).trans (SP.of_eq rfl rfl)

theorem enqAll_append (s : Sess) (a b : List OutMsg) : enqAll s (a ++ b) = enqAll (enqAll s a) b := by
  simp [enqAll, List.foldl_append]

theorem enqAll_replyLast (s : Sess) (l : List OutMsg) : (enqAll s l).replyLast = s.replyLast := by
  induction l generalizing s with
  | nil => rfl
  | cons m rest ih => show (enqAll (enqueueAndSend s m) rest).replyLast = _; rw [ih, enqueueAndSend_replyLast]

theorem foldl_enq_replyLast (s : Sess) (l : List OutMsg) : (List.foldl enqueueAndSend s l).replyLast = s.replyLast :=
  enqAll_replyLast s l

theorem Rep.outR_none (r : Rep) : Rep.outR none r = Rep.out r := by cases r <;> rfl
theorem replyPlanR_none (p : Bool) (st : Store) (b e : Int) : replyPlanR none p st b e = replyPlan p st b e := by
  unfold replyPlanR replyPlan
  exact List.map_congr_left (fun r _ => Rep.outR_none r)
theorem Rep.outR_view (l : Option Int) (r : Rep) :
    (Rep.outR l r).kind = (Rep.out r).kind ∧ (Rep.outR l r).seq = (Rep.out r).seq ∧ (Rep.outR l r).f = (Rep.out r).f := by
  cases r <;> exact ⟨rfl, rfl, rfl⟩

theorem resendLoop_eq (s : Sess) (a b : Int) (l : List (Int × OutMsg)) :
    resendLoop s a b l = (enqAll s (replayPlanR s.replyLast a b l).1, (replayPlanR s.replyLast a b l).2) := by
  induction l generalizing s a b with
  | nil => simp [resendLoop, replayPlanR, replayReps, enqAll]
  | cons p rest ih =>
    obtain ⟨n, m⟩ := p
    simp only [resendLoop, replayPlanR, replayReps]
    split
    · rw [ih]; rfl
    · split
      · rw [ih]; rfl
      · rw [ih]
        simp only [replayPlanR, closeGap]
        split <;> simp [enqAll, Rep.outR, gapFillR, enqueueAndSend_replyLast]

theorem resendMessages_eq (s : Sess) (b e : Int) :
    resendMessages s b e = enqAll s (replyPlanR s.replyLast s.cfg.persist s.store b e) := by
  unfold resendMessages replyPlanR replyReps
  split
  · rfl
  · split
    · simp [enqAll, Rep.outR, gapFillR]
    · rw [resendLoop_eq]
      simp only [closeReps, replayPlanR, closeGap]
      split <;> simp_all [enqAll, Rep.outR, gapFillR, List.foldl_append, foldl_enq_replyLast]

theorem enqAll_wrote (s : Sess) (a l : List OutMsg) (ho : s.out = true) : enqAll (s.wrote a) l = s.wrote (a ++ l) := by
  induction l generalizing a with
  | nil => simp [enqAll]
  | cons m rest ih =>
    have h1 : enqAll (s.wrote a) (m :: rest) = enqAll (enqueueAndSend (s.wrote a) m) rest := rfl
    rw [h1, enqueueAndSend_wrote s a m ho, ih]
    simp

theorem enqAll_out (s : Sess) (m : OutMsg) (l : List OutMsg) (ho : s.out = true) :
    enqAll s (m :: l) = s.wrote (s.keptQueue ++ m :: l) := by
  have h1 : enqAll s (m :: l) = enqAll (enqueueAndSend s m) l := rfl
  rw [h1, enqueueAndSend_out s m ho, enqAll_wrote _ _ l ho]
  simp

def Asc (l : List (Int × OutMsg)) : Prop := l.Pairwise (fun p q => p.1 < q.1)

/-- where the coverage of a walk over `l` ends: after the last stored number visited (`next` if none) -/
def endOf (next : Int) (l : List (Int × OutMsg)) : Int :=
  match l.getLast? with
  | some p => p.1 + 1
  | none => next

theorem endOf_cons (next : Int) (p : Int × OutMsg) (l : List (Int × OutMsg)) : endOf next (p :: l) = endOf (p.1 + 1) l := by
  unfold endOf
  cases l with
  | nil => simp
  | cons q r => rw [List.getLast?_cons_cons]; simp [List.getLast?_cons]

theorem Chain.append {a b c : Int} {x y : List Rep} (h1 : Chain a x b) (h2 : Chain b y c) : Chain a (x ++ y) c := by
  induction h1 with
  | nil => exact h2
  | cons hlo hne _ ih => exact .cons hlo hne (ih h2)

theorem Chain.single (r : Rep) (h : r.lo < r.hi) : Chain r.lo [r] r.hi := .cons rfl h (.nil _)

theorem chain_closeGap (a b : Int) (hab : a ≤ b) : Chain a (closeGap a b) b := by
  unfold closeGap
  by_cases hne : a = b
  · subst hne; simp; exact .nil _
  · have : (a != b) = true := by simpa using hne
    simp only [this, if_true]
    exact Chain.single (.gap a b) (by simp only [Rep.lo, Rep.hi]; omega)

theorem chain_close (a b : Int) (hab : a ≤ b) : Chain a (closeReps ([], a, b)) b := by
  simpa [closeReps] using chain_closeGap a b hab

theorem closeGap_msgs (a b : Int) : (closeGap a b).filterMap Rep.msg? = [] := by
  unfold closeGap; split <;> simp [Rep.msg?]

theorem mem_closeGap {a b x y : Int} (h : Rep.gap x y ∈ closeGap a b) : x = a ∧ y = b ∧ a ≠ b := by
  unfold closeGap at h
  split at h
  · rename_i hne
    simp only [List.mem_singleton, Rep.gap.injEq] at h
    exact ⟨h.1, h.2, by simpa using hne⟩
  · simp at h

theorem Chain.within {a c : Int} {l : List Rep} (h : Chain a l c) : a ≤ c ∧ ∀ r ∈ l, a ≤ r.lo ∧ r.lo < r.hi ∧ r.hi ≤ c := by
  induction h with
  | nil => exact ⟨Int.le_refl _, by simp⟩
  | cons hlo hne _ ih =>
    obtain ⟨h1, h2⟩ := ih
    refine ⟨by omega, ?_⟩
    intro r hr
    rcases List.mem_cons.1 hr with rfl | hr
    · omega
    · have := h2 r hr; omega

theorem replayable_false_of_admin (p : Int × OutMsg) (h : isAdminKind p.2.kind = true) : replayable p = false := by
  simp [replayable, h]

theorem replayable_false_of_declined (p : Int × OutMsg) (h : (p.2.f.get? 9003 == some "n") = true) : replayable p = false := by
  have : p.2.f.get? 9003 = some "n" := by simpa using h
  simp [replayable, resendable, this]

theorem replayable_true (p : Int × OutMsg) (h1 : ¬ isAdminKind p.2.kind = true) (h2 : ¬ (p.2.f.get? 9003 == some "n") = true) :
    replayable p = true := by
  have h2' : ¬ p.2.f.get? 9003 = some "n" := by simpa using h2
  simp [replayable, resendable, h1, h2']

/-- the plan of a walk, by its first stored message: skipped unless replayable; else the gap up to it, the message, the rest -/
theorem closeReps_cons (a b n : Int) (m : OutMsg) (rest : List (Int × OutMsg)) :
    closeReps (replayReps a b ((n, m) :: rest)) =
      if replayable (n, m) then closeGap a n ++ Rep.msg n m :: closeReps (replayReps (n + 1) (n + 1) rest)
      else closeReps (replayReps a (n + 1) rest) := by
  simp only [replayReps]
  by_cases h1 : isAdminKind m.kind = true
  · rw [if_pos h1, replayable_false_of_admin (n, m) h1, if_neg Bool.false_ne_true]
  · by_cases h2 : (m.f.get? 9003 == some "n") = true
    · rw [if_neg h1, if_pos h2, replayable_false_of_declined (n, m) h2, if_neg Bool.false_ne_true]
    · rw [if_neg h1, if_neg h2, replayable_true (n, m) h1 h2, if_pos rfl]
      simp only [closeReps, List.append_assoc, List.cons_append]

/-- the walk, closed by the final gap fill, covers exactly `[a, endOf b l)`, and none of its gap fills covers a stored message
    that is replayable (`a`: first number not yet covered, `b`: next number after the last one visited).  (One induction: that
    a later gap fill does not reach back over a replayed message is the chain property of the rest.) -/
theorem closeReps_spec (l : List (Int × OutMsg)) : ∀ (a b : Int), a ≤ b → (∀ p ∈ l, b ≤ p.1) → Asc l →
    Chain a (closeReps (replayReps a b l)) (endOf b l) ∧
    ∀ x y, Rep.gap x y ∈ closeReps (replayReps a b l) → ∀ p ∈ l, x ≤ p.1 → p.1 < y → replayable p = false := by
  induction l with
  | nil =>
    intro a b hab _ _
    exact ⟨chain_close a b hab, fun _ _ _ p hp => by simp at hp⟩
  | cons q rest ih =>
    obtain ⟨n, m⟩ := q
    intro a b hab hge hasc
    have hn : b ≤ n := hge (n, m) (by simp)
    have hrest : ∀ q ∈ rest, n + 1 ≤ q.1 := fun q hq => (List.pairwise_cons.1 hasc).1 q hq
    rw [endOf_cons, closeReps_cons]
    cases hr : replayable (n, m)
    · -- skipped: the walk goes on with the same start
      obtain ⟨c, g⟩ := ih a (n + 1) (by omega) hrest (List.pairwise_cons.1 hasc).2
      refine ⟨c, fun x y hg p hp hx hy => ?_⟩
      rcases List.mem_cons.1 hp with rfl | hp
      · exact hr
      · exact g x y hg p hp hx hy
    · obtain ⟨hc, g⟩ := ih (n + 1) (n + 1) (Int.le_refl _) hrest (List.pairwise_cons.1 hasc).2
      refine ⟨(chain_closeGap a n (by omega)).append (.cons rfl (by simp only [Rep.lo, Rep.hi]; omega) hc), ?_⟩
      intro x y hg p hp hx hy
      rcases List.mem_append.1 hg with hg | hg
      · -- the gap before `n` ends at `n`, and nothing stored is below `n`
        have := mem_closeGap hg
        rcases List.mem_cons.1 hp with rfl | hp
        · omega
        · have := hrest p hp; omega
      · rcases List.mem_cons.1 hg with hg | hg
        · cases hg
        · -- a later gap starts above `n` (the chain of the rest)
          have hw := (hc.within).2 _ hg
          rcases List.mem_cons.1 hp with rfl | hp
          · simp only [Rep.lo] at hw hx; omega
          · exact g x y hg p hp hx hy

theorem chain_closeReps (l : List (Int × OutMsg)) (seqNum next : Int) (h1 : seqNum ≤ next) (h2 : ∀ p ∈ l, next ≤ p.1) (h3 : Asc l) :
    Chain seqNum (closeReps (replayReps seqNum next l)) (endOf next l) := (closeReps_spec l seqNum next h1 h2 h3).1

theorem gaps_closeReps (l : List (Int × OutMsg)) (a b : Int) (h1 : a ≤ b) (h2 : ∀ p ∈ l, b ≤ p.1) (h3 : Asc l) :
    ∀ x y, Rep.gap x y ∈ closeReps (replayReps a b l) → ∀ p ∈ l, x ≤ p.1 → p.1 < y → replayable p = false :=
  (closeReps_spec l a b h1 h2 h3).2

/-- the resent messages are exactly the stored application messages the application does not decline, in order -/
theorem msgs_closeReps (l : List (Int × OutMsg)) (a b : Int) :
    (closeReps (replayReps a b l)).filterMap Rep.msg? = l.filter replayable := by
  induction l generalizing a b with
  | nil => simp [replayReps, closeReps, closeGap_msgs]
  | cons p rest ih =>
    obtain ⟨n, m⟩ := p
    rw [closeReps_cons]
    cases hr : replayable (n, m)
    · rw [if_neg Bool.false_ne_true, ih, List.filter_cons_of_neg (by simp [hr])]
    · rw [if_pos rfl, List.filter_cons_of_pos hr, ← ih (n + 1) (n + 1)]
      simp [Rep.msg?, List.filterMap_append, closeGap_msgs]

/-- a message of the reply is a replayable stored message of the range -/
theorem msg_mem_replyReps {st : Store} {b e n : Int} {m : OutMsg} (h : Rep.msg n m ∈ replyReps true st b e) :
    (n, m) ∈ (st.range b e).filter replayable := by
  rw [← msgs_closeReps _ b b]
  refine List.mem_filterMap.2 ⟨Rep.msg n m, ?_, rfl⟩
  unfold replyReps at h
  by_cases hbe : e < b
  · rw [if_pos hbe] at h; cases h
  · rwa [if_neg hbe] at h

theorem range_mem (st : Store) (b e : Int) (p : Int × OutMsg) :
    p ∈ st.range b e ↔ (b ≤ p.1 ∧ p.1 ≤ e ∧ st.lookup p.1 = some p.2) := by
  unfold Store.range
  split
  · simp only [List.not_mem_nil, false_iff]; omega
  · simp only [List.mem_filterMap, List.mem_range, Option.map_eq_some_iff, Int.ofNat_eq_natCast]
    constructor
    · rintro ⟨k, hk, m, hm, rfl⟩
      refine ⟨by simp only; omega, ?_, hm⟩
      simp only; omega
    · rintro ⟨h1, h2, h3⟩
      refine ⟨(p.1 - b).toNat, by omega, p.2, ?_, ?_⟩
      · have : b + ((p.1 - b).toNat : Int) = p.1 := by omega
        rw [this]; exact h3
      · have : b + ((p.1 - b).toNat : Int) = p.1 := by omega
        rw [this]

theorem range_asc (st : Store) (b e : Int) : Asc (st.range b e) := by
  unfold Store.range Asc
  split
  · exact List.Pairwise.nil
  · refine List.Pairwise.filterMap _ ?_ List.pairwise_lt_range
    intro k k' hk p hp q hq
    simp only [Option.map_eq_some_iff, Int.ofNat_eq_natCast] at hp hq
    obtain ⟨_, _, rfl⟩ := hp
    obtain ⟨_, _, rfl⟩ := hq
    simp only; omega

theorem endOf_range (st : Store) (b e : Int) (hbe : b ≤ e) (hall : st.HoldsAll b e) : endOf b (st.range b e) = e + 1 := by
  have hasc := range_asc st b e
  have hmem := range_mem st b e
  obtain ⟨m, hm⟩ := Option.isSome_iff_exists.1 (hall e hbe (Int.le_refl _))
  have he : (e, m) ∈ st.range b e := (hmem (e, m)).2 ⟨hbe, Int.le_refl _, hm⟩
  generalize st.range b e = l at hasc hmem he
  unfold endOf
  cases hl : l.getLast? with
  | none => rw [List.getLast?_eq_none_iff] at hl; subst hl; simp at he
  | some p =>
    simp only
    have hp : p ∈ l := List.mem_of_getLast? hl
    have h1 := ((hmem p).1 hp).2.1
    -- nothing in an ascending list is above its last element
    have h2 : ∀ q ∈ l, q.1 ≤ p.1 := by
      obtain ⟨l', rfl⟩ : ∃ l', l = l' ++ [p] := by
        have := List.getLast?_eq_some_iff.1 hl
        obtain ⟨l', h⟩ := this; exact ⟨l', h⟩
      intro q hq
      rcases List.mem_append.1 hq with hq | hq
      · have := (List.pairwise_append.1 hasc).2.2 q hq p (by simp)
        omega
      · simp only [List.mem_singleton] at hq; subst hq; exact Int.le_refl _
    have := h2 _ he
    simp only at this; omega

theorem rep_out_possDup (r : Rep) : r.out.f.get? 43 = some "Y" ∧ (r.out.f.get? 122).isSome = true := by
  cases r with
  | gap a b => exact ⟨(gapFill_fields a b).2.1, (gapFill_fields a b).2.2.1⟩
  | msg n m => exact ⟨resent_possDup m, resent_origSendingTime m⟩

/-- persistence on ⇒ the store is filed by MsgSeqNum, strictly descending (latest first), all numbers in `[1, sender)`,
    and every number of `[1, sender)` is present -/
def StoredAllInv (p : Bool) (st : Store) : Prop :=
  p = true → 1 ≤ st.sender ∧ st.Filed ∧ st.msgs.Pairwise (fun a b => b.1 < a.1) ∧
    (∀ q ∈ st.msgs, 1 ≤ q.1 ∧ q.1 < st.sender) ∧ st.HoldsAll 1 (st.sender - 1)

theorem storedAllInv_empty (p : Bool) {st : Store} (hs : st.sender = 1) (hm : st.msgs = []) : StoredAllInv p st := by
  intro _
  rw [Store.Filed, Store.HoldsAll, hs, hm]
  exact ⟨Int.le_refl _, (fun _ h => nomatch h), .nil, (fun _ h => nomatch h), fun n h1 h2 => by omega⟩

theorem storedAllInv_closed : StoreClosed StoredAllInv where
  reset := fun p _ _ => storedAllInv_empty p rfl rfl
  save := by
    intro st m h hm _
    obtain ⟨h1, h2, h3, h4, h5⟩ := h rfl
    refine ⟨by simp only; omega, ?_, ?_, ?_, ?_⟩
    · intro q hq
      simp only [List.mem_cons] at hq
      rcases hq with rfl | hq
      · exact hm
      · exact h2 q hq
    · simp only [List.pairwise_cons]
      exact ⟨fun q hq => (h4 q hq).2, h3⟩
    · intro q hq
      simp only [List.mem_cons] at hq
      rcases hq with rfl | hq
      · simp only; omega
      · have := h4 q hq; simp only; omega
    · intro n hn1 hn2
      simp only at hn2
      rw [lookup_cons]
      split
      · rfl
      · exact h5 n hn1 (by omega)
  inc := by intro st _ h; cases h
  target := by
    intro p st n h hp
    exact h hp

theorem verifySelect_emit (s : Sess) (m : InMsg) (a b c : Bool) :
    (verifySelect s m a b c).1 = s ∨ ∃ o, (verifySelect s m a b c).1 = s.emit o := by
  rcases verifySelect_does s m a b c with h | ⟨_, _, h⟩
  · exact .inl h
  · exact .inr ⟨_, by rw [h]⟩

theorem handleResendRequest_eq (s s1 : Sess) (m : InMsg) (b e : Int)
    (hv : verifySelect s m false false true = (s1, none)) (hb : getInt m 7 = .val b) (he : getInt m 16 = .val e) :
    handleResendRequest s m =
      (let s2 := resendMessages (s1.setReplyLast (replyLastOf s1 m)) b (clipEnd s1.cfg s1.store.sender e)
       if (checkTooLow s2 m).isSome then (s2, .inSession)
       else if (checkTooHigh s2 m).isSome then (s2, .inSession)
       else (incrTarget s2, .inSession)) := by
  unfold handleResendRequest
  rw [hv]
  simp only [hb, he]
  rfl

/-- the same with the two number checks as one condition: the next state is `inSession` whatever they say -/
theorem handleResendRequest_ok (s s1 : Sess) (m : InMsg) (b e : Int)
    (hv : verifySelect s m false false true = (s1, none)) (hb : getInt m 7 = .val b) (he : getInt m 16 = .val e) :
    handleResendRequest s m =
      (let s2 := resendMessages (s1.setReplyLast (replyLastOf s1 m)) b (clipEnd s1.cfg s1.store.sender e)
       (if (checkTooLow s2 m).isSome || (checkTooHigh s2 m).isSome then s2 else incrTarget s2, .inSession)) := by
  rw [handleResendRequest_eq s s1 m b e hv hb he]
  dsimp only
  generalize resendMessages _ b _ = s2
  cases (checkTooLow s2 m).isSome <;> cases (checkTooHigh s2 m).isSome <;> rfl

theorem resendMessages_shape (s : Sess) (b e : Int) (ho : s.out = true) (hq : s.toSend = []) :
    resendMessages s b e = { s with log := ((replyPlanR s.replyLast s.cfg.persist s.store b e).map Obs.wire).reverse ++ s.log } := by
  rw [resendMessages_eq]
  cases hp : replyPlanR s.replyLast s.cfg.persist s.store b e with
  | nil => simp [enqAll]
  | cons m rest =>
    rw [enqAll_out s m rest ho]
    simp [Sess.wrote, Sess.keptQueue, hq]

end Qfx.Sess
