/-
  Resynchronisation after a reconnect, no chunking (where that enters: head of LinkReplay), as a chain of LinkReplay's step lemmas.  `phase1`: connect, both Logons,
  one flush per side — each engine is then where `afterLogon` says; `phase2`: the ResendRequests are answered and the replays
  worked off, with gaps on neither, either or both sides.
-/
import Qfx.Lemmas.LinkReplay
namespace Qfx.Link
open Qfx Qfx.Sess

variable {cfgA cfgB : Cfg}

/-- the configurations of the liveness theorems: as for safety, plus the roles, no ResendRequest chunking, and a
    DefaultApplVerID when the transport is FIXT.1.1 (a Logon without it is refused) -/
structure LiveCfg (cfgA cfgB : Cfg) : Prop where
  ok : CfgsOK cfgA cfgB
  ia : cfgA.initiator = true
  ib : cfgB.initiator = false
  cha : cfgA.chunk = 0
  chb : cfgB.chunk = 0
  va : cfgA.bs = 5 → cfgA.applVer ≠ ""
  /-- guarded by A's BeginString: B's is the same (`CfgsOK.bs`) -/
  vb : cfgA.bs = 5 → cfgB.applVer ≠ ""

/-- both engines disconnected, nothing in flight, three numbers of head-room below Go's largest `int`: a Logon, a
    ResendRequest, and the one `logonA` / `logonB` ask to spare -/
structure Down (cfgA cfgB : Cfg) (l : LSt) : Prop where
  inv : LInv cfgA cfgB l
  full : LFull l
  sa : l.a.st = .latent
  sb : l.b.st = .latent
  ea : l.a2b = []
  eb : l.b2a = []
  ba : l.a.store.sender + 3 ≤ maxSeq
  bb : l.b.store.sender + 3 ≤ maxSeq

theorem fits {s k : Int} (h : s + 3 ≤ maxSeq) (hk : k ≤ 3) : s + k ≤ maxSeq :=
  Int.le_trans (Int.add_le_add_left hk s) h

theorem fits0 {s : Int} (h : s + 3 ≤ maxSeq) : s ≤ maxSeq :=
  Int.le_trans (Int.le_add_of_nonneg_right (by decide)) h

theorem le_pred_of_lt {t n k : Int} (h : t < n) (hk : 0 ≤ k) : t ≤ n + k - 1 :=
  Int.le_sub_one_of_lt (Int.lt_of_lt_of_le h (Int.le_add_of_nonneg_right hk))

/-- connect, both Logons delivered, both queues flushed: each engine is where `afterLogon` says — `nX` its next number and `tX`
    its expected number before, the peer's Logon numbered with the peer's next number — and its queue is on the wire -/
theorem phase1 (hl : LiveCfg cfgA cfgB) {l : LSt} (hd : Down cfgA cfgB l) :
    ∃ rrA rrB, (l.a.store.target < l.b.store.sender → IsRR cfgA l.a.store.target rrA ∧ rrA.seq = l.a.store.sender + 1) ∧
      (l.b.store.target < l.a.store.sender → IsRR cfgB l.b.store.target rrB ∧ rrB.seq = l.b.store.sender + 1) ∧
      At cfgA cfgB l (runL l [.connect, .deliver .B, .deliver .A, .flush .A, .flush .B])
        { afterLogon l.a.store.target (l.a.store.sender + 1) l.b.store.sender [] rrA with q := [] }
        { afterLogon l.b.store.target (l.b.store.sender + 1) l.a.store.sender [] rrB with q := [] }
        (afterLogon l.a.store.target (l.a.store.sender + 1) l.b.store.sender [] rrA).q
        (afterLogon l.b.store.target (l.b.store.sender + 1) l.a.store.sender [] rrB).q := by
  have hcf := hl.ok
  have h0 : At cfgA cfgB l l ⟨.latent, l.a.store.target, l.a.store.sender, l.a.toSend, l.a.out⟩
      ⟨.latent, l.b.store.target, l.b.store.sender, l.b.toSend, l.b.out⟩ [] [] := by
    have := At.init hd.inv
    rwa [EV.of, EV.of, hd.sa, hd.sb, hd.ea, hd.eb] at this
  have ba1 : l.a.store.sender + 1 ≤ maxSeq := fits hd.ba (by decide)
  have ba2 : l.a.store.sender + 1 + 1 ≤ maxSeq := by rw [Int.add_assoc]; exact fits hd.ba (by decide)
  have bb2 : l.b.store.sender + 1 + 1 ≤ maxSeq := by rw [Int.add_assoc]; exact fits hd.bb (by decide)
  obtain ⟨mA, hA1, hA2, h1⟩ := h0.connect hcf hl.ia hl.ib ba1 (fits0 hd.bb)
  -- A's Logon reaches B, the acceptor, which answers with its own; that one reaches A, the initiator
  obtain ⟨mB, rrB, hmB, hrB, h2⟩ := h1.logonB hcf hl.chb (fun h5 => hl.va (by rw [hcf.bs]; exact h5)) hA1
    (by rw [hA2]; exact hd.inv.ab.t2) ba1 (fits hd.bb (by decide))
  simp only [hl.ib, hA2, Bool.false_eq_true, if_false] at hrB h2
  obtain ⟨hB1, hB2⟩ := hmB hl.ib
  have fB := afterLogon_facts l.b.store.target (l.b.store.sender + 1) l.a.store.sender [] rrB
  obtain ⟨_, rrA, _, hrA, h3⟩ := h2.logonA hcf hl.cha hl.vb hB1 (by rw [hB2]; exact hd.inv.ba.t2) (by rw [Int.add_assoc]; exact hd.ba)
    (Int.le_trans fB.2.2 bb2)
  simp only [hl.ia, hB2, if_true, Int.add_zero, List.append_nil] at hrA h3
  have fA := afterLogon_facts l.a.store.target (l.a.store.sender + 1) l.b.store.sender [] rrA
  have h4 := h3.flushA hcf fA.1 fA.2.1 (Int.le_trans fA.2.2 ba2) (Int.le_trans fB.2.2 bb2)
  exact ⟨rrA, rrB, hrA, hrB, h4.flushB hcf fB.1 fB.2.1 (Int.le_trans fA.2.2 ba2) (Int.le_trans fB.2.2 bb2)⟩

theorem stAt_resend_fix {n t : Int} (h : t < n) : stAt (.resend [] 0 (n - 1)) t = .resend [] 0 (n - 1) :=
  if_pos (Int.le_sub_one_of_lt h)

theorem stAt_resend_done {n t : Int} (h : n ≤ t) : stAt (.resend [] 0 (n - 1)) t = .inSession :=
  if_neg (Int.not_le.2 (Int.sub_one_lt_of_le h))

def IsDeliver (e : LEv) : Prop := ∃ side, e = .deliver side

theorem isDeliver_replicate (n : Nat) (side : Side) : ∀ e ∈ List.replicate n (LEv.deliver side), IsDeliver e := by
  intro e he; exact ⟨side, (List.mem_replicate.1 he).2⟩

/-- what "settled" means: everything submitted has been delivered in both directions, nothing is in flight, both
    engines are in session -/
structure Settled (cfgA cfgB : Cfg) (l : LSt) : Prop where
  inv : LInv cfgA cfgB l
  db : l.dlvB = l.sentA
  da : l.dlvA = l.sentB
  ea : l.a2b = []
  eb : l.b2a = []
  sa : l.a.st = .inSession
  sb : l.b.st = .inSession

/-- both engines in session, each expecting the other's next number, nothing in flight (whatever is still queued) -/
theorem At.settled {l0 l : LSt} {nA nB : Int} {qa qb : List OutMsg} {oa ob : Bool}
    (h : At cfgA cfgB l0 l ⟨.inSession, nB, nA, qa, oa⟩ ⟨.inSession, nA, nB, qb, ob⟩ [] []) : Settled cfgA cfgB l :=
  ⟨h.live.inv, delivered_all_B h.live.inv ((congrArg EV.t h.b).trans (congrArg EV.n h.a).symm),
    delivered_all_A h.live.inv ((congrArg EV.t h.a).trans (congrArg EV.n h.b).symm), h.a2b, h.b2a, congrArg EV.st h.a, congrArg EV.st h.b⟩

/-- some schedule of deliveries settles the link without submitting anything -/
def Settles (cfgA cfgB : Cfg) (l : LSt) : Prop :=
  ∃ sched, (∀ e ∈ sched, IsDeliver e) ∧ Settled cfgA cfgB (runL l sched) ∧
    (runL l sched).sentA = l.sentA ∧ (runL l sched).sentB = l.sentB

theorem Settles.swap {l : LSt} : Settles cfgB cfgA (swapL l) → Settles cfgA cfgB l := by
  rintro ⟨sched, h1, h2, h3, h4⟩
  have hr : runL (swapL l) sched = swapL (runL l (sched.map swapEv)) := by
    have := runL_swap (sched.map swapEv) l
    rwa [List.map_map, (funext swapEv_swapEv : swapEv ∘ swapEv = id), List.map_id] at this
  rw [hr] at h2 h3 h4
  refine ⟨sched.map swapEv, ?_, ⟨LInv_swap h2.inv, h2.da, h2.db, h2.eb, h2.ea, h2.sb, h2.sa⟩, h4, h3⟩
  intro e he
  obtain ⟨e', he', rfl⟩ := List.mem_map.1 he
  obtain ⟨side, rfl⟩ := h1 e' he'
  exact ⟨swapSide side, rfl⟩

/-- B has a gap and A has none: B's ResendRequest reaches A (in session), A replays, B works the replay off -/
theorem phase2_gapB (hcf : CfgsOK cfgA cfgB) {l0 l : LSt} {nA nB tB : Int} {rr : OutMsg} (hf : LFull l0)
    (h : At cfgA cfgB l0 l ⟨.inSession, nB + 1, nA + 1, [], true⟩ ⟨.resend [] 0 (nA - 1), tB, nB + 1 + 1, [], true⟩ [] [rr])
    (hrr : IsRR cfgB tB rr ∧ rr.seq = nB + 1) (htB : 1 ≤ tB ∧ tB < nA) (bA : nA + 1 ≤ maxSeq) (bB : nB + 1 + 1 ≤ maxSeq) :
    Settles cfgA cfgB l := by
  obtain ⟨plan, sg, c⟩ := h.anchor.rrA hcf tB hrr.1 htB.1 (le_pred_of_lt htB.2 (by decide)) (Or.inl rfl) (Int.le_of_eq hrr.2.symm) bA bB (h.live.full hf)
  rw [if_pos hrr.2] at c
  simp only [List.nil_append] at c
  rw [← List.append_nil plan] at c
  obtain ⟨j, _⟩ := chain_B hcf sg _ [] c (Or.inr ⟨_, rfl⟩) bA bB rfl (stAt_resend_fix htB.2)
  rw [stAt_resend_done (Int.le_add_of_nonneg_right (by decide))] at j
  exact ⟨.deliver .A :: List.replicate plan.length (.deliver .B),
    List.forall_mem_cons.2 ⟨⟨.A, rfl⟩, isDeliver_replicate _ _⟩, j.settled, j.live.sa, j.live.sb⟩

/-- gaps on both sides: both requests are answered first, then both replays are worked off -/
theorem phase2_both (hcf : CfgsOK cfgA cfgB) {l0 l : LSt} {nA nB tA tB : Int} {rrA rrB : OutMsg} (hf : LFull l0)
    (h : At cfgA cfgB l0 l ⟨.resend [] 0 (nB - 1), tA, nA + 1 + 1, [], true⟩ ⟨.resend [] 0 (nA - 1), tB, nB + 1 + 1, [], true⟩ [rrA] [rrB])
    (hA : IsRR cfgA tA rrA ∧ rrA.seq = nA + 1) (hB : IsRR cfgB tB rrB ∧ rrB.seq = nB + 1)
    (htA : 1 ≤ tA ∧ tA < nB) (htB : 1 ≤ tB ∧ tB < nA) (ba : nA + 1 + 1 ≤ maxSeq) (bb : nB + 1 + 1 ≤ maxSeq) : Settles cfgA cfgB l := by
  have nAseq : ¬ rrA.seq = tB := by rw [hA.2]; exact Int.ne_of_gt (Int.lt_add_one_of_le (Int.le_of_lt htB.2))
  have nBseq : ¬ rrB.seq = tA := by rw [hB.2]; exact Int.ne_of_gt (Int.lt_add_one_of_le (Int.le_of_lt htA.2))
  have hf1 := h.live.full hf
  obtain ⟨planB, sB, c⟩ := h.anchor.rrB hcf tA hA.1 htA.1 (le_pred_of_lt (Int.lt_add_one_of_le (Int.le_of_lt htA.2)) (by decide)) (Or.inr ⟨_, rfl⟩)
    (by rw [hA.2]; exact Int.le_add_one (Int.le_of_lt htB.2)) ba bb hf1
  rw [if_neg nAseq, stAt_resend_fix htB.2] at c
  obtain ⟨planA, sA, d⟩ := c.anchor.rrA hcf tB hB.1 htB.1 (le_pred_of_lt (Int.lt_add_one_of_le (Int.le_of_lt htB.2)) (by decide)) (Or.inr ⟨_, rfl⟩)
    (by rw [hB.2]; exact Int.le_add_one (Int.le_of_lt htA.2)) ba bb (c.live.full hf1)
  rw [if_neg nBseq, stAt_resend_fix htA.2] at d
  simp only [List.append_eq, List.nil_append] at d
  rw [← List.append_nil planA] at d
  obtain ⟨j, _⟩ := chain_B hcf sA _ [] d (Or.inr ⟨_, rfl⟩) ba bb rfl (stAt_resend_fix htB.2)
  rw [← List.append_nil planB] at j
  have k := chain_A hcf (sB.mono j.live.gb) _ [] j (Or.inr ⟨_, rfl⟩) ba bb rfl (stAt_resend_fix htA.2)
  have up : ∀ x : Int, x ≤ x + 1 + 1 := fun x => Int.le_trans (Int.le_add_of_nonneg_right (by decide)) (Int.le_add_of_nonneg_right (by decide))
  rw [stAt_resend_done (up nA), stAt_resend_done (up nB), ← runL_append] at k
  refine ⟨.deliver .B :: .deliver .A :: (List.replicate planA.length (.deliver .B) ++ List.replicate planB.length (.deliver .A)),
    List.forall_mem_cons.2 ⟨⟨.B, rfl⟩, List.forall_mem_cons.2 ⟨⟨.A, rfl⟩,
      List.forall_mem_append.2 ⟨isDeliver_replicate _ _, isDeliver_replicate _ _⟩⟩⟩, ?_⟩
  rw [runL_cons, runL_cons]
  exact ⟨k.settled, k.live.sa.trans c.live.sa, k.live.sb.trans c.live.sb⟩

/-- from where `phase1` ends, whatever the gaps -/
theorem phase2 (hcf : CfgsOK cfgA cfgB) {l0 l : LSt} {nA nB tA tB : Int} {rrA rrB : OutMsg} (hf : LFull l0)
    (h : At cfgA cfgB l0 l { afterLogon tA (nA + 1) nB [] rrA with q := [] } { afterLogon tB (nB + 1) nA [] rrB with q := [] }
      (afterLogon tA (nA + 1) nB [] rrA).q (afterLogon tB (nB + 1) nA [] rrB).q)
    (hA : tA < nB → IsRR cfgA tA rrA ∧ rrA.seq = nA + 1) (hB : tB < nA → IsRR cfgB tB rrB ∧ rrB.seq = nB + 1)
    (rA : 1 ≤ tA ∧ tA ≤ nB) (rB : 1 ≤ tB ∧ tB ≤ nA) (bA : nA + 3 ≤ maxSeq) (bB : nB + 3 ≤ maxSeq) : Settles cfgA cfgB l := by
  have ba1 : nA + 1 ≤ maxSeq := fits bA (by decide)
  have bb1 : nB + 1 ≤ maxSeq := fits bB (by decide)
  have ba2 : nA + 1 + 1 ≤ maxSeq := by rw [Int.add_assoc]; exact fits bA (by decide)
  have bb2 : nB + 1 + 1 ≤ maxSeq := by rw [Int.add_assoc]; exact fits bB (by decide)
  rcases Int.lt_or_eq_of_le rA.2 with hAlt | hAeq <;> rcases Int.lt_or_eq_of_le rB.2 with hBlt | hBeq
  · rw [afterLogon, afterLogon, if_neg (Int.ne_of_gt hAlt), if_neg (Int.ne_of_gt hBlt)] at h
    exact phase2_both hcf hf h (hA hAlt) (hB hBlt) ⟨rA.1, hAlt⟩ ⟨rB.1, hBlt⟩ ba2 bb2
  · subst hBeq
    rw [afterLogon, afterLogon, if_neg (Int.ne_of_gt hAlt), if_pos rfl] at h
    exact (phase2_gapB hcf.symm (LFull_swap hf) h.swap (hA hAlt) ⟨rA.1, hAlt⟩ bb1 ba2).swap
  · subst hAeq
    rw [afterLogon, afterLogon, if_pos rfl, if_neg (Int.ne_of_gt hBlt)] at h
    exact phase2_gapB hcf hf h (hB hBlt) ⟨rB.1, hBlt⟩ ba1 bb2
  · subst hAeq hBeq
    rw [afterLogon, afterLogon, if_pos rfl, if_pos rfl] at h
    exact ⟨[], (by intro e he; cases he), h.settled, rfl, rfl⟩

/-- the events of a settling schedule: a reconnect (cut, connect), deliveries, run-loop flushes of the send queue -/
def SettleEv (e : LEv) : Prop := e = .cut ∨ e = .connect ∨ IsDeliver e ∨ ∃ side, e = .flush side

theorem down_of_cut (hcf : CfgsOK cfgA cfgB) {l : LSt} (h : LInv cfgA cfgB l) (hf : LFull l) (ht : InTime l) (hb : Bnd l)
    (hb3 : (lstep l .cut).1.a.store.sender + 3 ≤ maxSeq ∧ (lstep l .cut).1.b.store.sender + 3 ≤ maxSeq) :
    Down cfgA cfgB (lstep l .cut).1 := by
  have hbnd : Bnd (lstep l .cut).1 := ⟨fits0 hb3.1, fits0 hb3.2⟩
  refine ⟨LInv_lstep hcf h .cut trivial hb hbnd, LFull_step hcf h hf .cut, ?_, ?_, rfl, rfl, hb3.1, hb3.2⟩
  · show (step l.a .disconnected).1.st = .latent
    exact step_disconnected_latent l.a ht.1
  · show (step l.b .disconnected).1.st = .latent
    exact step_disconnected_latent l.b ht.2

/-- liveness after a reconnect, no chunking (C05_liveness_reconnect_state): the schedule is cut, `phase1`, `phase2` -/
theorem settle_reconnect (hl : LiveCfg cfgA cfgB) {l : LSt} (h : LInv cfgA cfgB l) (hf : LFull l) (ht : InTime l) (hb : Bnd l)
    (hb3 : (lstep l .cut).1.a.store.sender + 3 ≤ maxSeq ∧ (lstep l .cut).1.b.store.sender + 3 ≤ maxSeq) :
    ∃ sched, (∀ e ∈ sched, SettleEv e) ∧ Settled cfgA cfgB (runL l sched) ∧
      (runL l sched).sentA = l.sentA ∧ (runL l sched).sentB = l.sentB := by
  have hd := down_of_cut hl.ok h hf ht hb hb3
  have hc1 : (lstep l .cut).1.sentA = l.sentA := rfl
  have hc2 : (lstep l .cut).1.sentB = l.sentB := rfl
  generalize hl0 : (lstep l .cut).1 = l0 at hd hc1 hc2
  obtain ⟨rrA, rrB, hA, hB, hm⟩ := phase1 hl hd
  generalize hl5 : runL l0 [.connect, .deliver .B, .deliver .A, .flush .A, .flush .B] = l5 at hm
  obtain ⟨sched2, hs2, hset, t1, t2⟩ := phase2 hl.ok (hm.live.full hd.full) hm.anchor hA hB ⟨hd.inv.ba.t1, hd.inv.ba.t2⟩ ⟨hd.inv.ab.t1, hd.inv.ab.t2⟩ hd.ba hd.bb
  have s1 := hm.live.sa
  have s2 := hm.live.sb
  have hrun : runL l (.cut :: ([.connect, .deliver .B, .deliver .A, .flush .A, .flush .B] ++ sched2)) = runL l5 sched2 := by
    rw [runL_cons, hl0, runL_append, hl5]
  refine ⟨.cut :: ([.connect, .deliver .B, .deliver .A, .flush .A, .flush .B] ++ sched2), ?_, ?_, ?_, ?_⟩
  · intro e he
    rcases List.mem_cons.1 he with rfl | he
    · exact Or.inl rfl
    · rcases List.mem_append.1 he with he | he
      · simp only [List.mem_cons, List.not_mem_nil, or_false] at he
        rcases he with rfl | rfl | rfl | rfl | rfl
        · exact Or.inr (Or.inl rfl)
        · exact Or.inr (Or.inr (Or.inl ⟨.B, rfl⟩))
        · exact Or.inr (Or.inr (Or.inl ⟨.A, rfl⟩))
        · exact Or.inr (Or.inr (Or.inr ⟨.A, rfl⟩))
        · exact Or.inr (Or.inr (Or.inr ⟨.B, rfl⟩))
      · exact Or.inr (Or.inr (Or.inl (hs2 e he)))
  · rw [hrun]; exact hset
  · rw [hrun, t1, s1, hc1]
  · rw [hrun, t2, s2, hc2]

end Qfx.Link
