/- Qfx.Lemmas.Bytes — digits: `fmtNat` / `digitsW` write digits that `digitsVal` reads back; the characters `fmtInt` writes.  At the end, for
   the timestamp reader: slices of a list at absolute offsets (`drop_of_drop_*`, `take_append_drop_add`) and two inversions of `Res`. -/
import Qfx.Model.Bytes
import Qfx.Lemmas.ListFacts
namespace Qfx

theorem isDigit_iff (b : Nat) : isDigit b = true ↔ 48 ≤ b ∧ b ≤ 57 := by simp [isDigit]

theorem digitsVal_foldl_append (l : Bytes) (c : Nat) :
    digitsVal (l ++ [c]) = 10 * digitsVal l + (c - 48) := by
  simp [digitsVal, List.foldl_append]

theorem isDigit_add (d : Nat) (h : d < 10) : isDigit (48 + d) = true := by
  rw [isDigit_iff]; omega

theorem fmtNat_all_digits (n : Nat) : (fmtNat n).all isDigit = true := by
  fun_induction fmtNat n with
  | case1 n h => simp [isDigit_add n h]
  | case2 n h ih => simp only [List.all_append, ih, List.all_cons, List.all_nil, Bool.and_true, Bool.true_and]
                    exact isDigit_add _ (Nat.mod_lt _ (by decide))

theorem fmtNat_ne_nil (n : Nat) : fmtNat n ≠ [] := by
  fun_induction fmtNat n <;> simp

theorem digitsVal_fmtNat (n : Nat) : digitsVal (fmtNat n) = n := by
  fun_induction fmtNat n with
  | case1 n h => simp [digitsVal]
  | case2 n h ih => rw [digitsVal_foldl_append, ih]; omega

theorem digitsW_length (w n : Nat) : (digitsW w n).length = w := by
  induction w generalizing n with
  | zero => simp [digitsW]
  | succ w ih => simp [digitsW, ih]

theorem digitsW_all_digits (w n : Nat) : (digitsW w n).all isDigit = true := by
  induction w generalizing n with
  | zero => simp [digitsW]
  | succ w ih =>
    simp only [digitsW, List.all_append, ih, List.all_cons, List.all_nil, Bool.and_true, Bool.true_and]
    exact isDigit_add _ (Nat.mod_lt _ (by decide))

theorem digitsVal_digitsW (w n : Nat) : digitsVal (digitsW w n) = n % 10 ^ w := by
  induction w generalizing n with
  | zero => simp [digitsW, digitsVal, Nat.mod_one]
  | succ w ih =>
    simp only [digitsW]
    rw [digitsVal_foldl_append, ih, Nat.pow_succ]
    have h1 : 48 + n % 10 - 48 = n % 10 := by omega
    rw [h1, Nat.mul_comm (10 ^ w) 10, Nat.mod_mul]
    omega

theorem digitsVal_digitsW_of_lt (w n : Nat) (h : n < 10 ^ w) : digitsVal (digitsW w n) = n := by
  rw [digitsVal_digitsW, Nat.mod_eq_of_lt h]

private theorem digitsW_digitsVal_rev (l : Bytes) (h : l.all isDigit = true) :
    digitsW l.length (digitsVal l.reverse) = l.reverse := by
  induction l with
  | nil => rfl
  | cons c l ih =>
    simp only [List.all_cons, Bool.and_eq_true] at h
    have hc := (isDigit_iff c).1 h.1
    rw [List.reverse_cons, digitsVal_foldl_append, List.length_cons, digitsW]
    have h1 : (10 * digitsVal l.reverse + (c - 48)) / 10 = digitsVal l.reverse := by omega
    have h2 : 48 + (10 * digitsVal l.reverse + (c - 48)) % 10 = c := by omega
    rw [h1, h2, ih h.2]

theorem digitsW_digitsVal (ds : Bytes) (h : ds.all isDigit = true) : digitsW ds.length (digitsVal ds) = ds := by
  simpa using digitsW_digitsVal_rev ds.reverse (by simpa using h)

theorem fmtNat_of_lt (n : Nat) (h : n < 10) : fmtNat n = [48 + n] := by rw [fmtNat, if_pos h]

theorem fmtNat_of_ge (n : Nat) (h : 10 ≤ n) : fmtNat n = fmtNat (n / 10) ++ [48 + n % 10] := by
  rw [fmtNat, if_neg (by omega)]

theorem fmtNat_chars (n : Nat) : ∀ c ∈ fmtNat n, isDigit c = true :=
  fun c hc => List.all_eq_true.1 (fmtNat_all_digits n) c hc

theorem fmtInt_ofNat (n : Nat) : fmtInt (n : Int) = fmtNat n := by
  unfold fmtInt
  have : ¬ ((n : Int) < 0) := by omega
  simp [this]

theorem fmtInt_ne_nil (v : Int) : fmtInt v ≠ [] := by
  unfold fmtInt; split
  · simp
  · exact fmtNat_ne_nil _

theorem fmtInt_chars (v : Int) : ∀ c ∈ fmtInt v, c ≠ cEq ∧ c ≠ SOH := by
  intro c hc
  unfold fmtInt at hc
  have dig : ∀ x, isDigit x = true → x ≠ cEq ∧ x ≠ SOH := by
    intro x hx; have := (isDigit_iff x).1 hx; unfold cEq SOH; omega
  split at hc
  · rcases List.mem_cons.1 hc with e | h
    · subst e; decide
    · exact dig c (fmtNat_chars _ c h)
  · exact dig c (fmtNat_chars _ c hc)

theorem pow10_pos (k : Nat) : 0 < 10 ^ k := Nat.pow_pos (by decide)

theorem foldl_digits_shift (y : Bytes) (acc : Nat) :
    y.foldl (fun a c => 10 * a + (c - 48)) acc = acc * 10 ^ y.length + y.foldl (fun a c => 10 * a + (c - 48)) 0 := by
  induction y generalizing acc with
  | nil => simp
  | cons c cs ih =>
    simp only [List.foldl_cons, List.length_cons]
    rw [ih (10 * acc + (c - 48)), ih (10 * 0 + (c - 48))]
    simp only [Nat.mul_zero, Nat.zero_add, Nat.pow_succ]
    rw [Nat.add_mul, Nat.add_assoc]
    congr 1
    rw [Nat.mul_comm 10 acc, Nat.mul_assoc, Nat.mul_comm 10 (10 ^ cs.length)]

theorem digitsVal_append (x y : Bytes) : digitsVal (x ++ y) = digitsVal x * 10 ^ y.length + digitsVal y := by
  unfold digitsVal
  rw [List.foldl_append, foldl_digits_shift]

theorem all_digit_ne (l : Bytes) (h : l.all isDigit = true) (c : Nat) (hc : c < 48) : c ∉ l := by
  intro hm
  have := List.all_eq_true.1 h c hm
  have := (isDigit_iff c).1 this
  omega

theorem fmtNat_no (n c : Nat) (hc : c < 48) : c ∉ fmtNat n := all_digit_ne _ (fmtNat_all_digits n) c hc
theorem digitsW_no (w n c : Nat) (hc : c < 48) : c ∉ digitsW w n := all_digit_ne _ (digitsW_all_digits w n) c hc

theorem drop_of_drop_append {α} {l a r : List α} {i k j : Nat} (h : l.drop i = a ++ r) (hk : a.length = k) (hj : j = i + k) :
    l.drop j = r := by
  rw [hj, ← List.drop_drop, h, List.drop_left' hk]

theorem drop_of_drop_cons {α} {l r : List α} {x : α} {i j : Nat} (h : l.drop i = x :: r) (hj : j = i + 1) : l.drop j = r := by
  rw [hj, ← List.drop_drop, h]; rfl

theorem take_append_drop_add {α} (l : List α) (i n j : Nat) (h : j = i + n) : (l.drop i).take n ++ l.drop j = l.drop i := by
  rw [h, ← List.drop_drop, List.take_append_drop]

theorem headD_cons_drop_succ {α} (l : List α) (i j : Nat) (a : α) (hj : j = i + 1) (h : i < l.length) :
    (l.drop i).headD a :: l.drop j = l.drop i := by
  rw [hj, ← List.drop_drop]
  cases hd : l.drop i with
  | nil => simp at hd; omega
  | cons x r => simp

theorem Res.of_ite_err_eq_ok {α} {c : Prop} [Decidable c] {e : String} {r : Res α} {v : α}
    (h : (if c then .err e else r) = .ok v) : ¬c ∧ r = .ok v := by
  by_cases hc : c
  · rw [if_pos hc] at h; cases h
  · rw [if_neg hc] at h; exact ⟨hc, h⟩

theorem Res.isOk_iff {α} {r : Res α} : r.isOk = true ↔ ∃ v, r = .ok v := by
  cases r <;> simp [Res.isOk]

end Qfx
