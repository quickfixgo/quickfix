/- C11: messages carrying XMLData (213) with its length (212): the length-driven extraction and the whole parse — the fields up to
   CheckSum are one chain of the moves `XStep` (a plain field, XMLDataLen, the XMLData field cut off by that length; `xml_iter`) -/
import Qfx.Lemmas.CodecDictGroup
namespace Qfx
open Qfx.Spec

variable {d : Dicts}

/-- an XMLData field on the wire: `<tagText>=<data>␁` where the data may contain any byte (SOH included) -/
def IsXmlWire (tv : TagValue) : Prop :=
  ∃ tt : Bytes, tt ≠ [] ∧ (∀ c ∈ tt, c ≠ cEq ∧ c ≠ SOH) ∧ atoi tt = .ok tv.tag ∧ tv.bytes = tt ++ cEq :: (tv.value ++ [SOH])

theorem parse_xml_wire (tv : TagValue) (h : IsXmlWire tv) : TagValue.parse tv.bytes = .ok tv := by
  obtain ⟨tt, hne, hchars, hatoi, hbytes⟩ := h
  exact parse_field tv tt hne hchars hatoi hbytes

theorem extractXML_wire (fx : Fixes) (tv : TagValue) (rest : Bytes) (h : IsXmlWire tv) (n : Int) (hn : n = (tv.value.length : Int)) :
    extractXMLDataField fx (tv.bytes ++ rest) n = (rest, .ok tv) := by
  have hp := parse_xml_wire tv h
  obtain ⟨tt, hne, hchars, hatoi, hbytes⟩ := h
  have hidx : indexByte (tv.bytes ++ rest) cEq = some tt.length := by
    have e : tv.bytes ++ rest = tt ++ cEq :: (tv.value ++ [SOH] ++ rest) := by rw [hbytes]; simp
    rw [e]; exact indexByte_append_first tt _ cEq (fun x hx => (hchars x hx).1)
  have hlen : tv.bytes.length = tt.length + 1 + tv.value.length + 1 := by rw [hbytes]; simp; omega
  unfold extractXMLDataField
  rw [hidx]
  simp only []
  have hk : ((tt.length : Int) + n + 1 + 1).toNat = tv.bytes.length := by rw [hn, hlen]; omega
  have hc : ¬ ((tt.length : Int) + n + 1 + 1 > ((tv.bytes ++ rest).length : Int) ∨ (tt.length : Int) + n + 1 < 0) := by
    rw [hn]; simp only [List.length_append, hlen]; omega
  simp only [hc, if_false, hk]
  simp [hp]

theorem isHeader_static (t : Tag) (h : Tag.isHeader t = true) : isHeaderField d t = true := by simp [isHeaderField, h]

theorem tailStep_212 (fields : List TagValue) (tv : TagValue) (c : PCore) (h212 : tv.tag = 212) (n : Int)
    (hget : c.header.getInt fields 212 = .ok n) :
    tailStep fields tv c = .ok ({ (plainTail c) with xmlDataLen := n }, false) := by
  by_cases hfb : c.foundBody = true
  · simp [tailStep, plainTail, xmlLenOf, h212, hfb, hget]
  · simp [tailStep, plainTail, xmlLenOf, h212, hfb, hget]

/-- the XMLDataLen field: a header field; the loop remembers its value for the next field -/
theorem parseLoop_step_212 (fx : Fixes) (fields : List TagValue) (idx : Nat) (c : PCore) (tv : TagValue) (raw' : Bytes) (n : Int)
    (hidx : idx < fields.length) (hx : c.xmlDataLen = 0) (hex : extractField c.rawBytes = (raw', .ok tv))
    (h212 : tv.tag = 212) (hn : atoi tv.value = .ok n) :
    parseLoop fx d .main fields idx c =
      parseLoop fx d .main (fields.set idx tv) (idx + 1)
        { (plainTail { c with rawBytes := raw', header := c.header.add tv.tag (.view idx 1) }) with xmlDataLen := n } := by
  rw [parseLoop]
  have hh : isHeaderField d tv.tag = true := isHeader_static _ (by rw [h212]; decide)
  have hget : ({ c with rawBytes := raw', header := c.header.add tv.tag (.view idx 1) } : PCore).header.getInt (fields.set idx tv) 212 = .ok n := by
    have hf : alFind (c.header.add tv.tag (.view idx 1)).lookup 212 = some (.view idx 1) := by
      simp only [FieldMap.add]; rw [h212]; exact alFind_insert_self _ _ _
    have hb := getBytes_view (c.header.add tv.tag (.view idx 1)) (fields.set idx tv) 212 idx tv hf (by simp [hidx])
    simp [FieldMap.getInt, hb, hn]
  have hx' : ¬ c.xmlDataLen > 0 := by rw [hx]; decide
  simp only [hidx, dite_true, hx', if_false, hex, mainSwitch, hh, if_true,
    tailStep_212 _ _ _ h212 n hget]

theorem parseLoop_step_213 (fx : Fixes) (fields : List TagValue) (idx : Nat) (c : PCore) (tv : TagValue) (rest : Bytes)
    (hidx : idx < fields.length) (hn : c.xmlDataLen = (tv.value.length : Int)) (hpos : 0 < tv.value.length)
    (hraw : c.rawBytes = tv.bytes ++ rest) (hw : IsXmlWire tv) (h213 : tv.tag = 213) :
    parseLoop fx d .main fields idx c =
      parseLoop fx d .main (fields.set idx tv) (idx + 1)
        (plainTail { c with xmlDataLen := 0, xmlDataMsg := true, rawBytes := rest, header := c.header.add tv.tag (.view idx 1) }) := by
  rw [parseLoop]
  have hh : isHeaderField d tv.tag = true := isHeader_static _ (by rw [h213]; decide)
  have hgt : c.xmlDataLen > 0 := by rw [hn]; omega
  have hex := extractXML_wire fx tv rest hw c.xmlDataLen hn
  rw [← hraw] at hex
  have h10 : tv.tag ≠ 10 := by rw [h213]; decide
  have h212 : tv.tag ≠ 212 := by rw [h213]; decide
  simp only [hidx, dite_true, hgt, if_true, hex, mainSwitch, hh, tailStep_nd _ _ _ h10 h212]

theorem countByte_xml (tv : TagValue) (h : IsXmlWire tv) : countByte tv.bytes SOH = countByte tv.value SOH + 1 := by
  obtain ⟨tt, _, hchars, _, hbytes⟩ := h
  rw [hbytes, countByte_field tt _ hchars]

/-- the moves of the main loop on a message that carries XMLData: the ghost state holds the announced length while it is pending (else 0),
    and whether XMLData has been seen -/
inductive XStep (d : Dicts) : Nat × Bool → TagValue → Nat × Bool → Prop where
  | plain {b : Bool} {tv : TagValue} : IsWire tv → tv.tag ≠ 10 → tv.tag ≠ 212 → tv.tag ≠ 9 → NoGroupTag d tv.tag → XStep d (0, b) tv (0, b)
  | len {b : Bool} {tv : TagValue} {n : Nat} : IsWire tv → tv.tag = 212 → atoi tv.value = .ok (n : Int) → XStep d (0, b) tv (n, b)
  | data {b : Bool} {tv : TagValue} : IsXmlWire tv → tv.tag = 213 → 0 < tv.value.length → XStep d (tv.value.length, b) tv (0, true)

/-- what the main loop keeps: the pending XMLData length, BodyLength where it was filed, whether XMLData has been seen -/
def XI (g : Nat × Bool) (mode : Mode) (_ : List TagValue) (_ : Nat) (c : PCore) : Prop :=
  mode = .main ∧ c.xmlDataLen = (g.1 : Int) ∧ alFind c.header.lookup 9 = some (.view 1 1) ∧ c.xmlDataMsg = g.2

theorem xml_iter (fx : Fixes) : Advances fx d XI (XStep d) := by
  intro g tv g' hT mode fields idx c raw' hI hidx hraw
  -- a header field other than BodyLength leaves the BodyLength entry alone
  have keep9 : ∀ (c0 : PCore), tv.tag ≠ 9 → alFind c.header.lookup 9 = some (.view 1 1) → c0.header = c.header.add tv.tag (.view idx 1) →
      alFind (plainTail c0).header.lookup 9 = some (.view 1 1) := by
    intro c0 h9 hn e
    rw [(plainTail_raw _).2.2.2.1, e, FieldMap.find_add_other _ _ _ h9]; exact hn
  cases hT with
  | @plain b tv hw h10 h212 h9 hng =>
    obtain ⟨rfl, hx, hn, hb⟩ := hI
    obtain ⟨t1, t2, t3, t4, _, _⟩ := plainTail_raw (plainSwitch d idx tv { c with rawBytes := raw' })
    obtain ⟨w1, w2, w3⟩ := plainSwitch_raw (d := d) idx tv { c with rawBytes := raw' }
    exact ⟨.main, _, parseLoop_back fx .main fields idx c _ tv raw' hidx hx (by rw [hraw]; exact extractField_wire tv raw' hw)
        (by simp only [switchOf]; rw [mainSwitch_plain _ _ _ _ _ hng]) h10 h212,
      ⟨rfl, by rw [t2, w2]; exact hx, by rw [t4, plainSwitch_header_find _ _ _ _ h9]; exact hn, by rw [t3, w3]; exact hb⟩, by rw [t1, w1]⟩
  | @len b tv n hw h212 hlen =>
    obtain ⟨rfl, hx, hn, hb⟩ := hI
    exact ⟨.main, _, parseLoop_step_212 (d := d) fx fields idx c tv raw' n hidx hx (by rw [hraw]; exact extractField_wire tv raw' hw) h212 hlen,
      ⟨rfl, rfl, keep9 _ (by rw [h212]; decide) hn rfl,
        by rw [show (_ : PCore).xmlDataMsg = (plainTail _).xmlDataMsg from rfl, (plainTail_raw _).2.2.1]; exact hb⟩,
      (plainTail_raw _).1⟩
  | @data b tv hw h213 hpos =>
    obtain ⟨rfl, hx, hn, _⟩ := hI
    exact ⟨.main, _, parseLoop_step_213 (d := d) fx fields idx c tv raw' hidx hx hpos hraw hw h213,
      ⟨rfl, (plainTail_raw _).2.1, keep9 _ (by rw [h213]; decide) hn rfl, (plainTail_raw _).2.2.1⟩, (plainTail_raw _).1⟩

theorem plain_chain {b : Bool} {l : List TagValue} (h : PlainFields d l) : Chain (XStep d) (0, b) l (0, b) :=
  Chain.of_forall _ l fun tv htv =>
    let ⟨hw, h10, h212, h9, _, hng⟩ := h tv htv; .plain hw h10 h212 h9 hng

/-- parse of a message carrying XMLData with its length: `8, 9, 35, plain…, 212=<n>, 213=<n bytes, any bytes>, plain…, 10`; `bl` is ANY
    integer (no length comparison once XMLData was seen), `m.fields` ends in one zero entry per SOH inside the data -/
theorem parse_xml (fx : Fixes) (t8 t9 t35 x212 x213 t10 : TagValue) (preA postB : List TagValue) (bl : Int)
    (hw8 : IsWire t8) (hw9 : IsWire t9) (hw35 : IsWire t35) (hw10 : IsWire t10)
    (h8 : t8.tag = 8) (h9 : t9.tag = 9) (h35 : t35.tag = 35) (h10 : t10.tag = 10)
    (hpre : PlainFields d preA) (hpost : PlainFields d postB)
    (hw212 : IsWire x212) (h212 : x212.tag = 212) (hlen : atoi x212.value = .ok (x213.value.length : Int)) (hpos : 0 < x213.value.length)
    (hw213 : IsXmlWire x213) (h213 : x213.tag = 213)
    (hh10 : isHeaderField d 10 = false) (hbl : atoi t9.value = .ok bl) :
    ∃ m, parseMessage fx d (wireOf (t8 :: t9 :: t35 :: (preA ++ x212 :: x213 :: (postB ++ [t10])))) = .ok m ∧
      m.fields = t8 :: t9 :: t35 :: (preA ++ x212 :: x213 :: (postB ++ [t10])) ++ List.replicate (countByte x213.value SOH) TagValue.zero ∧
      m.raw = some (wireOf (t8 :: t9 :: t35 :: (preA ++ x212 :: x213 :: (postB ++ [t10])))) := by
  have hcount : countByte (wireOf (t8 :: t9 :: t35 :: (preA ++ x212 :: x213 :: (postB ++ [t10])))) SOH =
      ((preA ++ x212 :: x213 :: (postB ++ [t10])).length + countByte x213.value SOH) + 3 := by
    have hcA : countByte (wireOf (t8 :: t9 :: t35 :: preA)) SOH = preA.length + 3 :=
      countByte_wireOf _ (List.forall_mem_cons.2 ⟨hw8, List.forall_mem_cons.2 ⟨hw9, List.forall_mem_cons.2 ⟨hw35, fun tv h => (hpre tv h).1⟩⟩⟩)
    have hcB : countByte (wireOf (postB ++ [t10])) SOH = postB.length + 1 := by
      rw [countByte_wireOf _ (List.forall_mem_append.2 ⟨fun tv h => (hpost tv h).1, List.forall_mem_singleton.2 hw10⟩), List.length_append]; rfl
    rw [show wireOf (t8 :: t9 :: t35 :: (preA ++ x212 :: x213 :: (postB ++ [t10]))) =
        wireOf (t8 :: t9 :: t35 :: preA) ++ (x212.bytes ++ (x213.bytes ++ wireOf (postB ++ [t10]))) by simp [wireOf],
      countByte_append, countByte_append, countByte_append, hcA, hcB, countByte_wire x212 hw212, countByte_xml x213 hw213]
    simp; omega
  rw [parseMessage_lead fx t8 t9 t35 _ _ hw8 hw9 hw35 h8 h9 h35 hcount,
    show preA ++ x212 :: x213 :: (postB ++ [t10]) = (preA ++ x212 :: x213 :: postB) ++ [t10] by simp, wireOf_append]
  clear hcount
  generalize countByte x213.value SOH = k
  have hch : Chain (XStep d) (0, false) (preA ++ x212 :: x213 :: postB) (0, true) :=
    (plain_chain hpre).trans (.cons (.len hw212 h212 hlen) (.cons (.data hw213 h213 hpos) (plain_chain hpost)))
  obtain ⟨_, c4, e4, ⟨rfl, hx4, hn4, hm4⟩, hraw4⟩ := loop_chain (xml_iter (d := d) fx) hch .main
    ([t8, t9, t35] ++ List.replicate (((preA ++ x212 :: x213 :: postB) ++ [t10]).length + k) TagValue.zero) 3
    (plainInit t8 t9 t35 (wireOf (preA ++ x212 :: x213 :: postB) ++ wireOf [t10])) (wireOf [t10])
    ⟨rfl, rfl, (plainInit_find t8 t9 t35 _ h8 h9 h35).2.1, rfl⟩ rfl
    (by simp only [List.length_append, List.length_cons, List.length_nil, List.length_replicate]; omega)
  -- CheckSum; the length comparison is skipped, BodyLength must still be an integer
  rw [e4, parseLoop_checksum (d := d) fx _ _ c4 t10 [] (by rw [setRange_length]; simp; omega) hx4 hw10 h10 hh10
      (by rw [hraw4]; simp [wireOf]), setRange_snoc]
  have hsr := setRange_replicate_add TagValue.zero k ((preA ++ x212 :: x213 :: postB) ++ [t10]) [t8, t9, t35]
  simp only [List.length_cons, List.length_nil] at hsr
  rw [hsr, finish_pass _ { c4 with rawBytes := [], trailer := _, foundTrailer := true } t9 bl hn4 (by simp) hbl (.inr hm4)]
  exact ⟨_, rfl, by simp [msgOf], rfl⟩

end Qfx
