/- C09 (codec part): the parser never faults after the fixes of D2 / D3 — every Go index and slice expression of the parse path is
   in range.  One walk of the parse loop carries the range invariant of the three sections (`SecsOK`); that the parser is total and
   that the getters are total on a parsed message are both read off it.  Last: `RepeatingGroup.Read` does not fault. -/
import Qfx.Lemmas.CodecParse
import Qfx.Lemmas.Values
namespace Qfx

def NoFault {α} (r : Res α) : Prop := ∀ w, r ≠ .fault w

theorem noFault_iff {α} (r : Res α) : NoFault r ↔ r.isFault = false := by
  cases r <;> simp [NoFault, Res.isFault]

theorem NoFault.ok {α} (a : α) : NoFault (Res.ok a) := fun _ h => nomatch h

theorem NoFault.err {α} (e : String) : NoFault (Res.err e : Res α) := fun _ h => nomatch h

theorem atoi_nofault (b : Bytes) : NoFault (atoi b) := (noFault_iff _).2 (atoi_not_fault b)

/-- `findSep` answers with a position of `=` behind the first byte, or with an error -/
theorem findSep_elim {P : Res Nat → Prop} (raw : Bytes)
    (found : ∀ s, raw[s]? = some cEq → 1 ≤ s → P (.ok s)) (miss : ∀ e, P (.err e)) : P (findSep raw) := by
  have step : ∀ (i : Nat) (rest : Option Nat) (s : Nat), 1 ≤ i → (rest = some s → P (.ok s)) →
      (if raw[i]? = some cEq then some i else rest) = some s → P (.ok s) := by
    intro i rest s hi hr
    split
    · intro e; cases e; exact found _ ‹_› hi
    · exact hr
  unfold findSep
  simp only []
  split
  · rename_i s hfast
    by_cases h5 : raw.length ≥ 5
    · rw [if_pos h5] at hfast
      exact step 1 _ s (by omega) (step 2 _ s (by omega) (step 3 _ s (by omega) (step 4 _ s (by omega) (fun e => by cases e)))) hfast
    · rw [if_neg h5] at hfast; cases hfast
  · cases hi : indexByte raw cEq with
    | none => exact miss _
    | some k =>
      cases k with
      | zero => exact miss _
      | succ k => exact found _ (indexByte_spec raw cEq _ hi).1 (by omega)

theorem findSep_spec (raw : Bytes) (s : Nat) (h : findSep raw = .ok s) : raw[s]? = some cEq ∧ 1 ≤ s := by
  revert h
  exact findSep_elim (P := fun r => r = .ok s → _) raw (fun _ h1 h2 e => by cases e; exact ⟨h1, h2⟩) (fun _ e => by cases e)

theorem sliceR_ok {α} (b : List α) (lo hi : Nat) (h : lo ≤ hi ∧ hi ≤ b.length) : sliceR b lo hi = .ok ((b.take hi).drop lo) := by
  unfold sliceR; rw [if_pos h]

/-- `parse` does not fault when the first `=` of the slice is not its last byte -/
theorem parse_nofault (raw : Bytes)
    (h : ∀ s, raw[s]? = some cEq → (∀ j, j < s → raw[j]? ≠ some cEq) → s + 1 ≤ raw.length - 1) : NoFault (TagValue.parse raw) := by
  unfold TagValue.parse
  split
  · exact .err _
  · rename_i x hs; exact absurd hs (findSep_elim (P := NoFault) raw (fun _ _ _ => .ok _) (fun _ => .err _) x)
  · rename_i s hs
    obtain ⟨hat, hpos⟩ := findSep_spec raw s hs
    have hlt : s < raw.length := by
      rcases Nat.lt_or_ge s raw.length with h1 | h1
      · exact h1
      · rw [List.getElem?_eq_none_iff.2 h1] at hat; cases hat
    rw [sliceR_ok raw 0 s ⟨by omega, by omega⟩]
    simp only [List.drop_zero]
    split
    · exact .err _
    · rename_i x ha; exact absurd ha (atoi_nofault _ x)
    · rename_i tag ha
      -- `findSep` may answer with a later `=` (it looks at 1..4 before 0); the tag text then holds a `=` and `atoi` rejects it
      have hfirst : ∀ j, j < s → raw[j]? ≠ some cEq := by
        intro j hj hc
        have : raw[j]? = (raw.take s)[j]? := by rw [List.getElem?_take]; simp [hj]
        rw [this] at hc
        exact atoi_ok_no_eq _ tag ha cEq (List.mem_of_getElem? hc) rfl
      rw [sliceR_ok raw (s + 1) (raw.length - 1) ⟨h s hat hfirst, by omega⟩]
      exact .ok _

theorem indexByte_lt (b : Bytes) (c e : Nat) (h : indexByte b c = some e) : e < b.length := by
  have := (indexByte_spec b c e h).1
  rcases Nat.lt_or_ge e b.length with h1 | h1
  · exact h1
  · rw [List.getElem?_eq_none_iff.2 h1] at this; cases this

theorem extractField_nofault (b : Bytes) : NoFault (extractField b).2 := by
  unfold extractField
  split
  · exact .err _
  · rename_i e he
    have hlt := indexByte_lt b SOH e he
    rw [sliceR_ok b 0 (e + 1) ⟨by omega, by omega⟩]
    simp only [List.drop_zero]
    apply parse_nofault
    intro s hs _
    have hlen : (b.take (e + 1)).length = e + 1 := by simp; omega
    have hse : s < e + 1 := by
      rcases Nat.lt_or_ge s (b.take (e + 1)).length with h1 | h1
      · omega
      · rw [List.getElem?_eq_none_iff.2 h1] at hs; cases hs
    have hne : s ≠ e := by
      intro e'
      subst e'
      have h1 : (b.take (s + 1))[s]? = b[s]? := by rw [List.getElem?_take]; simp
      rw [h1, (indexByte_spec b SOH s he).1] at hs
      injection hs with hs; exact absurd hs (by decide)
    rw [hlen]; omega

theorem extractXML_nofault (b : Bytes) (n : Int) (hn : n > 0) : NoFault (extractXMLDataField Fixes.cur b n).2 := by
  unfold extractXMLDataField
  split
  · exact .err _
  · rename_i e he
    simp only []
    split
    · exact .err _
    · rename_i hc
      have hlt := indexByte_lt b cEq e he
      apply parse_nofault
      intro s hs hfirst
      have hlen : (b.take ((e : Int) + n + 1 + 1).toNat).length = ((e : Int) + n + 1 + 1).toNat := by simp; omega
      have hse : s ≤ e := by
        rcases Nat.lt_or_ge e s with h1 | h1
        · exfalso
          apply hfirst e h1
          rw [List.getElem?_take]; simp [show e < ((e : Int) + n + 1 + 1).toNat by omega]
          exact (indexByte_spec b cEq e he).1
        · exact h1
      rw [hlen]; omega

/-- every header field is a one-element view inside the field array -/
def HdrOK (fields : List TagValue) (hd : FieldMap) : Prop :=
  ∀ k f, alFind hd.lookup k = some f → ∃ s, f = .view s 1 ∧ s < fields.length

/-- every field of the map is a non-empty view inside the field array -/
def ViewsOK (fields : List TagValue) (fm : FieldMap) : Prop :=
  ∀ k f, alFind fm.lookup k = some f → ∃ s n, f = .view s n ∧ 1 ≤ n ∧ s + n ≤ fields.length

structure SecsOK (fields : List TagValue) (c : PCore) : Prop where
  h : HdrOK fields c.header
  b : ViewsOK fields c.body
  t : ViewsOK fields c.trailer

/-- inside `parseGroup` the group's first field lies before the current index -/
def ModeOK (idx : Nat) : Mode → Prop
  | .main => True
  | .grp dmStart _ _ => dmStart < idx

theorem HdrOK.set {fields : List TagValue} {hd : FieldMap} (h : HdrOK fields hd) (i : Nat) (tv : TagValue) :
    HdrOK (fields.set i tv) hd := by
  intro k f hf; obtain ⟨s, h1, h2⟩ := h k f hf; exact ⟨s, h1, by simpa using h2⟩

theorem HdrOK.add {fields : List TagValue} {hd : FieldMap} (h : HdrOK fields hd) (t : Tag) (idx : Nat) (hi : idx < fields.length) :
    HdrOK fields (hd.add t (.view idx 1)) :=
  alFind_insert_all h ⟨idx, rfl, hi⟩

theorem HdrOK.empty (fields : List TagValue) (o : OrdKind) : HdrOK fields (FieldMap.empty o) := by
  intro k f hf; cases hf

theorem ViewsOK.set {fields : List TagValue} {fm : FieldMap} (h : ViewsOK fields fm) (i : Nat) (tv : TagValue) :
    ViewsOK (fields.set i tv) fm := by
  intro k f hf; obtain ⟨s, n, h1, h2, h3⟩ := h k f hf; exact ⟨s, n, h1, h2, by simpa using h3⟩

theorem ViewsOK.add {fields : List TagValue} {fm : FieldMap} (h : ViewsOK fields fm) (t : Tag) (s n : Nat) (h1 : 1 ≤ n)
    (h2 : s + n ≤ fields.length) : ViewsOK fields (fm.add t (.view s n)) :=
  alFind_insert_all h ⟨s, n, rfl, h1, h2⟩

theorem ViewsOK.empty (fields : List TagValue) (o : OrdKind) : ViewsOK fields (FieldMap.empty o) := by
  intro k f hf; cases hf

theorem ViewsOK.ofHdr {fields : List TagValue} {fm : FieldMap} (h : HdrOK fields fm) : ViewsOK fields fm := by
  intro k f hf; obtain ⟨s, h1, h2⟩ := h k f hf; exact ⟨s, 1, h1, by omega, by omega⟩

theorem SecsOK.set {fields : List TagValue} {c : PCore} (h : SecsOK fields c) (i : Nat) (tv : TagValue) : SecsOK (fields.set i tv) c :=
  ⟨h.h.set i tv, h.b.set i tv, h.t.set i tv⟩

theorem head_view_ok (fields : List TagValue) (s n : Nat) (h1 : 1 ≤ n) (h2 : s + n ≤ fields.length) :
    ∃ tv, Field.head fields (.view s n) = .ok tv := by
  have hlt : s < fields.length := by omega
  have hne : ((fields.drop s).take n)[0]? = some (fields[s]'hlt) := by
    rw [List.getElem?_take]; simp [List.getElem?_eq_getElem hlt]; omega
  exact ⟨fields[s]'hlt, by simp [Field.head, Field.items, idxR, hne]⟩

theorem getBytes_nofault {fields : List TagValue} {fm : FieldMap} (h : ViewsOK fields fm) (t : Tag) : NoFault (fm.getBytes fields t) := by
  unfold FieldMap.getBytes
  split
  · exact .err _
  · rename_i f hf
    obtain ⟨s, n, rfl, h1, h2⟩ := h t f hf
    obtain ⟨tv, htv⟩ := head_view_ok fields s n h1 h2
    simp only [htv]; exact .ok _

theorem getInt_nofault {fields : List TagValue} {fm : FieldMap} (h : ViewsOK fields fm) (t : Tag) : NoFault (fm.getInt fields t) := by
  -- case1: the value; case3 / case5: `atoi` / `getBytes` faults
  fun_cases FieldMap.getInt fields fm t with
  | case1 => exact .ok _
  | case3 _ _ x ha => exact absurd ha (atoi_nofault _ x)
  | case5 x hb => exact absurd hb (getBytes_nofault h t x)
  | _ => exact .err _

theorem getInt_nofault_hdr {fields : List TagValue} {hd : FieldMap} (h : HdrOK fields hd) (t : Tag) : NoFault (hd.getInt fields t) :=
  getInt_nofault (ViewsOK.ofHdr h) t

/-- the claim carried along the loop: the result is no fault, and a returned state keeps the range invariant -/
def LoopOK (r : Res (List TagValue × PCore)) : Prop := NoFault r ∧ ∀ x, r = .ok x → SecsOK x.1 x.2

theorem LoopOK.err (e : String) : LoopOK (.err e) := ⟨.err e, fun _ h => (by cases h)⟩

theorem LoopOK.cases {r : Res (List TagValue × PCore)} (h : LoopOK r) : (∃ e, r = .err e) ∨ ∃ fs c, r = .ok (fs, c) ∧ SecsOK fs c := by
  cases r with
  | err e => exact Or.inl ⟨e, rfl⟩
  | fault w => exact absurd rfl (h.1 w)
  | ok x => exact Or.inr ⟨x.1, x.2, rfl, h.2 x rfl⟩

theorem finishParse_ok (fields : List TagValue) (c : PCore) (h : SecsOK fields c) : LoopOK (finishParse fields c) := by
  obtain ⟨k1, _, k3, k4⟩ := finishAdjust_keeps c
  -- case2: the one `.ok` leaf; case4: `getInt` faults
  fun_cases finishParse fields c with
  | case2 c2 bl _ _ => exact ⟨.ok _, fun x hx => by cases hx; exact ⟨by rw [k1]; exact h.h, by rw [k3]; exact h.b, by rw [k4]; exact h.t⟩⟩
  | case4 c2 x hg => exact absurd hg (getInt_nofault_hdr (k1 ▸ h.h) 9 x)
  | _ => exact LoopOK.err _

/-- the four things the `switch` of the main loop can do with the field at `idx` -/
theorem mainSwitch_elim {P : PCore × Option Mode → Prop} (fx : Fixes) (d : Dicts) (fields : List TagValue) (idx : Nat) (tv : TagValue)
    (c : PCore)
    (hdr : P ({ c with header := c.header.add tv.tag (.view idx 1) }, none))
    (trl : P ({ c with trailer := c.trailer.add tv.tag (.view idx 1), foundTrailer := true }, none))
    (grp : ∀ gf, P ({ c with foundBody := true, trailerBytes := if fx.d7 then c.rawBytes else c.trailerBytes },
      some (.grp idx [tv.tag] gf)))
    (body : P ({ c with foundBody := true, trailerBytes := c.rawBytes, body := c.body.add tv.tag (.view idx 1) }, none)) :
    P (mainSwitch fx d fields idx tv c) :=
  iteInduction (fun _ => hdr) (fun _ => iteInduction (fun _ => trl) (fun _ => iteInduction (fun _ => grp _) (fun _ => body)))

theorem mainSwitch_secs (fx : Fixes) (d : Dicts) (fields : List TagValue) (idx : Nat) (tv : TagValue) (c : PCore)
    (h : SecsOK fields c) (hi : idx < fields.length) :
    SecsOK fields (mainSwitch fx d fields idx tv c).1 ∧ ∀ m, (mainSwitch fx d fields idx tv c).2 = some m → ModeOK (idx + 1) m :=
  mainSwitch_elim (P := fun r => SecsOK fields r.1 ∧ ∀ m, r.2 = some m → ModeOK (idx + 1) m) fx d fields idx tv c
    ⟨⟨h.h.add _ _ hi, h.b, h.t⟩, fun _ hm => (by cases hm)⟩
    ⟨⟨h.h, h.b, h.t.add _ idx 1 (by omega) (by omega)⟩, fun _ hm => (by cases hm)⟩
    (fun _ => ⟨⟨h.h, h.b, h.t⟩, fun m hm => (by cases hm; exact Nat.lt_succ_self idx)⟩)
    ⟨⟨h.h, h.b.add _ idx 1 (by omega) (by omega), h.t⟩, fun _ hm => (by cases hm)⟩

theorem xmlLenOf_ok (fields : List TagValue) (hd : FieldMap) (h : HdrOK fields hd) : ∃ v, xmlLenOf fields hd = .ok v := by
  -- case3: `getInt` faults
  fun_cases xmlLenOf fields hd with
  | case3 x hg => exact absurd hg (getInt_nofault_hdr h 212 x)
  | _ => exact ⟨_, rfl⟩

theorem tailStep_secs (fields : List TagValue) (tv : TagValue) (c : PCore) (h : SecsOK fields c) :
    ∃ c2 b, tailStep fields tv c = .ok (c2, b) ∧ SecsOK fields c2 := by
  -- with `bodyBytes` moved along or not, the sections are the same, and XMLDataLen is read off a header in range
  have h1 : SecsOK fields (if c.foundBody then c else { c with bodyBytes := c.rawBytes }) := ite_both h ⟨h.h, h.b, h.t⟩
  obtain ⟨v, hv⟩ := xmlLenOf_ok fields _ h1.h
  -- case1: CheckSum; case2: XMLDataLen, length read; case3 / case4: that read fails (it does not: `hv`); case5: other tags
  fun_cases tailStep fields tv c with
  | case1 => exact ⟨_, _, rfl, h⟩
  | case2 => exact ⟨_, _, rfl, ⟨h1.h, h1.b, h1.t⟩⟩
  | case3 _ _ _ _ hx | case4 _ _ _ _ hx => rw [hv] at hx; cases hx
  | case5 => exact ⟨_, _, rfl, h1⟩

theorem addDm_eq (fields : List TagValue) (dmStart idx : Nat) (c : PCore) (h : dmStart < fields.length) :
    addDm fields dmStart idx c = .ok { c with body := c.body.add (fields[dmStart]).tag (.view dmStart (idx - dmStart)) } := by
  unfold addDm
  simp [idxR, List.getElem?_eq_getElem h]

/-- the five ways one iteration of `parseGroup` can end (fixed code): it stays in the group (possibly at another nesting level), or
    it closes the group's field (`addDm`) and files the current field as a header field, a trailer field, the start of the next
    group, or a body field -/
theorem grpSwitch_elim {P : Res (PCore × Option Mode) → Prop}
    (d : Dicts) (fields : List TagValue) (idx : Nat) (tv : TagValue) (dmStart : Nat) (tags : List Tag) (gf : List DNode) (c : PCore)
    (stay : ∀ tags' gf', P (.ok ({ c with trailerBytes := c.rawBytes }, some (.grp dmStart tags' gf'))))
    (hdr : P (match addDm fields dmStart idx c with
      | .ok c1 => .ok ({ c1 with header := c1.header.add tv.tag (.view idx 1) }, none)
      | .err e => .err e
      | .fault w => .fault w))
    (trl : P (match addDm fields dmStart idx c with
      | .ok c1 => .ok ({ c1 with trailer := c1.trailer.add tv.tag (.view idx 1), foundTrailer := true }, none)
      | .err e => .err e
      | .fault w => .fault w))
    (grp : ∀ tags' gf', P (match addDm fields dmStart idx { c with trailerBytes := c.rawBytes } with
      | .ok c1 => .ok (c1, some (.grp idx tags' gf'))
      | .err e => .err e
      | .fault w => .fault w))
    (body : P (match addDm fields dmStart idx { c with trailerBytes := c.rawBytes } with
      | .ok c1 => .ok ({ c1 with body := c1.body.add tv.tag (.view idx 1) }, none)
      | .err e => .err e
      | .fault w => .fault w)) :
    P (grpSwitch Fixes.cur d fields idx tv dmStart tags gf c) := by
  unfold grpSwitch
  refine iteInduction (fun _ => iteInduction (fun _ => stay _ _) (fun _ => stay _ _)) (fun _ =>
    iteInduction (fun _ => hdr) (fun _ => iteInduction (fun _ => trl) (fun _ => iteInduction (fun _ => grp _ _) (fun _ =>
      iteInduction (fun _ => ?_) (fun h => absurd rfl h)))))
  cases popToMember d fields c.header tv.tag tags.reverse with
  | none => exact body
  | some p => exact iteInduction (fun _ => stay _ _) (fun _ => stay _ _)

theorem grpSwitch_secs (d : Dicts) (fields : List TagValue) (idx : Nat) (tv : TagValue) (dmStart : Nat) (tags : List Tag)
    (gf : List DNode) (c : PCore) (hd : dmStart < idx) (hi : idx < fields.length) (h : SecsOK fields c) :
    ∃ c1 mo, grpSwitch Fixes.cur d fields idx tv dmStart tags gf c = .ok (c1, mo) ∧ SecsOK fields c1 ∧
      ∀ m, mo = some m → ModeOK (idx + 1) m := by
  have hB : SecsOK fields { c with trailerBytes := c.rawBytes } := ⟨h.h, h.b, h.t⟩
  have hT := addDm_eq fields dmStart idx c (by omega)
  have hB1 := addDm_eq fields dmStart idx { c with trailerBytes := c.rawBytes } (by omega)
  have hdm : ViewsOK fields (c.body.add (fields[dmStart]'(by omega)).tag (.view dmStart (idx - dmStart))) :=
    h.b.add _ dmStart (idx - dmStart) (by omega) (by omega)
  have mk : ∀ (ds : Nat) (tg : List Tag) (g : List DNode), ds ≤ idx → ∀ m, some (Mode.grp ds tg g) = some m → ModeOK (idx + 1) m := by
    intro ds tg g hds m hm; cases hm; exact Nat.lt_succ_of_le hds
  refine grpSwitch_elim (P := fun r => ∃ c1 mo, r = .ok (c1, mo) ∧ SecsOK fields c1 ∧ ∀ m, mo = some m → ModeOK (idx + 1) m)
    d fields idx tv dmStart tags gf c ?_ ?_ ?_ ?_ ?_
  · exact fun _ _ => ⟨_, _, rfl, hB, mk _ _ _ (by omega)⟩
  · rw [hT]; exact ⟨_, _, rfl, ⟨h.h.add _ _ hi, hdm, h.t⟩, fun _ hm => (by cases hm)⟩
  · rw [hT]; exact ⟨_, _, rfl, ⟨h.h, hdm, h.t.add _ idx 1 (by omega) (by omega)⟩, fun _ hm => (by cases hm)⟩
  · rw [hB1]; exact fun _ _ => ⟨_, _, rfl, ⟨h.h, hdm, h.t⟩, mk _ _ _ (by omega)⟩
  · rw [hB1]; exact ⟨_, _, rfl, ⟨h.h, hdm.add _ idx 1 (by omega) (by omega), h.t⟩, fun _ hm => (by cases hm)⟩

theorem after_switch (d : Dicts) (fields' : List TagValue) (idx : Nat) (tv : TagValue) (c1 : PCore) (hh : SecsOK fields' c1)
    (next : ∀ c2, SecsOK fields' c2 → LoopOK (parseLoop Fixes.cur d .main fields' (idx + 1) c2)) :
    LoopOK
      (match tailStep fields' tv c1 with
       | .ok (c2, true) => finishParse fields' c2
       | .ok (c2, false) => parseLoop Fixes.cur d .main fields' (idx + 1) c2
       | .err e => .err e
       | .fault w => .fault w) := by
  obtain ⟨c2, b, ht, hc2⟩ := tailStep_secs fields' tv c1 hh
  rw [ht]
  cases b with
  | true => exact finishParse_ok fields' c2 hc2
  | false => exact next c2 hc2

/-- one iteration of the loop on ARBITRARY bytes: it stops with an error, ends in the final check, or goes on at the next index with the
    range invariant intact.  It unfolds `parseLoop` itself, because every outcome of the extraction
    counts here — an error ends the main loop, a pending XMLData length changes the extraction, and inside `parseGroup` a field that does not
    parse leaves the stale array entry in place and is switched on all the same — where `parseLoop_field` (CodecLoop) assumes that
    `extractField` delivers the field -/
theorem parseLoop_step (d : Dicts) (mode : Mode) (fields : List TagValue) (idx : Nat) (c : PCore)
    (hh : SecsOK fields c) (hm : ModeOK idx mode) (hidx : idx < fields.length)
    (next : ∀ m' fields' c', fields'.length = fields.length → SecsOK fields' c' → ModeOK (idx + 1) m' →
      LoopOK (parseLoop Fixes.cur d m' fields' (idx + 1) c')) :
    LoopOK (parseLoop Fixes.cur d mode fields idx c) := by
  rw [parseLoop]
  simp only [hidx, dite_true]
  have switched : ∀ (tv : TagValue) (c1 : PCore) (mo : Option Mode), SecsOK (fields.set idx tv) c1 →
      (∀ m, mo = some m → ModeOK (idx + 1) m) →
      LoopOK (match (c1, mo) with
        | (c1, some m) => parseLoop Fixes.cur d m (fields.set idx tv) (idx + 1) c1
        | (c1, none) =>
          match tailStep (fields.set idx tv) tv c1 with
          | .ok (c2, true) => finishParse (fields.set idx tv) c2
          | .ok (c2, false) => parseLoop Fixes.cur d .main (fields.set idx tv) (idx + 1) c2
          | .err e => .err e
          | .fault w => .fault w) := by
    intro tv c1 mo h1 h2
    have hl : (fields.set idx tv).length = fields.length := List.length_set ..
    cases mo with
    | some m => exact next m _ c1 hl h1 (h2 m rfl)
    | none => exact after_switch d _ idx tv c1 h1 (fun c2 h2 => next .main _ c2 hl h2 trivial)
  cases mode with
  | main =>
    simp only []
    -- whichever extraction is due, it does not fault and hands the sections on unchanged
    have hnf : NoFault (if c.xmlDataLen > 0 then extractXMLDataField Fixes.cur c.rawBytes c.xmlDataLen else extractField c.rawBytes).2 :=
      iteInduction (motive := fun x : Bytes × Res TagValue => NoFault x.2) (fun hx => extractXML_nofault _ _ hx) (fun _ => extractField_nofault _)
    have hc0 : SecsOK fields (if c.xmlDataLen > 0 then { c with xmlDataLen := 0, xmlDataMsg := true } else c) :=
      ite_both ⟨hh.h, hh.b, hh.t⟩ hh
    generalize (if c.xmlDataLen > 0 then extractXMLDataField Fixes.cur c.rawBytes c.xmlDataLen else extractField c.rawBytes) = ex at hnf ⊢
    generalize (if c.xmlDataLen > 0 then { c with xmlDataLen := 0, xmlDataMsg := true } else c) = c0 at hc0 ⊢
    cases hr : ex.2 with
    | err e => exact LoopOK.err e
    | fault w => exact absurd hr (hnf w)
    | ok tv =>
      obtain ⟨h1, h2⟩ := mainSwitch_secs Fixes.cur d (fields.set idx tv) idx tv { c0 with rawBytes := ex.1 }
        ⟨hc0.h.set idx tv, hc0.b.set idx tv, hc0.t.set idx tv⟩ (by rw [List.length_set]; exact hidx)
      exact switched tv _ _ h1 h2
  | grp dmStart tags gf =>
    simp only []
    -- a field that does not parse leaves the stale array entry in place and is switched on all the same
    have hgrp : ∀ tv : TagValue,
        LoopOK
          (match grpSwitch Fixes.cur d (fields.set idx tv) idx tv dmStart tags gf { c with rawBytes := (extractField c.rawBytes).1 } with
           | .ok (c1, some m) => parseLoop Fixes.cur d m (fields.set idx tv) (idx + 1) c1
           | .ok (c1, none) =>
             match tailStep (fields.set idx tv) tv c1 with
             | .ok (c2, true) => finishParse (fields.set idx tv) c2
             | .ok (c2, false) => parseLoop Fixes.cur d .main (fields.set idx tv) (idx + 1) c2
             | .err e => .err e
             | .fault w => .fault w
           | .err e => .err e
           | .fault w => .fault w) := by
      intro tv
      obtain ⟨c1, mo, hg, h1, h2⟩ := grpSwitch_secs d (fields.set idx tv) idx tv dmStart tags gf
        { c with rawBytes := (extractField c.rawBytes).1 } hm (by rw [List.length_set]; exact hidx) ⟨hh.h.set idx _, hh.b.set idx _, hh.t.set idx _⟩
      rw [hg]
      -- the split only lets the `match` reduce
      cases mo with
      | some m => exact switched tv c1 (some m) h1 h2
      | none => exact switched tv c1 none h1 h2
    cases hr : (extractField c.rawBytes).2 with
    | fault w => exact absurd hr (extractField_nofault _ w)
    | err e => exact hgrp _
    | ok tv => exact hgrp tv

theorem outOfFields_ok (mode : Mode) (fields : List TagValue) (idx : Nat) (c : PCore) (hle : idx ≤ fields.length)
    (hh : SecsOK fields c) (hm : ModeOK idx mode) : LoopOK (outOfFields Fixes.cur mode fields idx c) := by
  simp only [outOfFields, Fixes.cur, if_true]
  cases mode with
  | main => exact LoopOK.err _
  | grp dmStart tags gf =>
    have hlt : dmStart < fields.length := Nat.lt_of_lt_of_le hm hle
    have hdm : dmStart < idx := hm
    simp only [addDm_eq fields dmStart idx c hlt]
    split
    · exact iteInduction (fun _ => finishParse_ok fields _ ⟨hh.h, hh.b.add _ dmStart (idx - dmStart) (by omega) (by omega), hh.t⟩)
        (fun _ => LoopOK.err _)
    · exact LoopOK.err _

theorem parseLoop_ok (d : Dicts) : ∀ (n : Nat) (mode : Mode) (fields : List TagValue) (idx : Nat) (c : PCore),
    fields.length - idx = n → idx ≤ fields.length → SecsOK fields c → ModeOK idx mode →
    LoopOK (parseLoop Fixes.cur d mode fields idx c) := by
  intro n
  induction n with
  | zero =>
    intro mode fields idx c hn hle hh hm
    rw [parseLoop, dif_neg (by omega)]
    exact outOfFields_ok mode fields idx c hle hh hm
  | succ n ih =>
    intro mode fields idx c hn _ hh hm
    exact parseLoop_step d mode fields idx c hh hm (by omega)
      (fun m' fields' c' hl hh' hm' => ih m' fields' (idx + 1) c' (by omega) (by omega) hh' hm')

theorem extractSpecific_cases (t : Tag) (fields : List TagValue) (idx : Nat) (raw : Bytes) (hd : FieldMap) (hh : HdrOK fields hd) :
    (∃ e, extractSpecific Fixes.cur t fields idx raw hd = .err e) ∨
    ∃ f' r' hd', extractSpecific Fixes.cur t fields idx raw hd = .ok (f', r', hd') ∧ HdrOK f' hd' ∧ f'.length = fields.length ∧
      idx < fields.length := by
  -- case4: the field is stored (the one `.ok` leaf); case2: `extractField` faults; case6: `fx.d2 = false`
  fun_cases extractSpecific Fixes.cur t fields idx raw hd with
  | case2 hi rem x hx => exact absurd (show (extractField raw).2 = .fault x by rw [hx]) (extractField_nofault raw x)
  | case4 hi rem tv hx ht => exact Or.inr ⟨_, _, _, rfl, (hh.set _ _).add _ _ (by rw [List.length_set]; exact hi), List.length_set .., hi⟩
  | case6 _ hd2 => exact absurd rfl hd2
  | _ => exact Or.inl ⟨_, rfl⟩

theorem parseMessage_ok (d : Dicts) (w : Bytes) :
    NoFault (parseMessage Fixes.cur d w) ∧
    ∀ m, parseMessage Fixes.cur d w = .ok m →
      HdrOK m.fields m.header ∧ ViewsOK m.fields m.body ∧ ViewsOK m.fields m.trailer := by
  have err : ∀ e, NoFault (Res.err e : Res Message) ∧
      ∀ m, (Res.err e : Res Message) = .ok m → HdrOK m.fields m.header ∧ ViewsOK m.fields m.body ∧ ViewsOK m.fields m.trailer :=
    fun e => ⟨.err e, fun _ h => (by cases h)⟩
  unfold parseMessage
  simp only []
  split
  · exact err _
  rcases extractSpecific_cases 8 (List.replicate (countByte w SOH) TagValue.zero) 0 w _ (HdrOK.empty _ (.header)) with
    ⟨e, h1⟩ | ⟨f1, r1, hd1, h1, k1, l1, _⟩
  · simp only [h1]; exact err e
  simp only [h1]
  rcases extractSpecific_cases 9 f1 1 r1 hd1 k1 with ⟨e, h2⟩ | ⟨f2, r2, hd2, h2, k2, l2, _⟩
  · simp only [h2]; exact err e
  simp only [h2]
  rcases extractSpecific_cases 35 f2 2 r2 hd2 k2 with ⟨e, h3⟩ | ⟨f3, r3, hd3, h3, k3, l3, i3⟩
  · simp only [h3]; exact err e
  simp only [h3]
  rcases (parseLoop_ok d _ .main f3 3
      { header := hd3, body := FieldMap.empty .normal, trailer := FieldMap.empty .trailer, bodyBytes := [], rawBytes := r3,
        trailerBytes := [], foundBody := false, foundTrailer := false, xmlDataLen := 0, xmlDataMsg := false }
      rfl (by omega) ⟨k3, ViewsOK.empty _ _, ViewsOK.empty _ _⟩ trivial).cases with ⟨e, hl⟩ | ⟨fs, c', hl, hs⟩
  · simp only [hl]; exact err e
  · simp only [hl]; exact ⟨.ok _, fun m hm => by cases hm; exact ⟨hs.h, hs.b, hs.t⟩⟩

theorem parseMessage_nofault (d : Dicts) (w : Bytes) : NoFault (parseMessage Fixes.cur d w) := (parseMessage_ok d w).1

theorem parseMessage_views (d : Dicts) (w : Bytes) (m : Message) (hm : parseMessage Fixes.cur d w = .ok m) :
    ViewsOK m.fields m.header ∧ ViewsOK m.fields m.body ∧ ViewsOK m.fields m.trailer :=
  have h := (parseMessage_ok d w).2 m hm
  ⟨ViewsOK.ofHdr h.1, h.2.1, h.2.2⟩

theorem findItem_nil_none (t : Tag) : findItem [] t = none := rfl

theorem read_nofault : ∀ (fuel : Nat),
    (∀ (tmpl : List Item) (tv : List TagValue) (done : List GEntry) (cur : Option GEntry), NoFault (readLoop fuel tmpl tv done cur)) ∧
    (∀ (tmpl : List Item) (tv : List TagValue), tv ≠ [] → NoFault (readGroup fuel tmpl tv)) := by
  intro fuel
  induction fuel with
  | zero => exact ⟨fun _ _ _ _ => by rw [readLoop]; exact .err _, fun _ _ _ => by rw [readGroup]; exact .err _⟩
  | succ fuel ih =>
    obtain ⟨ihL, ihG⟩ := ih
    constructor
    · intro tmpl tv done cur
      rw [readLoop.eq_def]; simp only []
      split
      · exact .ok _
      · rename_i t0 rest
        split
        · exact .ok _
        · rename_i it hf
          -- a template that holds an item is not empty, and both continuations behind a member are the loop again
          cases tmpl with
          | nil => cases hf
          | cons dd tr =>
            simp only []
            split
            · exact ite_both (ihL _ _ _ _) (ihL _ _ _ _)
            · split
              · exact ite_both (ihL _ _ _ _) (ihL _ _ _ _)
              · exact .err _
              · rename_i x hg; exact absurd hg (ihG _ _ (by simp) x)
    · intro tmpl tv hne
      rw [readGroup.eq_def]; simp only []
      split
      · exact absurd rfl hne
      · split
        · exact .err _
        · rename_i x ha; exact absurd ha (atoi_nofault _ x)
        · split
          · exact .ok _
          · split
            · exact ite_both (.err _) (.ok _)
            · exact .err _
            · rename_i x hl; exact absurd hl (ihL _ _ _ _ x)

theorem getGroup_nofault {fields : List TagValue} {fm : FieldMap} (h : ViewsOK fields fm) (t : Tag) (f : Field)
    (hf : alFind fm.lookup t = some f) (tmpl : List Item) : NoFault (getGroup tmpl (f.full fields)) := by
  obtain ⟨s, n, hs, h1, h2⟩ := h t f hf
  subst hs
  have hne : (Field.view s n).full fields ≠ [] := by
    simp only [Field.full]
    intro e
    have := congrArg List.length e
    simp at this; omega
  unfold getGroup
  split
  · exact .ok _
  · exact .err _
  · rename_i x hg; exact absurd hg ((read_nofault _).2 tmpl _ hne x)
end Qfx
