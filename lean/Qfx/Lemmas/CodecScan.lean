/- C10: the independent scanner of Qfx.Spec.Codec inverts the wire form of canonical fields and accepts every built message -/
import Qfx.Lemmas.CodecBuildWire
namespace Qfx
open Qfx.Spec

def wfOf (tv : TagValue) : WField := { tagText := fmtInt tv.tag, val := tv.value, raw := tv.bytes }

theorem scanLoop_ne (fuel : Nat) (b : Bytes) (e : Nat) (hb : b ≠ []) (he : indexByte b SOH = some e) :
    scanLoop (fuel + 1) b 0 =
      (match indexByte (b.take (e + 1)) cEq with
       | none => none
       | some 0 => none
       | some eq =>
         let f : WField := { tagText := (b.take (e + 1)).take eq, val := ((b.take (e + 1)).take e).drop (eq + 1), raw := b.take (e + 1) }
         (scanLoop fuel (b.drop (e + 1)) (if f.tagText = [50, 49, 50] then smallNat f.val else 0)).map (f :: ·)) := by
  cases b with
  | nil => exact absurd rfl hb
  | cons x xs => simp only [scanLoop, he, Nat.lt_irrefl, if_false]; rfl

/-- the tag texts the scanner looks for are what `fmtInt` writes for 8, 9, 35, 10 and 212 -/
theorem fmtInt_tags : fmtInt 8 = t8 ∧ fmtInt 9 = t9 ∧ fmtInt 35 = t35 ∧ fmtInt 10 = t10 ∧ fmtInt 212 = [50, 49, 50] := by
  simp [fmtInt, fmtNat_of_ge, fmtNat_of_lt, t8, t9, t35, t10]

theorem scanLoop_step (fuel : Nat) (tv : TagValue) (rest : Bytes) (hc : CanonTV tv) (hx : tv.tag ≠ 212) :
    scanLoop (fuel + 1) (tv.bytes ++ rest) 0 = (scanLoop fuel rest 0).map (wfOf tv :: ·) := by
  have hbytes := hc.bytes
  obtain ⟨hinit, hval, hin⟩ := hc
  obtain ⟨hsoh, hidx, hlen, htt, hv, hpos⟩ := wire_layout (fmtInt tv.tag) tv.value (fmtInt_ne_nil _) (fmtInt_chars _) hval rest
  rw [← hbytes] at hsoh hidx hlen htt hv
  have hb : tv.bytes ++ rest ≠ [] := fun h => by
    rw [(List.append_eq_nil_iff.1 h).1] at hlen; simp at hlen
  have e1 : (fmtInt tv.tag).length + tv.value.length + 1 + 1 = tv.bytes.length := by omega
  have hnot : ¬ fmtInt tv.tag = [50, 49, 50] := fun h =>
    hx (fmtInt_inj _ _ hin (by unfold inInt64; omega) (h.trans fmtInt_tags.2.2.2.2.symm))
  rw [scanLoop_ne fuel _ _ hb hsoh, e1, List.take_left' rfl, List.drop_left' rfl, hidx]
  cases hk : (fmtInt tv.tag).length with
  | zero => omega
  | succ k =>
    simp only []
    rw [← hk, htt, hv]
    simp only [hnot, if_false]
    rfl

theorem scanLoop_canon : ∀ (L : List TagValue) (fuel : Nat), (∀ tv ∈ L, CanonTV tv ∧ tv.tag ≠ 212) → fuel > L.length →
    scanLoop fuel (wireOf L) 0 = some (L.map wfOf) := by
  intro L
  induction L with
  | nil =>
    intro fuel _ hf
    cases fuel with
    | zero => simp at hf
    | succ f => simp [wireOf, scanLoop]
  | cons tv r ih =>
    intro fuel h hf
    cases fuel with
    | zero => simp at hf
    | succ f =>
      rw [wireOf_cons, scanLoop_step f tv _ (h tv (by simp)).1 (h tv (by simp)).2, ih f (fun x hx => h x (by simp [hx])) (by simp at hf; omega)]
      rfl

theorem rawLen_map (l : List TagValue) : rawLen (l.map wfOf) = (wireOf l).length := by
  rw [wireOf, List.length_flatMap, rawLen, List.map_map]; rfl

theorem rawSum_map (l : List TagValue) : rawSum (l.map wfOf) = (wireOf l).sum := by
  rw [wireOf, sum_flatMap_nat, rawSum, List.map_map]; rfl

theorem wfScanned_snoc (f8 f9 f10 : WField) (mid : List WField) :
    wfScanned (f8 :: f9 :: (mid ++ [f10])) =
      (f8.tagText == t8 && f9.tagText == t9 && (mid.head?.map (·.tagText)) == some t35 && f10.tagText == t10 &&
       mid.all (fun f => f.tagText != t10 && f.tagText != t8 && f.tagText != t9) &&
       f9.val == fmtNat (rawLen mid) &&
       f10.val == digitsW 3 ((rawSum (f8 :: f9 :: mid)) % 256)) := by
  simp [wfScanned, List.reverse_append]

theorem length_le_wire (l : List TagValue) (h : ∀ tv ∈ l, CanonTV tv) : l.length ≤ (wireOf l).length := by
  induction l with
  | nil => simp
  | cons tv r ih =>
    have hb : 1 ≤ tv.bytes.length := by rw [(h tv (by simp)).bytes]; simp; omega
    have := ih (fun x hx => h x (by simp [hx]))
    rw [wireOf_cons, List.length_append]; simp; omega

theorem Frame.scans {F : Frame} (h : F.Clean) (hc : ∀ tv ∈ F.t8 :: F.t35 :: F.mid, CanonTV tv ∧ tv.tag ≠ 212) :
    scanFields (wireOf F.tvs) = some (F.tvs.map wfOf) ∧ wfScanned (F.tvs.map wfOf) = true := by
  have hall := Frame.canon hc
  refine ⟨scanLoop_canon _ _ hall (by have := length_le_wire _ (fun tv htv => (hall tv htv).1); omega), ?_⟩
  have eL : F.tvs.map wfOf = wfOf F.t8 :: wfOf F.t9 :: ((F.t35 :: F.mid).map wfOf ++ [wfOf F.t10]) := by simp [Frame.tvs]
  rw [eL, wfScanned_snoc]
  have c8 : (wfOf F.t8).tagText = Spec.t8 := by rw [wfOf, h.tag8]; exact fmtInt_tags.1
  have c35 : ((F.t35 :: F.mid).map wfOf).head?.map (·.tagText) = some Spec.t35 := by simp [wfOf, h.tag35, fmtInt_tags.2.2.1]
  have cmid : ((F.t35 :: F.mid).map wfOf).all (fun f => f.tagText != Spec.t10 && f.tagText != Spec.t8 && f.tagText != Spec.t9) = true := by
    rw [List.all_eq_true]
    intro f hf
    obtain ⟨tv, htv, rfl⟩ := List.mem_map.1 hf
    have hns := h.inner tv htv
    have hin : inInt64 tv.tag := (hc tv (List.mem_cons_of_mem _ htv)).1.2.2
    have ne : ∀ (k : Int) (txt : Bytes), fmtInt k = txt → inInt64 k → tv.tag ≠ k → fmtInt tv.tag ≠ txt :=
      fun k txt hk hik hne e => hne (fmtInt_inj _ _ hin hik (e.trans hk.symm))
    simp [wfOf, ne 10 Spec.t10 fmtInt_tags.2.2.2.1 (by unfold inInt64; omega) hns.2.2, ne 8 Spec.t8 fmtInt_tags.1 (by unfold inInt64; omega) hns.1,
      ne 9 Spec.t9 fmtInt_tags.2.1 (by unfold inInt64; omega) hns.2.1]
  have clen : (wfOf F.t9).val = fmtNat (rawLen ((F.t35 :: F.mid).map wfOf)) := by rw [rawLen_map]; rfl
  have csum : (wfOf F.t10).val = digitsW 3 ((rawSum (wfOf F.t8 :: wfOf F.t9 :: (F.t35 :: F.mid).map wfOf)) % 256) := by
    rw [show wfOf F.t8 :: wfOf F.t9 :: (F.t35 :: F.mid).map wfOf = (F.t8 :: F.t9 :: F.t35 :: F.mid).map wfOf by simp, rawSum_map]; rfl
  rw [c8, c35, cmid, clen, csum]
  simp [wfOf, Frame.t9, Frame.t10, TagValue.init, fmtInt_tags]

theorem build_scans_wf (m : Message) (hb : Built m) (hc : Wired m) (tv8 : TagValue) (f35 : Field)
    (h8 : alFind m.header.lookup 8 = some (.owned [tv8])) (h35 : alFind m.header.lookup 35 = some f35)
    (bytes : Bytes) (m' : Message) (h : m.build Fixes.cur = .ok (bytes, m')) :
    ∃ L : List TagValue, bytes = wireOf L ∧ scanFields bytes = some (L.map wfOf) ∧ wfScanned (L.map wfOf) = true := by
  obtain ⟨F, more, others, frontT, hcl, hbytes, e8, hhead, hmid, pO, pT⟩ := build_frame m hb tv8 f35 h8 h35 bytes m' h
  subst e8
  obtain ⟨h1, h2⟩ := Frame.scans hcl (build_frame_canon m hb hc F more others frontT f35 h8 h35 hhead hmid pO pT)
  exact ⟨F.tvs, hbytes, hbytes ▸ h1, h2⟩

end Qfx
