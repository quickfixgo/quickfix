/-
  Qfx.Lemmas.FloatWrite — the model's writer (`F64.writeFloat`: shortest digits that read back, printed positionally)
  round-trips through the model's reader for every finite bit pattern.  On the way, the facts about `Nearest` a writer needs: an exact
  value is its own nearest double (`nearest_of_exact`), and `Nearest` depends on the rational only, not on how it is written (`nearest_cross`).
-/
import Qfx.Lemmas.Float
namespace Qfx.F64
open Qfx Qfx.Spec

theorem exact_norm (n : Nat) :
    n = P52 * exactSh n + exactM n ∧ exactM n < P53 ∧ (exactSh n = 0 ∨ P52 ≤ exactM n) := by
  unfold exactSh exactM
  by_cases h : n / P52 = 0
  · rw [if_pos h]; omega
  · rw [if_neg h]; omega

theorem scaled_exact (n : Nat) : scaled n = exactM n * 2 ^ exactSh n := by
  obtain ⟨h1, h2, h3⟩ := exact_norm n
  conv => lhs; rw [h1]
  exact scaled_norm _ _ h2 h3

theorem exact_eq (n : Nat) : 2 ^ 1074 * exactW n = scaled n * 10 ^ exactJ n := by
  rw [scaled_exact]
  unfold exactW exactJ
  generalize exactM n = M
  generalize exactSh n = sh
  by_cases h : 1074 ≤ sh
  · rw [if_pos h, if_pos h]
    have e : 2 ^ sh = 2 ^ (sh - 1074) * 2 ^ 1074 := (Nat.pow_sub_mul_pow 2 h).symm
    rw [e, Nat.pow_zero, Nat.mul_one]
    clear e
    generalize (2 : Nat) ^ 1074 = T
    generalize (2 : Nat) ^ (sh - 1074) = a
    grind
  · rw [if_neg h, if_neg h]
    have e1 : (2 : Nat) ^ 1074 = 2 ^ sh * 2 ^ (1074 - sh) := by
      rw [Nat.mul_comm]; exact (Nat.pow_sub_mul_pow 2 (Nat.le_of_not_le h)).symm
    have e2 : (10 : Nat) ^ (1074 - sh) = 2 ^ (1074 - sh) * 5 ^ (1074 - sh) := by
      rw [← Nat.mul_pow]
    rw [e1, e2]
    generalize (2 : Nat) ^ sh = a
    generalize (2 : Nat) ^ (1074 - sh) = b
    generalize (5 : Nat) ^ (1074 - sh) = c
    grind

theorem nearest_of_exact (num den n : Nat) (hd : 0 < den) (h : 2 ^ 1074 * num = scaled n * den) :
    Nearest num den n := by
  have := scaled_mul_lt (Nat.lt_add_one n) hd
  rw [← h] at this
  exact nearest_of_lower num den n hd (Nat.le_of_eq h.symm) (by omega) (fun e => by omega)

theorem roundOrd_of_nearest (num den n : Nat) (hd : 0 < den) (h : Nearest num den n) : roundOrd num den = n :=
  nearest_unique num den _ _ hd (roundOrd_nearest num den hd) h

theorem exact_cand (n : Nat) : candOk n (exactJ n) (exactW n) 0 = true := by
  unfold candOk
  rw [Nat.pow_zero, Nat.mul_one, roundOrd_of_nearest _ _ n (pow10_pos _) (nearest_of_exact (exactW n) (10 ^ exactJ n) n (pow10_pos _) (exact_eq n))]
  exact beq_self_eq_true n

theorem pickCloser_cases (W lo c : Nat) : pickCloser W lo c = lo ∨ pickCloser W lo c = lo + 1 := by
  unfold pickCloser; split
  · exact Or.inl rfl
  · exact Or.inr rfl

theorem tryK_valid (n W J L k : Nat) (r : Nat × Nat) (h : tryK n W J L k = some r) :
    candOk n J r.1 r.2 = true := by
  revert h
  fun_cases tryK n W J L k with
  | case1 hboth =>
    rintro ⟨⟩
    rw [Bool.and_eq_true] at hboth
    show candOk n J (pickCloser W (W / 10 ^ (L - k)) (L - k)) (L - k) = true
    rcases pickCloser_cases W (W / 10 ^ (L - k)) (L - k) with e | e <;> rw [e]
    · exact hboth.1
    · exact hboth.2
  | case2 _ hlo => rintro ⟨⟩; exact hlo
  | case3 _ _ hhi => rintro ⟨⟩; exact hhi
  | case4 => nofun

/-- whatever the search returns reads back, also when its fuel runs out: then it returns all digits of the exact value
    (that 17 digits always suffice is not needed for the round trip) -/
theorem shortestFrom_valid (n W J L : Nat) (hW : candOk n J W 0 = true) (fuel k : Nat) :
    candOk n J (shortestFrom n W J L fuel k).1 (shortestFrom n W J L fuel k).2 = true := by
  induction fuel generalizing k with
  | zero => exact hW
  | succ f ih =>
    unfold shortestFrom
    cases h : tryK n W J L k with
    | some r => exact tryK_valid n W J L k r h
    | none => exact ih (k + 1)

theorem shortest_valid (n : Nat) : candOk n (exactJ n) (shortest n).1 (shortest n).2 = true :=
  shortestFrom_valid n _ _ _ (exact_cand n) 17 1

theorem dist_mul (a b k : Nat) : dist (a * k) (b * k) = dist a b * k := by
  unfold dist; rw [Nat.add_mul, Nat.sub_mul, Nat.sub_mul]

theorem distTo_cross (num1 den1 num2 den2 n : Nat) (h : num1 * den2 = num2 * den1) :
    distTo num1 den1 n * den2 = distTo num2 den2 n * den1 := by
  unfold distTo
  generalize (2 : Nat) ^ 1074 = T
  rw [← dist_mul, ← dist_mul]
  congr 1
  · rw [Nat.mul_assoc, h, Nat.mul_assoc]
  · rw [Nat.mul_assoc, Nat.mul_assoc, Nat.mul_comm den1]

/-- comparing two fractions after cross-multiplication: the common positive factors cancel -/
theorem le_transfer {a b a' b' d1 d2 : Nat} (ha : a * d2 = a' * d1) (hb : b * d2 = b' * d1)
    (h1 : 0 < d1) (h : a ≤ b) : a' ≤ b' := by
  have := Nat.mul_le_mul_right d2 h
  rw [ha, hb] at this
  exact Nat.le_of_mul_le_mul_right this h1

theorem eq_transfer {a b a' b' d1 d2 : Nat} (ha : a * d2 = a' * d1) (hb : b * d2 = b' * d1)
    (h2 : 0 < d2) (h : a' = b') : a = b := by
  have : a * d2 = b * d2 := by rw [ha, hb, h]
  exact Nat.eq_of_mul_eq_mul_right h2 this

theorem nearest_cross (num1 den1 num2 den2 n : Nat) (h : num1 * den2 = num2 * den1)
    (hd1 : 0 < den1) (hd2 : 0 < den2) (hn : Nearest num1 den1 n) : Nearest num2 den2 n := by
  have key := fun m => distTo_cross num1 den1 num2 den2 m h
  unfold Nearest at hn ⊢
  obtain ⟨⟨hu1, hu2⟩, hl⟩ := hn
  refine ⟨⟨le_transfer (key n) (key (n + 1)) hd1 hu1, fun e => hu2 (eq_transfer (key n) (key (n + 1)) hd2 e)⟩, ?_⟩
  rcases hl with h0 | ⟨hl1, hl2⟩
  · exact Or.inl h0
  · exact Or.inr ⟨le_transfer (key n) (key (n - 1)) hd1 hl1, fun e => hl2 (eq_transfer (key n) (key (n - 1)) hd2 e)⟩

theorem roundOrd_cross (num1 den1 num2 den2 : Nat) (h : num1 * den2 = num2 * den1)
    (hd1 : 0 < den1) (hd2 : 0 < den2) : roundOrd num2 den2 = roundOrd num1 den1 :=
  roundOrd_of_nearest _ _ _ hd2 (nearest_cross _ _ _ _ _ h hd1 hd2 (roundOrd_nearest num1 den1 hd1))

/-- `textMag` and `textScale` of a text without its sign -/
def bodyMag (r : Bytes) : Nat := digitsVal (r.takeWhile (· ≠ cDot) ++ (r.dropWhile (· ≠ cDot)).drop 1)
def bodyScale (r : Bytes) : Nat := ((r.dropWhile (· ≠ cDot)).drop 1).length

theorem floatScan_digits (ds rest : Bytes) (d dot : Bool) (h : ds.all isDigit = true) :
    floatScan (ds ++ rest) d dot = floatScan rest (d || !ds.isEmpty) dot := by
  induction ds generalizing d with
  | nil => simp
  | cons c cs ih =>
    have hc : isDigit c = true := by simp only [List.all_cons, Bool.and_eq_true] at h; exact h.1
    have hcs : cs.all isDigit = true := by simp only [List.all_cons, Bool.and_eq_true] at h; exact h.2
    have hne : c ≠ cDot := by have := (isDigit_iff c).1 hc; unfold cDot; omega
    rw [List.cons_append, floatScan, if_neg hne, if_pos hc, ih true hcs]
    simp

theorem readFloat_signed (neg : Bool) (body : Bytes) (c : Nat) (cs : Bytes) (hb : body = c :: cs) (hc : isDigit c = true)
    (hs : floatScan body false false = true) (n : Nat) (hr : roundOrd (bodyMag body) (10 ^ bodyScale body) = n)
    (hfin : n < infOrd) :
    readFloat ((if neg then [cMinus] else []) ++ body) = .ok (mkBits neg n) := by
  have hc45 : c ≠ cMinus := by have := (isDigit_iff c).1 hc; unfold cMinus; omega
  have facts : acceptFloat ((if neg then [cMinus] else []) ++ body) = true ∧
      textNeg ((if neg then [cMinus] else []) ++ body) = neg ∧
      textBody ((if neg then [cMinus] else []) ++ body) = body := by
    cases neg with
    | true =>
      have e : (if true = true then [cMinus] else []) ++ body = cMinus :: body := by simp
      rw [e]
      have hN : textNeg (cMinus :: body) = true := by simp [textNeg]
      refine ⟨by simp [acceptFloat, hs], hN, by simp [textBody, hN]⟩
    | false =>
      have e : (if false = true then [cMinus] else []) ++ body = c :: cs := by simp [hb]
      rw [e, ← hb]
      have hN : textNeg body = false := by rw [hb]; simp [textNeg, hc45]
      refine ⟨?_, hN, by simp [textBody, hN]⟩
      rw [hb, acceptFloat]; simp only [hc45, if_false]; rw [← hb]; exact hs
  obtain ⟨hacc, hN, hB⟩ := facts
  have hM : textMag ((if neg then [cMinus] else []) ++ body) = bodyMag body := by unfold textMag bodyMag; rw [hB]
  have hS : textScale ((if neg then [cMinus] else []) ++ body) = bodyScale body := by unfold textScale bodyScale; rw [hB]
  unfold readFloat
  rw [if_pos hacc, hN, hM, hS, rne_some _ _ _ (by rw [hr]; exact hfin), hr]

theorem fmtNat_head (x : Nat) : ∃ c cs, fmtNat x = c :: cs ∧ isDigit c = true := by
  have hall := fmtNat_all_digits x
  cases h : fmtNat x with
  | nil => exact absurd h (fmtNat_ne_nil x)
  | cons c cs =>
    rw [h] at hall
    simp only [List.all_cons, Bool.and_eq_true] at hall
    exact ⟨c, cs, rfl, hall.1⟩

theorem body_int (x : Nat) :
    floatScan (fmtNat x) false false = true ∧ bodyMag (fmtNat x) = x ∧ bodyScale (fmtNat x) = 0 := by
  have hno : cDot ∉ fmtNat x := fmtNat_no x cDot (by decide)
  refine ⟨?_, ?_, ?_⟩
  · have := floatScan_digits (fmtNat x) [] false false (fmtNat_all_digits x)
    rw [List.append_nil] at this
    rw [this, floatScan]
    simp [fmtNat_ne_nil]
  · unfold bodyMag
    rw [takeWhile_nosep _ hno, dropWhile_nosep _ hno]
    simp [digitsVal_fmtNat]
  · unfold bodyScale
    rw [dropWhile_nosep _ hno]; rfl

theorem body_frac (a s r : Nat) (hr : r < 10 ^ s) :
    floatScan (fmtNat a ++ [cDot] ++ digitsW s r) false false = true ∧
    bodyMag (fmtNat a ++ [cDot] ++ digitsW s r) = a * 10 ^ s + r ∧
    bodyScale (fmtNat a ++ [cDot] ++ digitsW s r) = s := by
  have hno : cDot ∉ fmtNat a := fmtNat_no a cDot (by decide)
  rw [List.append_assoc, List.singleton_append]
  refine ⟨?_, ?_, ?_⟩
  · rw [floatScan_digits _ _ _ _ (fmtNat_all_digits a), floatScan]
    rw [if_pos rfl, if_neg (by decide)]
    have := floatScan_digits (digitsW s r) [] (false || !(fmtNat a).isEmpty) true (digitsW_all_digits s r)
    rw [List.append_nil] at this
    rw [this, floatScan]
    simp [fmtNat_ne_nil]
  · unfold bodyMag
    rw [takeWhile_sep _ _ hno, dropWhile_sep _ _ hno, List.drop_succ_cons, List.drop_zero, digitsVal_append,
      digitsVal_fmtNat, digitsW_length, digitsVal_digitsW_of_lt s r hr]
  · unfold bodyScale
    rw [dropWhile_sep _ _ hno, List.drop_succ_cons, List.drop_zero, digitsW_length]

theorem stripZ_spec (D s : Nat) : (stripZ D s).1 * 10 ^ (s - (stripZ D s).2) = D ∧ (stripZ D s).2 ≤ s := by
  fun_induction stripZ D s with
  | case1 D => simp
  | case2 D s h ih =>
    obtain ⟨h1, h2⟩ := ih
    refine ⟨?_, by omega⟩
    rw [show s + 1 - (stripZ (D / 10) s).2 = (s - (stripZ (D / 10) s).2) + 1 by omega, Nat.pow_succ, ← Nat.mul_assoc, h1]; omega
  | case3 D s h => simp

theorem renderFrac_body (q : Nat × Nat) :
    ∃ c cs, renderFrac q = c :: cs ∧ isDigit c = true ∧ floatScan (renderFrac q) false false = true ∧
      bodyMag (renderFrac q) = q.1 ∧ bodyScale (renderFrac q) = q.2 := by
  obtain ⟨D, s⟩ := q
  unfold renderFrac
  dsimp only
  by_cases hs0 : s = 0
  · rw [if_pos hs0, hs0]
    obtain ⟨c0, cs, hb, hc⟩ := fmtNat_head D
    exact ⟨c0, cs, hb, hc, body_int D⟩
  · rw [if_neg hs0]
    obtain ⟨hsc, hm, hscale⟩ := body_frac (D / 10 ^ s) s (D % 10 ^ s) (Nat.mod_lt _ (pow10_pos s))
    obtain ⟨c0, cs0, hb0, hc0⟩ := fmtNat_head (D / 10 ^ s)
    exact ⟨c0, cs0 ++ [cDot] ++ digitsW s (D % 10 ^ s), by rw [hb0]; rfl, hc0, hsc, by rw [hm, Nat.div_add_mod'], hscale⟩

/-- what `renderPos` prints is `renderFrac` of a pair denoting the same rational as the candidate `p.1 * 10 ^ p.2 / 10 ^ J` -/
theorem renderPos_eq (p : Nat × Nat) (J : Nat) :
    ∃ q : Nat × Nat, renderPos p J = renderFrac q ∧ p.1 * 10 ^ p.2 * 10 ^ q.2 = q.1 * 10 ^ J := by
  obtain ⟨D, c⟩ := p
  unfold renderPos
  dsimp only
  by_cases hJ : J ≤ c
  · refine ⟨(D * 10 ^ (c - J), 0), by rw [if_pos hJ]; rfl, ?_⟩
    dsimp only
    rw [← Nat.pow_sub_mul_pow 10 hJ, Nat.pow_zero, Nat.mul_one, Nat.mul_assoc]
  · obtain ⟨h1, h2⟩ := stripZ_spec D (J - c)
    refine ⟨stripZ D (J - c), by rw [if_neg hJ], ?_⟩
    have e : 10 ^ J = 10 ^ (J - c - (stripZ D (J - c)).2) * 10 ^ c * 10 ^ (stripZ D (J - c)).2 := by
      rw [← Nat.pow_add, ← Nat.pow_add]; congr 1; omega
    rw [e, ← Nat.mul_assoc, ← Nat.mul_assoc, h1]

theorem renderPos_body (p : Nat × Nat) (J n : Nat) (hr : roundOrd (p.1 * 10 ^ p.2) (10 ^ J) = n) :
    ∃ c cs, renderPos p J = c :: cs ∧ isDigit c = true ∧ floatScan (renderPos p J) false false = true ∧
      roundOrd (bodyMag (renderPos p J)) (10 ^ bodyScale (renderPos p J)) = n := by
  obtain ⟨q, hq, hv⟩ := renderPos_eq p J
  obtain ⟨c, cs, hb, hc, hs, hm, hsc⟩ := renderFrac_body q
  rw [hq]
  refine ⟨c, cs, hb, hc, hs, ?_⟩
  rw [hm, hsc, ← hr]
  exact roundOrd_cross _ _ _ _ hv (pow10_pos J) (pow10_pos q.2)

theorem writeOrd_read (neg : Bool) (n : Nat) (hfin : n < infOrd) :
    readFloat ((if neg then [cMinus] else []) ++ writeOrd n) = .ok (mkBits neg n) := by
  unfold writeOrd
  have hv := shortest_valid n
  have hr : roundOrd ((shortest n).1 * 10 ^ (shortest n).2) (10 ^ exactJ n) = n := by
    unfold candOk at hv; exact beq_iff_eq.1 hv
  obtain ⟨c, cs, hb, hc, hs, hro⟩ := renderPos_body (shortest n) (exactJ n) n hr
  exact readFloat_signed neg _ c cs hb hc hs n hro hfin

theorem mkBits_negOf_ordOf (bits : Nat) (h64 : bits < 18446744073709551616) : mkBits (negOf bits) (ordOf bits) = bits := by
  unfold mkBits negOf ordOf
  by_cases h : bits / signBit % 2 = 1
  · simp only [h, decide_true, if_true]; omega
  · simp only [h, decide_false]; simp; omega

theorem writeFloat_read (bits : Nat) (h64 : bits < 18446744073709551616) (hfin : ordOf bits < infOrd) :
    readFloat (writeFloat bits) = .ok bits := by
  unfold writeFloat
  rw [writeOrd_read (negOf bits) (ordOf bits) hfin, mkBits_negOf_ordOf bits h64]

end Qfx.F64
