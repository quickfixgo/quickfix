/-
  Qfx.Lemmas.Timestamp — timestamp texts.  `readTsWith` and the grammar address a text by absolute offsets; the proofs cut
  a text of at least 17 bytes at the field boundaries of `YYYYMMDD-HH:MM:SS[.f…]` once (`TsCut`) and reason about the fields,
  which stay variables: a digit group is never taken apart into its digits.
-/
import Qfx.Lemmas.Values
namespace Qfx
open Qfx.Spec

theorem fixedNum_eq_some {ds : Bytes} {n : Nat} : fixedNum ds = some n ↔ ds.all isDigit = true ∧ digitsVal ds = n := by
  unfold fixedNum; split <;> simp [*]

theorem pad_of_fixedNum {ds : Bytes} {n w : Nat} (h : fixedNum ds = some n) (hw : ds.length = w) : pad w n = ds := by
  obtain ⟨hd, rfl⟩ := fixedNum_eq_some.1 h
  rw [← hw]; exact digitsW_digitsVal ds hd

theorem fixedNum_pad {w n : Nat} (h : n < 10 ^ w) : fixedNum (pad w n) = some n :=
  fixedNum_eq_some.2 ⟨digitsW_all_digits w n, digitsVal_digitsW_of_lt w n h⟩

/-- a written fraction `.` + `k` digits of `ns / u` is what the reader asks of the rest of a text, read at unit `u` -/
theorem frac_pad (sepOK : Nat → Bool) (hs : sepOK 46 = true) {k u : Nat} (ns : Nat) (h : ns / u < 10 ^ k) :
    ∃ sep ds f, [46] ++ pad k (ns / u) = sep :: ds ∧ sepOK sep = true ∧ fixedNum ds = some f ∧ ns / u * u = f * u :=
  ⟨46, _, ns / u, rfl, hs, fixedNum_pad h, rfl⟩

theorem precOfLen_eq_some {n : Nat} {p : Prec} : precOfLen n = some p ↔ n = p.len := by
  constructor
  · fun_cases precOfLen n <;> intro h <;> cases h <;> assumption
  · rintro rfl; cases p <;> rfl

/-- a text cut at the field boundaries of `YYYYMMDD-HH:MM:SS…`: `c1 c2 c3` are the bytes at the places of `-`, `:`, `:`; `rest` is what
    follows the seconds -/
structure TsCut where
  (y mo d : Bytes) (c1 : Nat) (hh : Bytes) (c2 : Nat) (mi : Bytes) (c3 : Nat) (s rest : Bytes)
  hy : y.length = 4
  hmo : mo.length = 2
  hd : d.length = 2
  hhh : hh.length = 2
  hmi : mi.length = 2
  hs : s.length = 2

namespace TsCut

def text (c : TsCut) : Bytes := c.y ++ (c.mo ++ (c.d ++ c.c1 :: (c.hh ++ c.c2 :: (c.mi ++ c.c3 :: (c.s ++ c.rest)))))

theorem length_text (c : TsCut) : c.text.length = 17 + c.rest.length := by
  simp only [text, List.length_append, List.length_cons, c.hy, c.hmo, c.hd, c.hhh, c.hmi, c.hs]; omega

theorem exists_of_le (b : Bytes) (h : 17 ≤ b.length) : ∃ c : TsCut, c.text = b := by
  refine ⟨⟨b.take 4, (b.drop 4).take 2, (b.drop 6).take 2, (b.drop 8).headD 0, (b.drop 9).take 2, (b.drop 11).headD 0,
    (b.drop 12).take 2, (b.drop 14).headD 0, (b.drop 15).take 2, b.drop 17, ?_, ?_, ?_, ?_, ?_, ?_⟩, ?_⟩
  iterate 6 (simp only [List.length_take, List.length_drop]; omega)
  simp only [text]
  rw [take_append_drop_add b 15 2 17 rfl, headD_cons_drop_succ b 14 15 0 rfl (by omega),
    take_append_drop_add b 12 2 14 rfl, headD_cons_drop_succ b 11 12 0 rfl (by omega),
    take_append_drop_add b 9 2 11 rfl, headD_cons_drop_succ b 8 9 0 rfl (by omega),
    take_append_drop_add b 6 2 8 rfl, take_append_drop_add b 4 2 6 rfl, List.take_append_drop]

/-- the slices `readTsWith` and `tsFields` take out of a text are the fields of its cut -/
theorem coords (c : TsCut) :
    c.text.take 4 = c.y ∧ (c.text.drop 4).take 2 = c.mo ∧ (c.text.drop 6).take 2 = c.d ∧ (c.text.drop 8).take 1 = [c.c1] ∧
    (c.text.drop 9).take 2 = c.hh ∧ (c.text.drop 11).take 1 = [c.c2] ∧ (c.text.drop 12).take 2 = c.mi ∧
    (c.text.drop 14).take 1 = [c.c3] ∧ (c.text.drop 15).take 2 = c.s ∧ c.text.drop 17 = c.rest := by
  have d4 : c.text.drop 4 = _ := List.drop_left' c.hy
  have d6 := drop_of_drop_append d4 c.hmo (j := 6) rfl
  have d8 := drop_of_drop_append d6 c.hd (j := 8) rfl
  have d9 := drop_of_drop_cons d8 (j := 9) rfl
  have d11 := drop_of_drop_append d9 c.hhh (j := 11) rfl
  have d12 := drop_of_drop_cons d11 (j := 12) rfl
  have d14 := drop_of_drop_append d12 c.hmi (j := 14) rfl
  have d15 := drop_of_drop_cons d14 (j := 15) rfl
  have d17 := drop_of_drop_append d15 c.hs (j := 17) rfl
  rw [d4, d6, d8, d9, d11, d12, d14, d15, d17]
  exact ⟨List.take_left' c.hy, List.take_left' c.hmo, List.take_left' c.hd, rfl, List.take_left' c.hhh, rfl,
    List.take_left' c.hmi, rfl, List.take_left' c.hs, rfl⟩

theorem readTsWith_text (sepOK : Nat → Bool) (c : TsCut) (t : Ts) (p : Prec) :
    readTsWith sepOK c.text = .ok (t, p) ↔
      c.text.length = p.len ∧
      fixedNum c.y = some t.y ∧ fixedNum c.mo = some t.mo ∧ fixedNum c.d = some t.d ∧
      fixedNum c.hh = some t.h ∧ fixedNum c.mi = some t.mi ∧ fixedNum c.s = some t.s ∧
      c.c1 = 45 ∧ c.c2 = 58 ∧ c.c3 = 58 ∧
      (if p.fracDigits = 0 then t.ns = 0
       else ∃ sep ds f, c.rest = sep :: ds ∧ sepOK sep = true ∧ fixedNum ds = some f ∧ t.ns = f * p.unit) ∧
      1 ≤ t.mo ∧ t.mo ≤ 12 ∧ t.h < 24 ∧ t.mi < 60 ∧ t.s < 60 ∧ 1 ≤ t.d ∧ t.d ≤ daysIn t.mo t.y := by
  obtain ⟨k1, k2, k3, k4, k5, k6, k7, k8, k9, k10⟩ := c.coords
  simp only [readTsWith, k1, k2, k3, k4, k5, k6, k7, k8, k9, k10, ← precOfLen_eq_some]
  constructor
  · intro h
    -- the two matches of `readTsWith`: the length, then the six numbers at once; the other branch of each is an error
    split at h
    · cases h
    rename_i p' hp
    split at h
    case h_2 => cases h
    rename_i y mo d hh mi s hy hmo hd hhh hmi hs
    obtain ⟨h1, h⟩ := Res.of_ite_err_eq_ok h
    obtain ⟨h2, h⟩ := Res.of_ite_err_eq_ok h
    obtain ⟨h3, h⟩ := Res.of_ite_err_eq_ok h
    generalize hfr : (if p'.fracDigits = 0 then some 0 else _) = ofr at h
    rcases ofr with _ | f
    · cases h
    obtain ⟨e1, h⟩ := Res.of_ite_err_eq_ok h
    obtain ⟨e2, h⟩ := Res.of_ite_err_eq_ok h
    obtain ⟨e3, h⟩ := Res.of_ite_err_eq_ok h
    obtain ⟨e4, h⟩ := Res.of_ite_err_eq_ok h
    obtain ⟨e5, h⟩ := Res.of_ite_err_eq_ok h
    cases h
    dsimp only
    refine ⟨hp, hy, hmo, hd, hhh, hmi, hs, by simpa using h1, by simpa using h2, by simpa using h3, ?_,
      by omega, by omega, by omega, by omega, by omega, by omega, by omega⟩
    split at hfr
    · cases hfr; rw [if_pos ‹_›]; exact Nat.zero_mul _
    · rw [if_neg ‹_›]
      rcases hrest : c.rest with _ | ⟨sep, ds⟩ <;> rw [hrest] at hfr
      · cases hfr
      · by_cases hsep : sepOK sep = true
        · exact ⟨sep, ds, f, rfl, hsep, by simpa [hsep] using hfr, rfl⟩
        · simp [hsep] at hfr
  · rintro ⟨hp, hy, hmo, hd, hhh, hmi, hs, h1, h2, h3, hfr, _, _, _, _, _, _, _⟩
    rw [hp, hy, hmo, hd, hhh, hmi, hs, h1, h2, h3]
    dsimp only
    rw [if_neg (by simp), if_neg (by simp), if_neg (by simp)]
    generalize hofr : (if p.fracDigits = 0 then some 0 else _) = ofr
    have : ∃ f, ofr = some f ∧ t.ns = f * p.unit := by
      rw [← hofr]
      by_cases h0 : p.fracDigits = 0
      · rw [if_pos h0] at hfr ⊢; exact ⟨0, rfl, by omega⟩
      · rw [if_neg h0] at hfr ⊢
        obtain ⟨sep, ds, f, hr, hsep, hf, hns⟩ := hfr
        exact ⟨f, by rw [hr]; simp [hsep, hf], hns⟩
    obtain ⟨f, rfl, hns⟩ := this
    dsimp only
    rw [if_neg (by omega), if_neg (by omega), if_neg (by omega), if_neg (by omega), if_neg (by omega), ← hns]
end TsCut

theorem readTsWith_short (sepOK : Nat → Bool) (b : Bytes) (h : b.length < 17) :
    readTsWith sepOK b = .err "invalid timestamp length" := by
  have : precOfLen b.length = none := by
    unfold precOfLen; rw [if_neg (by omega), if_neg (by omega), if_neg (by omega), if_neg (by omega)]
  simp only [readTsWith, this]

theorem ts_read_write (b : Bytes) (t : Ts) (p : Prec) (hr : readTs b = .ok (t, p)) : writeTs p t = b := by
  by_cases h17 : 17 ≤ b.length
  · obtain ⟨c, rfl⟩ := TsCut.exists_of_le b h17
    obtain ⟨hl, hy, hmo, hd, hhh, hmi, hs, h1, h2, h3, hfr, -⟩ := (c.readTsWith_text _ t p).1 hr
    have hrest : (if p.fracDigits = 0 then [] else [46] ++ pad p.fracDigits (t.ns / p.unit)) = c.rest := by
      rw [c.length_text, Prec.len] at hl
      by_cases h0 : p.fracDigits = 0
      · rw [if_pos h0] at hl ⊢
        exact (List.eq_nil_of_length_eq_zero (by omega)).symm
      · rw [if_neg h0] at hl hfr ⊢
        obtain ⟨sep, ds, f, hr, hsep, hf, hns⟩ := hfr
        have hu : 0 < p.unit := by cases p <;> decide
        rw [hr, List.length_cons] at hl
        rw [hr, hns, Nat.mul_div_cancel _ hu, pad_of_fixedNum hf (by omega), of_decide_eq_true hsep]; rfl
    rw [writeTs, hrest, pad_of_fixedNum hy c.hy, pad_of_fixedNum hmo c.hmo, pad_of_fixedNum hd c.hd,
      pad_of_fixedNum hhh c.hhh, pad_of_fixedNum hmi c.hmi, pad_of_fixedNum hs c.hs, TsCut.text, h1, h2, h3]
    simp only [List.append_assoc, List.cons_append, List.nil_append]
  · rw [readTs, readTsWith_short _ _ (by omega)] at hr; cases hr

theorem tsShape_append (i : Nat) (a b : Bytes) : tsShape i (a ++ b) = (tsShape i a && tsShape (i + a.length) b) := by
  induction a generalizing i with
  | nil => simp [tsShape]
  | cons x a ih => simp only [List.cons_append, tsShape, ih, List.length_cons, Bool.and_assoc, Nat.add_assoc, Nat.add_comm 1]

/-- away from the separator positions the shape asks for digits -/
theorem tsShape_digits (i : Nat) (a : Bytes) (h : ∀ j, i ≤ j → j < i + a.length → j ≠ 8 ∧ j ≠ 11 ∧ j ≠ 14 ∧ j ≠ 17) :
    tsShape i a = a.all isDigit := by
  induction a generalizing i with
  | nil => rfl
  | cons x a ih =>
    have hi := h i (Nat.le_refl _) (by simp)
    rw [tsShape, List.all_cons, ih (i + 1) (fun j h1 h2 => h j (by omega) (by simp only [List.length_cons]; omega))]
    simp [tsClassAt, hi]

theorem tsShape_frac (sep : Nat) (ds : Bytes) : tsShape 17 (sep :: ds) = (sep == 46 && ds.all isDigit) := by
  rw [tsShape, tsShape_digits 18 ds (by omega)]; rfl

namespace TsCut

theorem tsShape_text (c : TsCut) :
    tsShape 0 c.text = (c.y.all isDigit && (c.mo.all isDigit && (c.d.all isDigit && (c.c1 == 45 && (c.hh.all isDigit &&
      (c.c2 == 58 && (c.mi.all isDigit && (c.c3 == 58 && (c.s.all isDigit && tsShape 17 c.rest))))))))) := by
  simp only [text, tsShape_append, tsShape, c.hy, c.hmo, c.hd, c.hhh, c.hmi, c.hs, tsClassAt]
  rw [tsShape_digits 0 c.y (by rw [c.hy]; omega), tsShape_digits _ c.mo (by rw [c.hmo]; omega),
    tsShape_digits _ c.d (by rw [c.hd]; omega), tsShape_digits _ c.hh (by rw [c.hhh]; omega),
    tsShape_digits _ c.mi (by rw [c.hmi]; omega), tsShape_digits _ c.s (by rw [c.hs]; omega)]
  rfl

theorem grammar_text (c : TsCut) (maxSec : Nat) :
    TsGrammar maxSec c.text = (tsLenOK c.text.length && tsShape 0 c.text &&
      (1 ≤ digitsVal c.mo && digitsVal c.mo ≤ 12 && 1 ≤ digitsVal c.d && digitsVal c.d ≤ daysIn (digitsVal c.mo) (digitsVal c.y) &&
       digitsVal c.hh < 24 && digitsVal c.mi < 60 && digitsVal c.s ≤ maxSec)) := by
  obtain ⟨k1, k2, k3, -, k5, -, k7, -, k9, -⟩ := c.coords
  simp only [TsGrammar, tsFields, slice, List.drop_zero, k1, k2, k3, k5, k7, k9]
end TsCut

theorem tsLenOK_iff {n : Nat} : tsLenOK n = true ↔ ∃ p : Prec, n = p.len := by
  constructor
  · intro h
    simp only [tsLenOK, Bool.or_eq_true, beq_iff_eq] at h
    rcases h with ((h | h) | h) | h
    · exact ⟨.seconds, h⟩
    · exact ⟨.millis, h⟩
    · exact ⟨.micros, h⟩
    · exact ⟨.nanos, h⟩
  · rintro ⟨p, rfl⟩; cases p <;> rfl

theorem ts_accept_iff_grammar (b : Bytes) : (readTs b).isOk = TsGrammar 59 b := by
  by_cases h17 : b.length < 17
  · rw [readTs, readTsWith_short _ _ (by omega), TsGrammar]
    have : tsLenOK b.length = false := by
      simp only [tsLenOK, Bool.or_eq_false_iff, beq_eq_false_iff_ne]; omega
    rw [this]; rfl
  obtain ⟨c, rfl⟩ := TsCut.exists_of_le b (by omega)
  rw [Bool.eq_iff_iff, Res.isOk_iff, c.grammar_text, c.tsShape_text]
  simp only [Bool.and_eq_true, decide_eq_true_eq, beq_iff_eq]
  constructor
  · rintro ⟨⟨t, p⟩, hr⟩
    obtain ⟨hl, hy, hmo, hd, hhh, hmi, hs, h1, h2, h3, hfr, r1, r2, r3, r4, r5, r6, r7⟩ := (c.readTsWith_text _ t p).1 hr
    obtain ⟨ay, ey⟩ := fixedNum_eq_some.1 hy
    obtain ⟨amo, emo⟩ := fixedNum_eq_some.1 hmo
    obtain ⟨ad, ed⟩ := fixedNum_eq_some.1 hd
    obtain ⟨ahh, ehh⟩ := fixedNum_eq_some.1 hhh
    obtain ⟨ami, emi⟩ := fixedNum_eq_some.1 hmi
    obtain ⟨as, es⟩ := fixedNum_eq_some.1 hs
    rw [ey, emo, ed, ehh, emi, es]
    refine ⟨⟨tsLenOK_iff.2 ⟨p, hl⟩, ay, amo, ad, h1, ahh, h2, ami, h3, as, ?_⟩, ⟨⟨⟨⟨⟨⟨r1, r2⟩, r6⟩, r7⟩, r3⟩, r4⟩, by omega⟩⟩
    rw [c.length_text, Prec.len] at hl
    by_cases h0 : p.fracDigits = 0
    · rw [if_pos h0] at hl
      rw [List.eq_nil_of_length_eq_zero (by omega : c.rest.length = 0)]; rfl
    · rw [if_neg h0] at hfr
      obtain ⟨sep, ds, f, hr, hsep, hf, -⟩ := hfr
      rw [hr, tsShape_frac, (fixedNum_eq_some.1 hf).1, of_decide_eq_true hsep]; rfl
  · rintro ⟨⟨hlen, ay, amo, ad, h1, ahh, h2, ami, h3, as, hsh⟩, ⟨⟨⟨⟨⟨⟨r1, r2⟩, r6⟩, r7⟩, r3⟩, r4⟩, r5⟩⟩
    obtain ⟨p, hl⟩ := tsLenOK_iff.1 hlen
    have ⟨ns, hns⟩ : ∃ ns, if p.fracDigits = 0 then ns = 0 else
        ∃ sep ds f, c.rest = sep :: ds ∧ decide (sep = 46) = true ∧ fixedNum ds = some f ∧ ns = f * p.unit := by
      by_cases h0 : p.fracDigits = 0
      · exact ⟨0, by rw [if_pos h0]⟩
      · rw [c.length_text, Prec.len, if_neg h0] at hl
        rcases hr : c.rest with _ | ⟨sep, ds⟩
        · rw [hr] at hl; simp at hl; omega
        · rw [hr, tsShape_frac, Bool.and_eq_true, beq_iff_eq] at hsh
          exact ⟨_, by rw [if_neg h0]; exact ⟨sep, ds, _, rfl, decide_eq_true hsh.1, fixedNum_eq_some.2 ⟨hsh.2, rfl⟩, rfl⟩⟩
    exact ⟨(⟨_, _, _, _, _, _, ns⟩, p), (c.readTsWith_text _ _ p).2 ⟨hl, fixedNum_eq_some.2 ⟨ay, rfl⟩,
      fixedNum_eq_some.2 ⟨amo, rfl⟩, fixedNum_eq_some.2 ⟨ad, rfl⟩, fixedNum_eq_some.2 ⟨ahh, rfl⟩, fixedNum_eq_some.2 ⟨ami, rfl⟩,
      fixedNum_eq_some.2 ⟨as, rfl⟩, h1, h2, h3, hns, r1, r2, r3, r4, Nat.lt_succ_of_le r5, r6, r7⟩⟩
end Qfx
