/-
  Lemmas for C12_exact: `wfFrame` = the shape `frameThen v ds body' ck []` (both directions); on  junk ++ frame ++ rest  with junk free of
  "8=" and a frame of that shape `nextFrame` returns exactly (frame, rest); a stream of such frames between junk is taken apart into them.
-/
import Qfx.Lemmas.Framer
namespace Qfx.Framer
open Qfx Qfx.Spec

theorem indexOf_skip (d0 : Nat) (dt : Bytes) : ∀ (a b : Bytes), (∀ x ∈ a, x ≠ d0) → (d0 :: dt).isPrefixOf b = true →
    indexOf (d0 :: dt) (a ++ b) = some a.length := by
  intro a
  induction a with
  | nil =>
    intro b _ hb
    cases b with
    | nil => simp [List.isPrefixOf] at hb
    | cons y ys => simp [indexOf, hb]
  | cons x xs ih =>
    intro b ha hb
    have hx : x ≠ d0 := ha x (by simp)
    have hnp : (d0 :: dt).isPrefixOf (x :: (xs ++ b)) = false := by
      simp only [List.isPrefixOf, Bool.and_eq_false_imp, beq_iff_eq]
      intro h; exact absurd h.symm hx
    simp only [List.cons_append, indexOf, hnp, Bool.false_eq_true, if_false]
    rw [ih b (fun y hy => ha y (by simp [hy])) hb]
    simp

/-- `s` and `k` are variables tied by equations, so that a caller proves the split `A ++ (a ++ b)` and the offset instead of bringing its goal into that form -/
theorem findFrom_at (s A a b : Bytes) (d0 : Nat) (dt : Bytes) (k : Nat) (hs : s = A ++ (a ++ b)) (hk : A.length = k)
    (ha : ∀ x ∈ a, x ≠ d0) (hb : (d0 :: dt).isPrefixOf b = true) : findFrom k (d0 :: dt) s = some (a.length + k) := by
  subst hs hk
  simp [findFrom, indexOf_skip d0 dt a b ha hb]

/-- also when the junk ends with '8': an "8=" that straddles the junk and the frame would need '8' = '=' -/
theorem indexOf_begin_junk : ∀ (j rest : Bytes), noBegin j = true → indexOf dBegin (j ++ 56 :: 61 :: rest) = some j.length := by
  intro j
  induction j with
  | nil => intro rest _; simp [indexOf, dBegin, List.isPrefixOf]
  | cons x xs ih =>
    intro rest hj
    unfold noBegin at hj
    simp only [indexOf] at hj
    split at hj
    · simp at hj
    · rename_i hnp
      have hxs : noBegin xs = true := by
        unfold noBegin
        cases hi : indexOf dBegin xs with
        | none => rfl
        | some k => simp [hi] at hj
      have hnp2 : dBegin.isPrefixOf (x :: (xs ++ 56 :: 61 :: rest)) = false := by
        cases xs with
        | nil => simp [dBegin, List.isPrefixOf]
        | cons y ys =>
          simp only [dBegin, List.isPrefixOf, Bool.and_true, List.cons_append] at hnp ⊢
          simpa using hnp
      simp only [List.cons_append, indexOf, hnp2, Bool.false_eq_true, if_false, ih rest hxs]
      simp

theorem noBegin_findFrom (j : Bytes) (h : noBegin j = true) : findFrom 0 dBegin j = none := by
  rw [findFrom_zero]
  unfold noBegin at h
  cases hi : indexOf dBegin j with
  | none => rfl
  | some k => simp [hi] at h

theorem splitSOH_spec (b a r : Bytes) (h : splitSOH b = some (a, r)) : b = a ++ 1 :: r ∧ (∀ x ∈ a, x ≠ 1) := by
  fun_induction splitSOH b generalizing a with
  | case1 => cases h
  | case2 xs => cases h; simp
  | case3 x xs hx ih =>
    obtain ⟨⟨a', r'⟩, hs, e⟩ := Option.map_eq_some_iff.1 h
    cases e
    obtain ⟨e, hn⟩ := ih a' hs
    exact ⟨by rw [e]; rfl, List.forall_mem_cons.2 ⟨hx, hn⟩⟩

/-- "8=" v SOH "9=" ds SOH body' SOH "10=" ck SOH, right-nested, followed by `r` -/
def frameThen (v ds body' ck r : Bytes) : Bytes :=
  56 :: 61 :: (v ++ 1 :: 57 :: 61 :: (ds ++ 1 :: (body' ++ 1 :: 49 :: 48 :: 61 :: (ck ++ 1 :: r))))

theorem frameThen_append (v ds body' ck r : Bytes) : frameThen v ds body' ck [] ++ r = frameThen v ds body' ck r := by
  simp [frameThen]

theorem frameThen_length (v ds body' ck r : Bytes) :
    (frameThen v ds body' ck r).length = v.length + ds.length + body'.length + ck.length + 11 + r.length := by
  simp [frameThen]; omega

theorem wfFrame_shape (m : Bytes) (h : wfFrame m = true) :
    ∃ v ds body' ck, m = frameThen v ds body' ck [] ∧ (∀ x ∈ v, x ≠ 1) ∧ ds ≠ [] ∧ ds.all isDigit = true ∧
      digitsVal ds = body'.length + 1 ∧ (∀ x ∈ ck, x ≠ 1) ∧ m.length < 9223372036854775807 := by
  unfold wfFrame at h
  simp only [Bool.and_eq_true, decide_eq_true_eq] at h
  obtain ⟨hlen, h⟩ := h
  revert h
  -- case1: both outer `splitSOH` succeed
  fun_cases wfShape m with
  | case1 r1 v r2 hs1 ds r3 hs2 =>
    intro h
    obtain ⟨e1, hv⟩ := splitSOH_spec _ _ _ hs1
    obtain ⟨e2, hds⟩ := splitSOH_spec _ _ _ hs2
    simp only [Bool.and_eq_true, Bool.not_eq_true', List.isEmpty_eq_false_iff, decide_eq_true_eq, beq_iff_eq] at h
    obtain ⟨⟨hne, hdd⟩, hpos, hlast, htr⟩ := h
    split at htr  -- on the trailer
    · rename_i r4 htr4
      split at htr  -- on `splitSOH r4`
      · rename_i ck hs3
        obtain ⟨e3, hck⟩ := splitSOH_spec _ _ _ hs3
        have hr3 : r3 = r3.take (digitsVal ds) ++ r3.drop (digitsVal ds) := (List.take_append_drop _ _).symm
        have hn : digitsVal ds < r3.length := by
          rcases Nat.lt_or_ge (digitsVal ds) r3.length with hlt | hge
          · exact hlt
          · rw [List.drop_eq_nil_of_le hge] at htr4; cases htr4
        have hbl : (r3.take (digitsVal ds)).length = digitsVal ds := by
          rw [List.length_take]; omega
        obtain ⟨body', hb'⟩ : ∃ body', r3.take (digitsVal ds) = body' ++ [1] :=
          List.getLast?_eq_some_iff.1 hlast
        refine ⟨v, ds, body', ck, ?_, hv, hne, hdd, ?_, hck, hlen⟩
        · unfold frameThen
          rw [e1, e2, hr3, hb', htr4, e3]
          simp
        · rw [← hbl, hb']; simp
      · simp at htr
    · simp at htr
  | case2 | case3 | case4 => intro h; cases h

theorem take_drop_mid (A X R : Bytes) : ((A ++ (X ++ R)).take (A.length + X.length)).drop A.length = X := by
  rw [← List.append_assoc, List.take_left' (by simp), List.drop_left]

theorem digit_ne_soh (ds : Bytes) (h : ds.all isDigit = true) : ∀ x ∈ ds, x ≠ 1 :=
  fun _ hx e => all_digit_ne ds h 1 (by decide) (e ▸ hx)

/-- on a well-formed frame `bodyEnd` (what `jumpLength` computes) is the offset of the SOH that ends the body -/
theorem bodyEnd_shape (ee : String) (v ds body' ck r : Bytes) (hv : ∀ x ∈ v, x ≠ 1) (hne : ds ≠ []) (hdd : ds.all isDigit = true)
    (hval : digitsVal ds = body'.length + 1)
    (hlen : (frameThen v ds body' ck []).length < 9223372036854775807) :
    bodyEnd true ee (frameThen v ds body' ck r) = .ok ((v.length + ds.length + body'.length + 6 : Nat) : Int) := by
  have h2 : findFrom 0 dLen (frameThen v ds body' ck r) = some (v.length + 2) :=
    (findFrom_at _ [] (56 :: 61 :: v) (1 :: 57 :: 61 :: (ds ++ 1 :: (body' ++ 1 :: 49 :: 48 :: 61 :: (ck ++ 1 :: r)))) 1 [57, 61] 0
      rfl rfl (List.forall_mem_cons.2 ⟨by decide, List.forall_mem_cons.2 ⟨by decide, hv⟩⟩) rfl).trans (by simp)
  have h3 : findFrom (v.length + 2 + 3) dSOH (frameThen v ds body' ck r) = some (ds.length + (v.length + 2 + 3)) :=
    findFrom_at _ (56 :: 61 :: (v ++ [1, 57, 61])) ds (1 :: (body' ++ 1 :: 49 :: 48 :: 61 :: (ck ++ 1 :: r))) 1 [] _
      (by simp only [frameThen, List.cons_append, List.append_assoc, List.nil_append]) (by simp) (digit_ne_soh ds hdd) rfl
  have h4 : ((frameThen v ds body' ck r).take (ds.length + (v.length + 2 + 3))).drop (v.length + 2 + 3) = ds := by
    have e : frameThen v ds body' ck r = (56 :: 61 :: (v ++ [1, 57, 61])) ++
        (ds ++ 1 :: (body' ++ 1 :: 49 :: 48 :: 61 :: (ck ++ 1 :: r))) := by simp [frameThen]
    have hl : (56 :: 61 :: (v ++ [1, 57, 61])).length = v.length + 2 + 3 := by simp
    rw [e, Nat.add_comm ds.length, ← hl]
    exact take_drop_mid _ _ _
  have hdl : 0 < ds.length := by
    cases ds with
    | nil => exact absurd rfl hne
    | cons _ _ => simp
  rw [frameThen_length, List.length_nil] at hlen
  unfold bodyEnd
  simp only [h2, h3, h4, atoi_digits' ds hne hdd, hval]
  -- what is left is arithmetic on the three lengths
  clear h2 h3 h4 hv hdd hval hne
  generalize v.length = a at *
  generalize ds.length = b at *
  generalize body'.length = c at *
  have hne3 : ¬ (b + (a + 2 + 3) = a + 2 + 3) := by omega
  rw [if_neg hne3, wrap64_natCast (by omega : c + 1 < 9223372036854775807), ← Int.natCast_add,
    wrap64_natCast (by omega : b + (a + 2 + 3) + (c + 1) < 9223372036854775807)]
  have hpos : ¬ (((c + 1 : Nat) : Int) ≤ 0) := by omega
  have hg : ¬ (((b + (a + 2 + 3) + (c + 1) : Nat) : Int) < ((b + (a + 2 + 3) : Nat) : Int)) := by omega
  simp only [hpos, if_false, Bool.true_and, decide_eq_true_eq, hg]
  rw [show b + (a + 2 + 3) + (c + 1) = a + b + c + 6 by omega]

theorem nextFrame_shape (ee : String) (j v ds body' ck r : Bytes) (hj : noBegin j = true) (hv : ∀ x ∈ v, x ≠ 1) (hne : ds ≠ [])
    (hdd : ds.all isDigit = true) (hval : digitsVal ds = body'.length + 1) (hck : ∀ x ∈ ck, x ≠ 1)
    (hlen : (frameThen v ds body' ck []).length < 9223372036854775807) :
    nextFrame true ee (j ++ frameThen v ds body' ck r) = .ok (frameThen v ds body' ck [], r) := by
  have h1 : findFrom 0 dBegin (j ++ frameThen v ds body' ck r) = some j.length := by
    rw [findFrom_zero]; exact indexOf_begin_junk j _ hj
  have hd : (j ++ frameThen v ds body' ck r).drop j.length = frameThen v ds body' ck r := List.drop_left
  have hbe := bodyEnd_shape ee v ds body' ck r hv hne hdd hval hlen
  have h4 : findFrom (v.length + ds.length + body'.length + 6) dCk (frameThen v ds body' ck r) =
      some (v.length + ds.length + body'.length + 6) :=
    (findFrom_at _ (56 :: 61 :: (v ++ 1 :: 57 :: 61 :: (ds ++ 1 :: body'))) [] (1 :: 49 :: 48 :: 61 :: (ck ++ 1 :: r)) 1 [49, 48, 61] _
      (by simp only [frameThen, List.cons_append, List.append_assoc, List.nil_append])
      (by simp only [List.length_cons, List.length_append]; omega) nofun rfl).trans (by simp)
  have h5 : findFrom (v.length + ds.length + body'.length + 6 + 1) dSOH (frameThen v ds body' ck r) =
      some (ck.length + 3 + (v.length + ds.length + body'.length + 6 + 1)) :=
    (findFrom_at _ (56 :: 61 :: (v ++ 1 :: 57 :: 61 :: (ds ++ 1 :: (body' ++ [1])))) (49 :: 48 :: 61 :: ck) (1 :: r) 1 [] _
      (by simp only [frameThen, List.cons_append, List.append_assoc, List.nil_append])
      (by simp only [List.length_cons, List.length_append, List.length_nil]; omega) 
      (List.forall_mem_cons.2 ⟨by decide, List.forall_mem_cons.2 ⟨by decide, List.forall_mem_cons.2 ⟨by decide, hck⟩⟩⟩) rfl).trans (by simp)
  have hfl := frameThen_length v ds body' ck []
  simp only [List.length_nil] at hfl
  unfold nextFrame
  simp only [h1, hd, hbe]
  have hn : ¬ (((v.length + ds.length + body'.length + 6 : Nat) : Int) < 0) := Int.not_lt.2 (Int.natCast_nonneg _)
  simp only [hn, if_false, Int.toNat_natCast, h4, h5]
  rw [← frameThen_append v ds body' ck r]
  have hl : (frameThen v ds body' ck []).length = ck.length + 3 + (v.length + ds.length + body'.length + 6 + 1) + 1 := by
    omega
  rw [List.take_left' hl, List.drop_left' hl]

theorem nextFrame_wf (ee : String) (j m r : Bytes) (hj : noBegin j = true) (hm : wfFrame m = true) :
    nextFrame true ee (j ++ (m ++ r)) = .ok (m, r) := by
  obtain ⟨v, ds, body', ck, e, hv, hne, hdd, hval, hck, hlen⟩ := wfFrame_shape m hm
  subst e
  rw [frameThen_append]
  exact nextFrame_shape ee j v ds body' ck r hj hv hne hdd hval hck hlen

theorem framesWhole_parts (ee : String) : ∀ (ms : List (Bytes × Bytes)) (j0 : Bytes),
    Parts.ok ⟨j0, ms⟩ = true →
    framesWholeG true ee (Parts.stream ⟨j0, ms⟩) = { frames := Parts.msgs ⟨j0, ms⟩, end_ := .err ee } := by
  intro ms
  induction ms with
  | nil =>
    intro j0 h
    simp only [Parts.ok, List.all_nil, Bool.and_true] at h
    simp only [Parts.stream, List.map_nil, List.flatten_nil, List.append_nil, Parts.msgs]
    have : nextFrame true ee j0 = .err ee := by
      unfold nextFrame; simp only [noBegin_findFrom j0 h]
    rw [framesWholeG_unfold, this]
  | cons mj rest ih =>
    intro j0 h
    obtain ⟨m, j⟩ := mj
    simp only [Parts.ok, List.all_cons, Bool.and_eq_true] at h
    obtain ⟨hj0, ⟨hm, hj⟩, hrest⟩ := h
    have hok : Parts.ok ⟨j, rest⟩ = true := by
      simp only [Parts.ok, Bool.and_eq_true]; exact ⟨hj, hrest⟩
    have hs : Parts.stream ⟨j0, (m, j) :: rest⟩ = j0 ++ (m ++ Parts.stream ⟨j, rest⟩) := by
      simp [Parts.stream]
    have hnf := nextFrame_wf ee j0 m (Parts.stream ⟨j, rest⟩) hj0 hm
    rw [hs, framesWholeG_unfold, hnf]
    simp [ih j hok, Parts.msgs]

theorem mkParts_stream : ∀ (toks : List (Bool × Bytes)), (mkParts toks).stream = (toks.map (·.2)).flatten := by
  intro toks
  induction toks with
  | nil => simp [mkParts, Parts.stream]
  | cons t r ih =>
    obtain ⟨b, x⟩ := t
    cases b with
    | false =>
      simp only [mkParts, List.map_cons, List.flatten_cons, ← ih]
      simp [Parts.stream]
    | true =>
      simp only [mkParts, List.map_cons, List.flatten_cons, ← ih]
      simp [Parts.stream]

theorem splitSOH_append : ∀ (a r : Bytes), (∀ x ∈ a, x ≠ 1) → splitSOH (a ++ 1 :: r) = some (a, r) := by
  intro a
  induction a with
  | nil => intro r _; simp [splitSOH]
  | cons x xs ih =>
    intro r h
    have hx : x ≠ 1 := h x (by simp)
    simp only [List.cons_append, splitSOH, hx, if_false, ih r (fun y hy => h y (by simp [hy]))]
    rfl

theorem wfFrame_of_shape (v ds body' ck : Bytes) (hv : ∀ x ∈ v, x ≠ 1) (hne : ds ≠ []) (hdd : ds.all isDigit = true)
    (hval : digitsVal ds = body'.length + 1) (hck : ∀ x ∈ ck, x ≠ 1)
    (hlen : (frameThen v ds body' ck []).length < 9223372036854775807) :
    wfFrame (frameThen v ds body' ck []) = true := by
  have hds := digit_ne_soh ds hdd
  have e3 : ds ++ 1 :: (body' ++ 1 :: 49 :: 48 :: 61 :: (ck ++ [1])) =
      ds ++ 1 :: ((body' ++ [1]) ++ 49 :: 48 :: 61 :: (ck ++ [1])) := by rw [List.append_assoc]; rfl
  have hl : (body' ++ [1]).length = body'.length + 1 := List.length_append
  unfold wfFrame
  simp only [hlen, decide_true, Bool.true_and]
  unfold wfShape
  simp only [frameThen]
  rw [splitSOH_append v _ hv]
  simp only
  rw [e3, splitSOH_append ds _ hds]
  simp only [hval, ← hl, List.take_left, List.drop_left, splitSOH_append ck [] hck]
  have : ds.isEmpty = false := List.isEmpty_eq_false_iff.2 hne
  simp [this, hdd]

end Qfx.Framer
