/-
  What a handler of Qfx.Model.Session can do to the session while it processes an inbound message `m`: the handler tree walked
  once for every relation that is shown step by step.  `Act m x y` is one step, with what the model has established about `m`
  and `x` where it takes it (a Logon is shown to the application before the session-level checks, every other message after);
  `Does m k b s x`: `x` is reached from `s` by such steps, at most `k` of them ResendRequests and, if `b`, none the sending of a
  Logout; `Ret m k s r` judges a handler's result (session, next state), `b` read off the next state.  The theorems `Ret.f` /
  `Does.f` take the steps done so far and speak of `f x m`, so a proof can stop at any function and go on by hand.

  To show that the handlers keep a relation `R`: prove `R x y` for every `Act m x y` by `cases` (the hypotheses of an arm are the
  guards; one that contradicts what is assumed of `m` or the configuration closes the arm), then `Does.fold`, whose arms `act` and
  `logout` are also handed `x.st = s.st` and `x.cfg = s.cfg`.  A relation that counts ResendRequests uses the grade `k`, one that a
  Logout weakens the flag `b`; a statement about the state asked for is a `cases` on `Nx`.

  What `Act` does not give: `Act.quiet` stands for every `setHb`, `setSentReset` and `setReplyLast`, with arbitrary values and no
  guard, so nothing about `hb`, `sentReset` or `replyLast` follows from `Act`.
-/
import Qfx.Lemmas.SessVerify
import Qfx.Lemmas.SessPrim
namespace Qfx.Sess
open Qfx

theorem earlyCheck_congr {s x : Sess} (m : InMsg) (hst : x.st = s.st) (hcfg : x.cfg = s.cfg) : earlyCheck x m = earlyCheck s m := by
  unfold earlyCheck checkBeginString checkCompID checkSendingTime
  rw [curResend_congr hst hcfg, hcfg]

/-- the replies that go through `sendInReplyTo` -/
inductive IsReply (x : Sess) (m : InMsg) : OutMsg → Prop
  | reject (r : Nat) (t : Option Nat) (b : Bool) : IsReply x m ((rejectMsg x.cfg m r t b).inReplyTo m)
  | heartbeat (id : String) : m.f.get? 112 = some id → IsReply x m ((mkOut "0" [(112, id)]).inReplyTo m)

theorem IsReply.kind {x : Sess} {m : InMsg} {o : OutMsg} (h : IsReply x m o) : o.kind ∈ replyKinds := by
  cases h with
  | reject r t b => exact rejectMsg_replyKind x.cfg m r t b
  | heartbeat id _ => exact (by decide : "0" ∈ replyKinds)

/-- the two Logouts that go through `sendInReplyTo` -/
inductive IsLogout (m : InMsg) : OutMsg → Prop
  | new : IsLogout m (mkOut "5" [])
  | re : IsLogout m ((mkOut "5" []).inReplyTo m)

/-- where the model resets the store while handling `m`: ResetOnLogout, the acceptor's ResetOnLogon, the peer's ResetSeqNumFlag -/
def ResetAt (x : Sess) (m : InMsg) : Prop :=
  (kindOf m = "5" ∧ x.cfg.resetOnLogout = true) ∨
  (kindOf m = "A" ∧ ((x.cfg.initiator = false ∧ x.cfg.resetOnLogon = true) ∨ (logonResetFlag m = true ∧ x.sentReset = false)))

theorem ResetAt.kind {x : Sess} {m : InMsg} (h : ResetAt x m) : kindOf m = "5" ∨ kindOf m = "A" := h.imp And.left And.left

theorem resetAt_logon {x : Sess} {m : InMsg} (hk : kindOf m = "A")
    (h : ((if x.cfg.initiator then false else x.cfg.resetOnLogon) || logonResetFlag m && !x.sentReset) = true) : ResetAt x m := by
  refine Or.inr ⟨hk, ?_⟩
  simp only [Bool.or_eq_true, Bool.and_eq_true, Bool.not_eq_true'] at h
  rcases h with h | h
  · cases hi : x.cfg.initiator
    · rw [hi] at h; exact Or.inl ⟨rfl, h⟩
    · rw [hi] at h; cases h
  · exact Or.inr h

inductive Act (m : InMsg) : Sess → Sess → Prop
  /-- every `setHb`, `setSentReset`, `setReplyLast`: the values and the call sites are not recorded -/
  | quiet (x : Sess) (hb : Int) (sr : Bool) (rl : Option Int) : Act m x { x with hb := hb, sentReset := sr, replyLast := rl }
  | refresh (x : Sess) : Act m x (x.emit .refresh)
  | arm (x : Sess) (n : Int) : Act m x (x.emit (.armPeer n))
  /-- FromAdmin / FromApp: the validator has no objection; a Logon is shown to the application before the session-level checks
      (`handleLogon` calls `verifyAppImpl` first), every other message after them -/
  | callback (x : Sess) : validate x.cfg m = none → (kindOf m = "A" ∨ earlyCheck x m = none) → Act m x (x.emit (cbOf x m))
  /-- the logon notification: only for a Logon that the validator, the checks and the application have let pass -/
  | onLogon (x : Sess) : kindOf m = "A" → validate x.cfg m = none → earlyCheck x m = none → callbackVerdict m = none → Act m x (x.emit .onLogon)
  | incrTarget (x : Sess) : Act m x (Sess.incrTarget x)
  | setT (x : Sess) (n : Int) : x.store.target < n → Act m x ((x.setTarget n).emit (.setT n))
  /-- a Reject of `m` or the Heartbeat answering a TestRequest; a Logout is a step of `Does`, not of `Act` -/
  | reply (x : Sess) (o : OutMsg) : IsReply x m o → Act m x (sendInReplyTo x o)
  /-- what the resend machinery and the implied gap fill of a Logon hand to `enqueueAndSend` -/
  | replay (x : Sess) (o : OutMsg) : o.Replay → Act m x (enqueueAndSend x o)
  | reset (x : Sess) : ResetAt x m → Act m x (dropAndReset x)
  /-- the acceptor's answer to the Logon `m`, echoing its ResetSeqNumFlag -/
  | logonRe (x : Sess) : kindOf m = "A" → Act m x (sendLogonRe x (logonResetFlag m) m)

theorem Act.frame {m : InMsg} {x y : Sess} (h : Act m x y) : Fr x y := by
  cases h with
  | reply o _ => exact frPrim.sendInReplyTo x o
  | replay o _ => exact frPrim.enqueueAndSend x o
  | logonRe _ => exact frPrim.dropAndSend x _
  | _ => exact ⟨rfl, rfl, rfl, rfl, rfl⟩

/-- `k` and `b` are bounds: `mono` lets `k` grow and `b` drop -/
inductive Does (m : InMsg) : Nat → Bool → Sess → Sess → Prop
  | refl (s : Sess) : Does m 0 true s s
  | act {k : Nat} {b : Bool} {s x y : Sess} : Does m k b s x → Act m x y → Does m k b s y
  | rr {k : Nat} {b : Bool} {s x : Sess} (b' e : Int) : Does m k b s x → Does m (k + 1) b s (sendResendRequest x b' e).1
  | logout {k : Nat} {b : Bool} {s x : Sess} {o : OutMsg} : Does m k b s x → IsLogout m o → Does m k false s (sendInReplyTo x o)
  | logoutDrop {k : Nat} {b : Bool} {s x : Sess} : Does m k b s x → Does m k false s (dropAndSend x ((mkOut "5" []).inReplyTo m))
  | mono {j k : Nat} {b b' : Bool} {s x : Sess} : Does m j b s x → j ≤ k → (b' = true → b = true) → Does m k b' s x

theorem Does.frame {m : InMsg} {k : Nat} {b : Bool} {s x : Sess} (h : Does m k b s x) : Fr s x := by
  induction h with
  | refl s => exact Fr.refl s
  | act _ a ih => exact ih.trans a.frame
  | rr b e _ ih => exact ih.trans (frPrim.sendResendRequest _ b e)
  | logout _ _ ih => exact ih.trans (frPrim.sendInReplyTo _ _)
  | logoutDrop _ ih => exact ih.trans (frPrim.dropAndSend _ _)
  | mono _ _ _ ih => exact ih

theorem Does.fold {m : InMsg} {R : Nat → Bool → Sess → Sess → Prop} (refl : ∀ s, R 0 true s s)
    (act : ∀ {k b s x y}, R k b s x → x.st = s.st → x.cfg = s.cfg → Act m x y → R k b s y)
    (rr : ∀ {k b s x} (b' e : Int), R k b s x → R (k + 1) b s (sendResendRequest x b' e).1)
    (logout : ∀ {k b s x o}, R k b s x → x.st = s.st → x.cfg = s.cfg → IsLogout m o → R k false s (sendInReplyTo x o))
    (logoutDrop : ∀ {k b s x}, R k b s x → R k false s (dropAndSend x ((mkOut "5" []).inReplyTo m)))
    (mono : ∀ {j k b b' s x}, R j b s x → j ≤ k → (b' = true → b = true) → R k b' s x)
    {k : Nat} {b : Bool} {s x : Sess} (h : Does m k b s x) : R k b s x := by
  induction h with
  | refl s => exact refl s
  | act d a ih => exact act ih d.frame.1 d.frame.2 a
  | rr b e _ ih => exact rr b e ih
  | logout d o ih => exact logout ih d.frame.1 d.frame.2 o
  | logoutDrop _ ih => exact logoutDrop ih
  | mono _ hjk hb ih => exact mono ih hjk hb

namespace Does
variable {m : InMsg} {k : Nat} {b : Bool} {s x : Sess}

theorem trans {j : Nat} {b' : Bool} {y : Sess} (h1 : Does m j b s x) (h2 : Does m k b' x y) : Does m (j + k) (b' && b) s y := by
  induction h2 with
  | refl _ => exact h1
  | act _ a ih => exact (ih h1).act a
  | rr b e _ ih => exact (ih h1).rr b e
  | logout _ o ih => exact (ih h1).logout o
  | logoutDrop _ ih => exact (ih h1).logoutDrop
  | mono _ hjk hb ih => exact (ih h1).mono (by omega) (by intro h; simp only [Bool.and_eq_true] at h ⊢; exact ⟨hb h.1, h.2⟩)

theorem weaken (h : Does m k b s x) : Does m k false s x := h.mono (Nat.le_refl k) (fun h => nomatch h)

theorem guarded {c : Prop} [Decidable c] {y z : Sess} (ha : c → Does m k b s y) (hb : Does m k b s z) : Does m k b s (if c then y else z) := by
  split
  · exact ha ‹_›
  · exact hb

theorem incrTarget (h : Does m k b s x) : Does m k b s (Sess.incrTarget x) := h.act (.incrTarget x)
theorem doReject (r : Nat) (t : Option Nat) (bz : Bool) (h : Does m k b s x) : Does m k b s (Sess.doReject x m r t bz) :=
  h.act (.reply x _ (.reject r t bz))
theorem initiateLogout (h : Does m k b s x) : Does m k false s (Sess.initiateLogout x) := h.logout .new
theorem logoutRe (h : Does m k b s x) : Does m k false s (sendInReplyTo x ((mkOut "5" []).inReplyTo m)) := h.logout .re
theorem setHb (v : Int) (h : Does m k b s x) : Does m k b s (x.setHb v) := h.act (.quiet x v _ _)
theorem setSentReset (v : Bool) (h : Does m k b s x) : Does m k b s (x.setSentReset v) := h.act (.quiet x _ v _)
theorem setReplyLast (v : Option Int) (h : Does m k b s x) : Does m k b s (x.setReplyLast v) := h.act (.quiet x _ _ v)

theorem resendMessages (lo hi : Int) (h : Does m k b s x) : Does m k b s (Sess.resendMessages x lo hi) :=
  h.trans (resendMessages_rel (R := Does m 0 true) Does.refl (fun h1 h2 => h1.trans h2) (fun y o ho => (Does.refl y).act (.replay y o ho)) x lo hi)

end Does

def stashOf : SState → List (Int × InMsg)
  | .resend st _ _ | .pendingResend st _ _ => st
  | _ => []

theorem curResend_stash {s : Sess} {st : List (Int × InMsg)} {c f : Int} (h : curResend s = some (st, c, f)) : st = stashOf s.st := by
  unfold curResend at h
  split at h
  · rename_i heq; cases h; rw [heq]; rfl
  · rename_i heq
    split at h
    · cases h; rw [heq]; rfl
    · cases h
  · cases h

/-- the states a handler asks for; a resend state stashes messages of `M` only -/
inductive Nx (M : InMsg → Prop) : SState → Prop
  | inSession : Nx M .inSession
  | logout : Nx M .logout
  | latent : Nx M .latent
  | resend (st : List (Int × InMsg)) (c f : Int) : (∀ p ∈ st, M p.2) → Nx M (.resend st c f)

theorem Nx.mono {M M' : InMsg → Prop} {nx : SState} (h : Nx M nx) (hM : ∀ a, M a → M' a) : Nx M' nx := by
  cases h with
  | resend st c f hst => exact .resend st c f fun p hp => hM _ (hst p hp)
  | inSession => exact .inSession
  | logout => exact .logout
  | latent => exact .latent

/-- the message being handled and those the state has stashed -/
def inPlay (st0 : SState) (m : InMsg) (a : InMsg) : Prop := a = m ∨ ∃ p ∈ stashOf st0, p.2 = a

structure Ret (m : InMsg) (k : Nat) (s : Sess) (r : Sess × SState) : Prop where
  does : Does m k r.2.loggedOn s r.1
  nx : Nx (inPlay s.st m) r.2

/-- what a gap costs: one ResendRequest outside a recovery, none inside -/
def gapCost (s : Sess) : Nat := if (curResend s).isSome then 0 else 1

theorem verifySelect_does (s : Sess) (m : InMsg) (th tl ai : Bool) :
    (verifySelect s m th tl ai).1 = s ∨
      (earlyCheck s m = none ∧ validate s.cfg m = none ∧ verifySelect s m th tl ai = (s.emit (cbOf s m), callbackVerdict m)) := by
  rw [verifySelect_eq]
  cases hf : firstReject s m th tl with
  | some r => exact .inl rfl
  | none =>
    cases ai with
    | false => exact .inl rfl
    | true =>
      rw [if_pos rfl, verifyAppImpl_eq]
      cases hv : validate s.cfg m with
      | some r => exact .inl rfl
      | none => exact .inr ⟨((firstReject_none_iff s m th tl).1 hf).1, rfl, rfl⟩

theorem verifySelect_checked {s x : Sess} {m : InMsg} {th tl ai : Bool} (h : verifySelect s m th tl ai = (x, none)) : earlyCheck s m = none := by
  rw [verifySelect_eq] at h
  cases hf : firstReject s m th tl with
  | some r => rw [hf] at h; cases h
  | none => exact ((firstReject_none_iff s m th tl).1 hf).1

namespace Ret
variable {m : InMsg} {k : Nat} {s x : Sess}

theorem mono {j : Nat} {r : Sess × SState} (h : Ret m j s r) (hjk : j ≤ k) : Ret m k s r := ⟨h.does.mono hjk id, h.nx⟩

theorem doTargetTooLow (h : Does m k true s x) : Ret m k s (Sess.doTargetTooLow x m) := by
  -- leaves in source order; case2: not PossDup; case7: sent before the original; case8: passes
  fun_cases Sess.doTargetTooLow x m with
  | case1 | case3 | case4 => exact ⟨h.doReject _ _ _, .inSession⟩
  | case2 => exact ⟨h.initiateLogout, .logout⟩
  | case5 | case6 => exact ⟨(h.doReject _ _ _).incrTarget, .inSession⟩
  | case7 => exact ⟨(h.doReject _ _ _).initiateLogout, .logout⟩
  | case8 => exact ⟨h, .inSession⟩

theorem stashInsert_mem {M : InMsg → Prop} {st : List (Int × InMsg)} (n : Int) (hm : M m) (hs : ∀ p ∈ st, M p.2) :
    ∀ p ∈ stashInsert st n m, M p.2 := by
  intro p hp
  rcases List.mem_cons.1 hp with rfl | hp
  · exact hm
  · exact hs p (List.mem_filter.1 hp).1

/-- too high outside a recovery is the one verdict that costs a ResendRequest -/
theorem processReject (r : Rej) (h : Does m k true s x) : Ret m (k + gapCost s) s (Sess.processReject x m r) := by
  have low : ∀ {r'}, Ret m k s r' → Ret m (k + gapCost s) s r' := fun h => h.mono (Nat.le_add_right _ _)
  have hc : curResend x = curResend s := curResend_congr h.frame.1 h.frame.2
  unfold Sess.processReject
  split
  · split
    · rename_i st c f hcur
      refine low ⟨h, .resend _ _ _ (stashInsert_mem _ (Or.inl rfl) fun p hp => Or.inr ⟨p, ?_, rfl⟩)⟩
      rw [← h.frame.1, ← curResend_stash hcur]; exact hp
    · rename_i hcur
      have : gapCost s = 1 := by unfold gapCost; rw [← hc, hcur]; rfl
      rw [this]
      exact ⟨h.rr _ _, .resend _ _ _ (stashInsert_mem _ (Or.inl rfl) fun p hp => nomatch hp)⟩
  · exact low (doTargetTooLow h)
  · exact low ⟨h.initiateLogout, .logout⟩
  · exact low ⟨(h.doReject _ _ _).incrTarget, .inSession⟩
  · exact low (ite_both ⟨(h.doReject _ _ _).initiateLogout, .logout⟩ ⟨(h.doReject _ _ _).incrTarget, .inSession⟩)

theorem processReject_low (r : Rej) (hr : r.isHigh = false) (h : Does m k true s x) : Ret m k s (Sess.processReject x m r) := by
  cases r with
  | tooHigh a b => cases hr
  | tooLow a b => exact doTargetTooLow h
  | badBeginString => exact ⟨h.initiateLogout, .logout⟩
  | rejectLogon => exact ⟨(h.doReject _ _ _).incrTarget, .inSession⟩
  | plain a b c => exact ite_both ⟨(h.doReject _ _ _).initiateLogout, .logout⟩ ⟨(h.doReject _ _ _).incrTarget, .inSession⟩

theorem verifySelect {b : Bool} (th tl ai : Bool) (h : Does m k b s x) : Does m k b s (Sess.verifySelect x m th tl ai).1 := by
  rcases verifySelect_does x m th tl ai with he | ⟨hc, hv, he⟩
  · rw [he]; exact h
  · rw [he]; exact h.act (.callback x hv (Or.inr hc))

/-- a handler that verifies first: a failed verification is answered by `processReject`, which may spend the gap's
    ResendRequest only if the too-high check was asked for -/
theorem verified {j : Nat} {th tl ai : Bool} {F : Sess → Sess × SState} (hj : th = true → k + gapCost s ≤ j) (hkj : k ≤ j)
    (h : Does m k true s x) (hF : ∀ y, Does m k true s y → earlyCheck y m = none → Ret m j s (F y)) :
    Ret m j s (match Sess.verifySelect x m th tl ai with | (y, some r) => Sess.processReject y m r | (y, none) => F y) := by
  have hv := verifySelect th tl ai h
  split
  · rename_i y r he
    rw [he] at hv
    cases th with
    | true => exact (processReject r hv).mono (hj rfl)
    | false => exact (processReject_low r (verifySelect_notHigh (s := x) (m := m) (tl := tl) (ai := ai) (by rw [he])) hv).mono hkj
  · rename_i y he
    rw [he] at hv
    exact hF y hv ((earlyCheck_congr m (hv.frame.1.trans h.frame.1.symm) (hv.frame.2.trans h.frame.2.symm)).trans (verifySelect_checked he))

theorem handleLogout (hk : kindOf m = "5") (h : Does m k true s x) : Ret m k s (Sess.handleLogout x m) := by
  unfold Sess.handleLogout
  refine verified (fun hf => nomatch hf) (Nat.le_refl _) h fun y hy _ => ?_
  dsimp only
  have h1 : Does m k false s (if y.st.loggedOn then sendInReplyTo y ((mkOut "5" []).inReplyTo m) else y) := ite_both hy.logoutRe hy.weaken
  generalize (if y.st.loggedOn then sendInReplyTo y ((mkOut "5" []).inReplyTo m) else y) = z at h1
  split
  · rename_i hr; exact ⟨h1.act (.reset z (Or.inl ⟨hk, hr⟩)), .latent⟩
  · exact ite_both ⟨h1, .latent⟩ (ite_both ⟨h1, .latent⟩ ⟨h1.incrTarget, .latent⟩)

theorem handleTestRequest (h : Does m k true s x) : Ret m (k + gapCost s) s (Sess.handleTestRequest x m) := by
  unfold Sess.handleTestRequest
  refine verified (fun _ => Nat.le_refl _) (Nat.le_add_right _ _) h fun y hy _ => Ret.mono ⟨Does.incrTarget ?_, .inSession⟩ (Nat.le_add_right _ _)
  split
  · rename_i id hid; exact hy.act (.reply y _ (.heartbeat id hid))
  · exact hy

theorem seqResetCore (gf : Bool) (h : Does m k true s x) : Ret m (k + gapCost s) s (Sess.seqResetCore x m gf) := by
  unfold Sess.seqResetCore
  refine verified (fun _ => Nat.le_refl _) (Nat.le_add_right _ _) h fun y hy _ => Ret.mono ?_ (Nat.le_add_right _ _)
  split
  · split
    · rename_i hgt; exact ⟨hy.act (.setT y _ hgt), .inSession⟩
    · exact ite_both ⟨hy.doReject _ _ _, .inSession⟩ ⟨hy, .inSession⟩
  · exact ⟨hy, .inSession⟩

theorem handleSequenceReset (h : Does m k true s x) : Ret m (k + gapCost s) s (Sess.handleSequenceReset x m) := by
  unfold Sess.handleSequenceReset
  split
  · exact (processReject_low _ rfl h).mono (Nat.le_add_right _ _)
  · exact seqResetCore _ h

theorem handleResendRequest (h : Does m k true s x) : Ret m k s (Sess.handleResendRequest x m) := by
  unfold Sess.handleResendRequest
  refine verified (fun hf => nomatch hf) (Nat.le_refl _) h fun y hy _ => ?_
  split
  · split
    · dsimp only
      generalize hz : Sess.resendMessages _ _ _ = z
      have h1 : Does m k true s z := hz ▸ (hy.setReplyLast _).resendMessages _ _
      exact ite_both ⟨h1, .inSession⟩ (ite_both ⟨h1, .inSession⟩ ⟨h1.incrTarget, .inSession⟩)
    · exact processReject_low _ rfl hy
  · exact processReject_low _ rfl hy

theorem plain (h : Does m k true s x) : Ret m (k + gapCost s) s (plainFixMsgIn x m) := by
  unfold plainFixMsgIn
  exact verified (fun _ => Nat.le_refl _) (Nat.le_add_right _ _) h fun y hy _ => Ret.mono ⟨hy.incrTarget, .inSession⟩ (Nat.le_add_right _ _)

end Ret

namespace Does
variable {m : InMsg} {k : Nat} {b : Bool} {s x : Sess}

theorem logonReply (hk : kindOf m = "A") (h : Does m k b s x) : Does m k b s (Sess.logonReply x m (logonResetFlag m)) := by
  rw [logonReply_base]
  have hb : Does m k b s (replyBase x m) := by
    unfold replyBase
    split
    · split
      · exact h.setHb _
      · exact h
    · exact h
  exact ite_both (ite_both hb (hb.act (.logonRe _ hk))) h

theorem nxEval (ns : Int) (h : Does m k b s x) : Does m k b s (Sess.nxEval x m ns).1 := by
  -- case1: the gap fill
  fun_cases Sess.nxEval x m ns with
  | case1 => exact h.act (.replay x _ (replay_gapFillRe x m _ _))
  | _ => exact h

theorem logonFinish (ns : Int) (hk : kindOf m = "A") (hv : validate s.cfg m = none) (hc : earlyCheck s m = none) (hcv : callbackVerdict m = none)
    (h : Does m k b s x) : Does m k b s (Sess.logonFinish x m ns).1 := by
  unfold Sess.logonFinish
  have h0 := (h.setSentReset false).act (.arm _ (1200 * x.hb))
  have h1 := (h0.act (.onLogon _ hk (by rw [h0.frame.2]; exact hv) ((earlyCheck_congr m h0.frame.1 h0.frame.2).trans hc) hcv)).nxEval ns
  generalize Sess.nxEval _ m ns = r at h1
  obtain ⟨y, o⟩ := r
  cases o with
  | some r => exact h1
  | none =>
    dsimp only at h1 ⊢
    split
    · exact h1
    · exact h1.incrTarget

theorem logonTail (ns : Int) (hk : kindOf m = "A") (hv : validate s.cfg m = none) (hc : earlyCheck s m = none) (hcv : callbackVerdict m = none)
    (h : Does m k b s x) : Does m k b s (Sess.logonTail x m ns).1 := by
  unfold Sess.logonTail
  split
  · unfold Sess.logonRefused
    split
    · split
      · exact h.setHb _
      · exact h
    · exact h
  · exact (h.logonReply hk).logonFinish ns hk hv hc hcv

theorem handleLogon (hk : kindOf m = "A") (h : Does m k b s x) : Does m k b s (Sess.handleLogon x m).1 := by
  have h1 : Does m k b s (logonS1 x) := ite_both (h.act (.refresh x)) h
  rw [handleLogon_eq]
  split
  · exact h
  · split
    · exact h1
    · rename_i hval
      have hv : validate s.cfg m = none := by rw [← h.frame.2]; exact hval
      have h2 : Does m k b s (logonS2 x m) := h1.act (.callback _ (by rw [h1.frame.2]; exact hv) (Or.inl hk))
      split
      · exact h2
      · rename_i hcv
        have h3 : Does m k b s (logonS3 x m) := Does.guarded (fun hr => h2.act (.reset _ (resetAt_logon hk hr))) h2
        split
        · exact h3
        · rename_i he
          have hc : earlyCheck s m = none :=
            (earlyCheck_congr m h3.frame.1 h3.frame.2).symm.trans (verifySelect_checked (Prod.ext rfl he))
          exact h3.logonTail _ hk hv hc hcv

end Does

theorem Ret.inSessionFixMsgIn {m : InMsg} {k : Nat} {s x : Sess} (h : Does m k true s x) :
    Ret m (k + gapCost s) s (Sess.inSessionFixMsgIn x m) := by
  refine Sess.inSessionFixMsgIn_cases x m (motive := Ret m (k + gapCost s) s) (fun hk => ?_)
    (fun hk => (Ret.handleLogout hk h).mono (Nat.le_add_right _ _)) (fun _ => (Ret.handleResendRequest h).mono (Nat.le_add_right _ _))
    (fun _ => Ret.handleSequenceReset h) (fun _ => Ret.handleTestRequest h) (fun _ _ _ _ _ => Ret.plain h)
  have hl := h.handleLogon hk
  generalize Sess.handleLogon x m = r at hl
  obtain ⟨y, o⟩ := r
  cases o with
  | some e => exact Ret.mono ⟨hl.logoutRe, .logout⟩ (Nat.le_add_right _ _)
  | none => exact Ret.mono ⟨hl, .inSession⟩ (Nat.le_add_right _ _)

theorem Ret.shutdownWithReason {m : InMsg} {k : Nat} {s x : Sess} (incr : Bool) (h : Does m k true s x) :
    Ret m k s (Sess.shutdownWithReason x m incr) :=
  ⟨ite_both h.logoutDrop.incrTarget h.logoutDrop, .latent⟩

/-- the Logon state: a Logon that reveals a gap is answered by the one ResendRequest -/
theorem Ret.logonFixMsgIn {m : InMsg} {k : Nat} {s x : Sess} (h : Does m k true s x) : Ret m (k + 1) s (Sess.logonFixMsgIn x m) := by
  unfold Sess.logonFixMsgIn
  split
  · exact ⟨h.weaken.mono (Nat.le_succ k) id, .latent⟩
  · rename_i hk
    have hl : ∀ {r}, Sess.handleLogon x m = r → Does m k true s r.1 := fun hr => hr ▸ h.handleLogon (by simpa using hk)
    -- on the verdict: none, rejectLogon, tooLow, tooHigh (the one ResendRequest), any other
    split
    · rename_i heq; exact ⟨(hl heq).mono (Nat.le_succ k) id, .inSession⟩
    · rename_i heq; exact (Ret.shutdownWithReason _ (hl heq)).mono (Nat.le_succ k)
    · rename_i heq; exact (Ret.shutdownWithReason _ (hl heq)).mono (Nat.le_succ k)
    · rename_i heq; exact ⟨(hl heq).rr _ _, .resend _ _ _ (fun p hp => nomatch hp)⟩
    · rename_i heq; exact ⟨(hl heq).weaken.mono (Nat.le_succ k) id, .latent⟩

/-- `Does` for one message after the other, each of them in `M` -/
inductive DoesAll (M : InMsg → Prop) : Nat → Bool → Sess → Sess → Prop
  | refl (s : Sess) : DoesAll M 0 true s s
  | msg {j k : Nat} {b b' : Bool} {s x y : Sess} {m : InMsg} : DoesAll M j b s x → M m → Does m k b' x y → DoesAll M (j + k) (b' && b) s y
  | mono {j k : Nat} {b b' : Bool} {s x : Sess} : DoesAll M j b s x → j ≤ k → (b' = true → b = true) → DoesAll M k b' s x

theorem DoesAll.frame {M : InMsg → Prop} {k : Nat} {b : Bool} {s x : Sess} (h : DoesAll M k b s x) : Fr s x := by
  induction h with
  | refl s => exact Fr.refl s
  | msg _ _ d ih => exact ih.trans d.frame
  | mono _ _ _ ih => exact ih

theorem DoesAll.fold {M : InMsg → Prop} {R : Nat → Bool → Sess → Sess → Prop} (refl : ∀ s, R 0 true s s)
    (msg : ∀ {j k b b' s x y m}, R j b s x → x.st = s.st → x.cfg = s.cfg → M m → Does m k b' x y → R (j + k) (b' && b) s y)
    (mono : ∀ {j k b b' s x}, R j b s x → j ≤ k → (b' = true → b = true) → R k b' s x)
    {k : Nat} {b : Bool} {s x : Sess} (h : DoesAll M k b s x) : R k b s x := by
  induction h with
  | refl s => exact refl s
  | msg a hm d ih => exact msg ih a.frame.1 a.frame.2 hm d
  | mono _ hjk hb ih => exact mono ih hjk hb

structure RetAll (M : InMsg → Prop) (k : Nat) (s : Sess) (r : Sess × SState) : Prop where
  does : DoesAll M k r.2.loggedOn s r.1
  nx : Nx M r.2

theorem gapCost_congr {s x : Sess} (h1 : x.st = s.st) (h2 : x.cfg = s.cfg) : gapCost x = gapCost s := by
  unfold gapCost; rw [curResend_congr h1 h2]

theorem DoesAll.inSession {M : InMsg → Prop} {j : Nat} {s x : Sess} {m : InMsg} (hS : ∀ p ∈ stashOf s.st, M p.2) (hm : M m)
    (h : DoesAll M j true s x) :
    DoesAll M (j + gapCost s) (inSessionFixMsgIn x m).2.loggedOn s (inSessionFixMsgIn x m).1 ∧ Nx M (inSessionFixMsgIn x m).2 := by
  have r := Ret.inSessionFixMsgIn (Does.refl x) (m := m)
  rw [Nat.zero_add, gapCost_congr h.frame.1 h.frame.2] at r
  refine ⟨(h.msg hm r.does).mono (Nat.le_refl _) (by simp), r.nx.mono fun a ha => ?_⟩
  rcases ha with rfl | ⟨p, hp, rfl⟩
  · exact hm
  · exact hS p (by rw [← h.frame.1]; exact hp)

theorem DoesAll.drainStash {M : InMsg → Prop} {s : Sess} (hS : ∀ p ∈ stashOf s.st, M p.2) (fuel : Nat) :
    ∀ (j : Nat) (x : Sess) (stash : List (Int × InMsg)) (last : SState), DoesAll M j true s x → (∀ p ∈ stash, M p.2) → Nx M last →
      last.loggedOn = true →
      DoesAll M (j + fuel * gapCost s) (Sess.drainStash fuel x stash last).2.1.loggedOn s (Sess.drainStash fuel x stash last).1 ∧
      Nx M (Sess.drainStash fuel x stash last).2.1 ∧ ∀ p ∈ (Sess.drainStash fuel x stash last).2.2, M p.2 := by
  intro j x stash last h hst hl hon
  -- case3 / case4: the stashed message handled, the session then no longer / still logged on
  fun_induction Sess.drainStash fuel x stash last generalizing j with
  | case1 | case2 => exact ⟨by rw [hon]; exact h.mono (Nat.le_add_right _ _) id, hl, hst⟩
  | case3 x stash _ n _ m hf stash' y nx hr hoff =>
    obtain ⟨h1, h1n⟩ := h.inSession hS (hst _ (find_target hf).2.1) (m := m)
    rw [hr] at h1 h1n
    exact ⟨h1.mono (by rw [Nat.succ_mul]; omega) id, h1n, fun p hp => hst p (List.mem_filter.1 hp).1⟩
  | case4 x stash _ n _ m hf stash' y nx hr hon' ih =>
    obtain ⟨h1, h1n⟩ := h.inSession hS (hst _ (find_target hf).2.1) (m := m)
    rw [hr] at h1 h1n
    have hon'' : nx.loggedOn = true := by simpa using hon'
    rw [hon''] at h1
    obtain ⟨g1, g2, g3⟩ := ih _ h1 (fun p hp => hst p (List.mem_filter.1 hp).1) h1n hon''
    exact ⟨g1.mono (by rw [Nat.succ_mul]; omega) id, g2, g3⟩

theorem DoesAll.rr {M : InMsg → Prop} {j : Nat} {b : Bool} {s x : Sess} {m : InMsg} (hm : M m) (lo hi : Int) (h : DoesAll M j b s x) :
    DoesAll M (j + 1) b s (sendResendRequest x lo hi).1 :=
  (h.msg hm ((Does.refl x).rr lo hi)).mono (Nat.le_refl _) (by simp)

/-- a result with some budget that is at most one ResendRequest inside a recovery -/
def RetSome (M : InMsg → Prop) (s : Sess) (r : Sess × SState) : Prop := ∃ k, RetAll M k s r ∧ (gapCost s = 0 → k ≤ 1)

/-- `m` by the in-session handler, then a further ResendRequest (`rrOut`), waiting, or the stash drained (`hd`); inside a recovery
    the handler spends nothing on a gap, so that request is the only one (`small`) and the drain is free (`zero`) -/
theorem RetSome.resendFixMsgIn {M : InMsg → Prop} {s : Sess} (stash : List (Int × InMsg)) (cur fin : Int) {m : InMsg}
    (hS : ∀ p ∈ stashOf s.st, M p.2) (hm : M m) (hst : ∀ p ∈ stash, M p.2) : RetSome M s (Sess.resendFixMsgIn s stash cur fin m) := by
  unfold Sess.resendFixMsgIn
  obtain ⟨h1, h1n⟩ := (DoesAll.refl s).inSession hS hm (m := m)
  generalize inSessionFixMsgIn s m = r at h1 h1n
  obtain ⟨s', nx⟩ := r
  dsimp only at h1 h1n ⊢
  have small : ∀ {k : Nat}, k ≤ 0 + gapCost s + 1 → gapCost s = 0 → k ≤ 1 := fun hk h0 => by rw [h0] at hk; exact hk
  by_cases hon : nx.loggedOn = true
  · rw [if_neg (by simp [hon])]
    rw [hon] at h1
    have hst2 : ∀ p ∈ (match nx, curResend s' with | .resend st' _ _, some _ => st' | _, _ => stash), M p.2 := by
      split
      · cases h1n with | resend _ _ _ h => exact h
      · exact hst
    have rrOut : ∀ st2 lo hi, (∀ p ∈ st2, M p.2) → RetSome M s ((sendResendRequest s' lo hi).1,
        .resend st2 (sendResendRequest s' lo hi).2.1 (sendResendRequest s' lo hi).2.2) :=
      fun st2 lo hi h2 => ⟨_, ⟨h1.rr hm lo hi, .resend _ _ _ h2⟩, small (Nat.le_refl _)⟩
    have hd : ∀ {st2 r}, (∀ p ∈ st2, M p.2) → Sess.drainStash (st2.length + 1) s' st2 nx = r →
        DoesAll M (0 + gapCost s + (st2.length + 1) * gapCost s) r.2.1.loggedOn s r.1 ∧ Nx M r.2.1 ∧ ∀ p ∈ r.2.2, M p.2 :=
      fun h2 hr => hr ▸ DoesAll.drainStash hS _ _ s' _ nx h1 h2 h1n hon
    have zero : ∀ l : Nat, gapCost s = 0 → 0 + gapCost s + l * gapCost s ≤ 1 := fun l h0 => by rw [h0]; simp
    refine ite_both (rrOut _ _ _ hst2) ?_
    split
    · exact ⟨_, ⟨h1.mono (Nat.le_succ _) (fun h => nomatch h), .latent⟩, small (Nat.le_refl _)⟩
    all_goals
      refine ite_both (rrOut _ _ _ hst2) (ite_both ⟨_, ⟨h1.mono (Nat.le_succ _) id, .resend _ _ _ hst2⟩, small (Nat.le_refl _)⟩ ?_)
      split
      · rename_i heq
        refine ⟨_, ⟨(hd hst2 heq).1, .resend _ _ _ ?_⟩, zero _⟩
        split
        · exact (hd hst2 heq).2.2
        · cases (hd hst2 heq).2.1 with | resend _ _ _ h => exact h
      · rename_i heq
        exact ⟨_, ⟨(hd hst2 heq).1, (hd hst2 heq).2.1⟩, zero _⟩
  · rw [if_pos (by simp [hon])]
    exact ⟨_, ⟨h1, h1n⟩, fun h0 => by rw [h0]; simp⟩

theorem fixMsgInCore_cases {motive : Sess × SState → Prop} (s : Sess) (m : InMsg)
    (idle : s.st = .latent ∨ s.st = .notSessionTime → motive (s, s.st))
    (logon : s.st = .logon → motive (logonFixMsgIn s m))
    (logout : s.st = .logout → motive (match (inSessionFixMsgIn s m).2 with
      | .latent => ((inSessionFixMsgIn s m).1, .latent)
      | _ => ((inSessionFixMsgIn s m).1, .logout)))
    (inSession : s.st = .inSession ∨ s.st = .pendingIn → motive (inSessionFixMsgIn s m))
    (resend : ∀ st c f, s.st = .resend st c f ∨ s.st = .pendingResend st c f → motive (resendFixMsgIn s st c f m)) :
    motive (fixMsgInCore s m) := by
  unfold fixMsgInCore
  split
  · rename_i h; exact h ▸ idle (Or.inl h)
  · rename_i h; exact h ▸ idle (Or.inr h)
  · rename_i h; exact logon h
  · rename_i h; exact logout h
  · rename_i h; exact inSession (Or.inl h)
  · rename_i h; exact inSession (Or.inr h)
  · rename_i st c f h; exact resend st c f (Or.inl h)
  · rename_i st c f h; exact resend st c f (Or.inr h)

theorem RetAll.ofRet {M : InMsg → Prop} {m : InMsg} {k : Nat} {s : Sess} {r : Sess × SState} (hS : ∀ p ∈ stashOf s.st, M p.2) (hm : M m)
    (h : Ret m k s r) : RetAll M k s r :=
  ⟨(((DoesAll.refl s).msg hm h.does).mono (Nat.le_of_eq (Nat.zero_add k)) (by simp)), h.nx.mono fun a ha => by
    rcases ha with rfl | ⟨p, hp, rfl⟩
    · exact hm
    · exact hS p hp⟩

theorem RetSome.fixMsgInCore {M : InMsg → Prop} (s : Sess) (m : InMsg) (hS : ∀ p ∈ stashOf s.st, M p.2) (hm : M m) :
    (s.st = .notSessionTime ∧ Sess.fixMsgInCore s m = (s, .notSessionTime)) ∨ RetSome M s (Sess.fixMsgInCore s m) := by
  have one : ∀ {k : Nat} {r : Sess × SState}, Ret m k s r → k ≤ 1 → RetSome M s r :=
    fun h hk => ⟨_, RetAll.ofRet hS hm h, fun _ => hk⟩
  have cost : gapCost s ≤ 1 := by unfold gapCost; split <;> omega
  refine fixMsgInCore_cases s m (motive := fun r => (s.st = .notSessionTime ∧ r = (s, .notSessionTime)) ∨ RetSome M s r) (fun h => ?_)
    (fun _ => .inr (one (Ret.logonFixMsgIn (Does.refl s)) (Nat.le_refl _))) (fun _ => .inr ?_)
    (fun _ => .inr (one (Ret.inSessionFixMsgIn (Does.refl s)) (by rw [Nat.zero_add]; exact cost)))
    (fun st c f h => .inr (RetSome.resendFixMsgIn st c f hS hm fun p hp => hS p (by rcases h with h | h <;> (rw [h]; exact hp))))
  · rcases h with h | h
    · exact .inr (h ▸ ⟨0, ⟨(DoesAll.refl s).mono (Nat.le_refl 0) (fun h => nomatch h), .latent⟩, fun _ => Nat.zero_le _⟩)
    · exact .inl ⟨h, by rw [h]⟩
  · -- from the logout state every connected outcome is the logout state again
    have r := Ret.inSessionFixMsgIn (Does.refl s) (m := m)
    generalize inSessionFixMsgIn s m = q at r
    obtain ⟨x, nx⟩ := q
    have d : Does m (0 + gapCost s) false s x := r.does.weaken
    dsimp only
    split
    · exact one ⟨d, .latent⟩ (by rw [Nat.zero_add]; exact cost)
    · exact one ⟨d, .logout⟩ (by rw [Nat.zero_add]; exact cost)

/-- what holds of the four states the handlers choose holds of the state any handler asks for -/
structure Chosen (P : SState → Prop) : Prop where
  inSession : P .inSession
  logout : P .logout
  latent : P .latent
  resend : ∀ st c f, P (.resend st c f)

theorem Nx.chosen {P : SState → Prop} {M : InMsg → Prop} {nx : SState} (h : Chosen P) (hn : Nx M nx) : P nx := by
  cases hn with
  | inSession => exact h.inSession
  | logout => exact h.logout
  | latent => exact h.latent
  | resend st c f _ => exact h.resend st c f

/-- outside a session the state is kept; `hn` is for the one state that is none of the four and is kept as it is -/
theorem next_fixMsgInCore {P : SState → Prop} (h : Chosen P) (s : Sess) (m : InMsg) (hn : s.st = .notSessionTime → P .notSessionTime) :
    P (fixMsgInCore s m).2 := by
  rcases RetSome.fixMsgInCore (M := fun _ => True) s m (fun _ _ => trivial) trivial with ⟨hst, he⟩ | ⟨_, hr, _⟩
  · rw [he]; exact hn hst
  · exact hr.nx.chosen h

/-- the state a TestRequest timeout moves to -/
def SState.pending : SState → SState
  | .inSession => .pendingIn
  | .resend st c f => .pendingResend st c f
  | st => st

theorem stashOf_pending (st : SState) : stashOf st.pending = stashOf st := by cases st <;> rfl

/-- nothing; from a logged-on state a Heartbeat, a TestRequest with the peer timer re-armed and the state pending, or a Logout -/
inductive TimerRet (s : Sess) : Sess × SState → Prop
  | idle (nx : SState) : nx = s.st ∨ nx = .latent → TimerRet s (s, nx)
  | heartbeat (nx : SState) : s.st.loggedOn = true → nx = s.st → TimerRet s (sendInReplyTo s (mkOut "0" []), nx)
  | testRequest (nx : SState) : s.st.loggedOn = true → nx = s.st.pending →
      TimerRet s ((sendInReplyTo s (mkOut "1" [(112, "TEST")])).emit (.armPeer (1200 * (sendInReplyTo s (mkOut "1" [(112, "TEST")])).hb)), nx)
  | logout : s.st.loggedOn = true → TimerRet s (initiateLogout s, .logout)

theorem TimerRet.frame {s : Sess} {r : Sess × SState} (t : TimerRet s r) : Fr s r.1 := by
  cases t with
  | idle nx _ => exact Fr.refl s
  | heartbeat nx _ _ => exact frPrim.sendInReplyTo s (mkOut "0" [])
  | testRequest nx _ _ => exact (frPrim.sendInReplyTo s (mkOut "1" [(112, "TEST")])).trans ⟨rfl, rfl, rfl, rfl, rfl⟩
  | logout _ => exact frPrim.sendInReplyTo s (mkOut "5" [])

theorem timeoutCore_ret (s : Sess) (e : TimerEv) : TimerRet s (timeoutCore s e) := by
  have active : ∀ a b : SState, s.st.loggedOn = true → a = s.st.pending → b = s.st →
      TimerRet s ((inSessionTimeout s e).1, if (inSessionTimeout s e).2 then a else b) := by
    intro a b hl ha hb
    cases e
    · exact .heartbeat _ hl hb
    · exact .testRequest _ hl ha
    · exact .idle _ (Or.inl hb)
    · exact .idle _ (Or.inl hb)
  have lapse : ∀ (c : Bool) (b : SState), b = s.st → TimerRet s (s, if c then .latent else b) := by
    intro c b hb; cases c
    · exact .idle _ (Or.inl hb)
    · exact .idle _ (Or.inr rfl)
  -- case1, case2: inSession, resend; case7: the catch-all; the others: the four states that lapse
  fun_cases timeoutCore s e with
  | case1 h _ _ hp | case2 _ _ _ h _ _ hp =>
    have := active _ _ (by rw [h]; rfl) (by rw [h]) h.symm
    rwa [hp] at this
  | case7 => exact .idle _ (Or.inl rfl)
  | _ => exact lapse _ _ (‹s.st = _›).symm

theorem stopNext_ret (s : Sess) : TimerRet s (stopNext s) := by
  -- case5: the Logon state; case6: the catch-all; the others: the logged-on states
  fun_cases stopNext s with
  | case5 => exact .idle _ (Or.inr rfl)
  | case6 => exact .idle _ (Or.inl rfl)
  | _ => exact .logout (by rw [‹s.st = _›]; rfl)

theorem fr_incrTarget (s : Sess) : Fr s (incrTarget s) := ⟨rfl, rfl, rfl, rfl, rfl⟩
theorem fr_resendMessages (s : Sess) (b e : Int) : Fr s (resendMessages s b e) :=
  resendMessages_rel Fr.refl Fr.trans (fun s m _ => frPrim.enqueueAndSend s m) s b e
theorem fr_fixMsgInCore (s : Sess) (m : InMsg) : Fr s (fixMsgInCore s m).1 := by
  rcases RetSome.fixMsgInCore (M := fun _ => True) s m (fun _ _ => trivial) trivial with ⟨_, he⟩ | ⟨_, hr, _⟩
  · rw [he]; exact Fr.refl s
  · exact hr.does.frame
theorem fr_timeoutCore (s : Sess) (e : TimerEv) : Fr s (timeoutCore s e).1 := (timeoutCore_ret s e).frame
theorem fr_stopNext (s : Sess) : Fr s (stopNext s).1 := (stopNext_ret s).frame

section peel
variable {s x : Sess}
theorem fpeel_setPendingStop (h : Fr s x) : Fr s x.setPendingStop := h.trans (Fr.mk rfl rfl rfl rfl rfl)
theorem fpeel_setStopped (h : Fr s x) : Fr s x.setStopped := h.trans (Fr.mk rfl rfl rfl rfl rfl)
theorem fpeel_clearLog (h : Fr s x) : Fr s x.clearLog := h.trans (Fr.mk rfl rfl rfl rfl rfl)
theorem fpeel_sendLogout (h : Fr s x) : Fr s (sendLogout x) := h.trans (frPrim.sendInReplyTo x _)
theorem fpeel_sendLogonInReplyTo (r : Bool) (h : Fr s x) : Fr s (sendLogonInReplyTo x r) := h.trans (fr_dropAndSend x _)
theorem fpeel_sendResendRequest (b e : Int) (h : Fr s x) : Fr s (sendResendRequest x b e).1 :=
  h.trans (frPrim.sendResendRequest x b e)
end peel

end Qfx.Sess
