/-
  A dictionary whose group 453 lists CheckSum, and a well-formed message that the parser (`Fixes.cur`) accepts under it with the CheckSum field
  inside the body's group field and no CheckSum in the trailer.  Replayed on the real parser by the codec family (`junk.checksum-member`).
-/
import Qfx.Lemmas.CodecAnyDict
import Qfx.Lemmas.CodecDictItems
namespace Qfx
open Qfx.Spec

def tenC : List DNode := [.mk 448 [], .mk 10 []]
def tenFs : List DNode := [.mk 453 tenC]
def tenD : Dicts := { transport := none, app := some [([68], tenFs)] }

def w8 : TagValue := ⟨8, [70], [56, 61, 70, 1]⟩                -- 8=F
def w9 : TagValue := ⟨9, [49, 55], [57, 61, 49, 55, 1]⟩          -- 9=17
def w35 : TagValue := ⟨35, [68], [51, 53, 61, 68, 1]⟩            -- 35=D
def w453 : TagValue := ⟨453, [49], [52, 53, 51, 61, 49, 1]⟩      -- 453=1
def w448 : TagValue := ⟨448, [97], [52, 52, 56, 61, 97, 1]⟩      -- 448=a
def w10 : TagValue := ⟨10, [48, 48, 48], [49, 48, 61, 48, 48, 48, 1]⟩  -- 10=000

theorem w8_wire : IsWire w8 := ⟨[56], by decide, by decide, by rfl, by rfl, by decide⟩
theorem w9_wire : IsWire w9 := ⟨[57], by decide, by decide, by rfl, by rfl, by decide⟩
theorem w35_wire : IsWire w35 := ⟨[51, 53], by decide, by decide, by rfl, by rfl, by decide⟩
theorem w453_wire : IsWire w453 := ⟨[52, 53, 51], by decide, by decide, by rfl, by rfl, by decide⟩
theorem w448_wire : IsWire w448 := ⟨[52, 52, 56], by decide, by decide, by rfl, by rfl, by decide⟩
theorem w10_wire : IsWire w10 := ⟨[49, 48], by decide, by decide, by rfl, by rfl, by decide⟩

theorem ten_wireMsg : WireMsg w8 w9 w35 [w453, w448] w10 where
  w8 := w8_wire
  w9 := w9_wire
  w35 := w35_wire
  wpre := by
    intro tv h; simp only [List.mem_cons, List.mem_nil_iff, or_false] at h
    rcases h with e | e <;> subst e
    · exact ⟨w453_wire, by decide, by decide⟩
    · exact ⟨w448_wire, by decide, by decide⟩
  w10 := w10_wire
  tag8 := rfl
  tag9 := rfl
  tag35 := rfl
  tag10 := rfl
  single9 := by
    intro tv h; simp only [List.mem_cons, List.mem_nil_iff, or_false] at h
    rcases h with e | e <;> subst e <;> decide

theorem ten_bodyLength : atoi w9.value = .ok ((fieldsLength (w8 :: w9 :: w35 :: ([w453, w448] ++ [w10])) : Nat) : Int) := by rfl

theorem tenApp : AppMsg tenD [68] tenFs := ⟨_, rfl, by simp [alFindB]⟩

/-- the well-formed message `8=F 9=17 35=D 453=1 448=a 10=000` parses
    (fields = wire fields) — but `parseGroup` takes `10=` for a member of group 453: the CheckSum field ends up inside the body's group
    field and the trailer has no CheckSum.  (`parseGroup` runs out of fields, adds the group to the body and returns; `doParsing` ends its
    loop because the field parsed last is CheckSum.) -/
theorem ten_swallowed :
    ∃ m, parseMessage Fixes.cur tenD (wireOf (w8 :: w9 :: w35 :: ([w453, w448] ++ [w10]))) = .ok m ∧
      m.fields = w8 :: w9 :: w35 :: ([w453, w448] ++ [w10]) ∧
      alFind m.trailer.lookup 10 = none ∧ alFind m.body.lookup 453 = some (.view 3 3) := by
  have hrestW : ∀ tv ∈ [w453, w448] ++ [w10], IsWire tv := by
    intro tv h; simp only [List.cons_append, List.nil_append, List.mem_cons, List.mem_nil_iff, or_false] at h
    rcases h with e | e | e <;> subst e
    · exact w453_wire
    · exact w448_wire
    · exact w10_wire
  rw [parseMessage_lead_wire Fixes.cur w8 w9 w35 _ w8_wire w9_wire w35_wire hrestW rfl rfl rfl]
  -- `parseGroup` is entered at 453 and takes 448 and 10 for its members
  have hch : Chain (DStep tenD tenFs) ⟨none, [], 3⟩ [w453, w448, w10] ⟨some (3, w453, [((453 : Tag), tenC)]), [], 6⟩ :=
    .cons (.groupMain rfl rfl rfl) (.cons (.member (fun h => absurd h (by decide)) rfl)
      (.cons (.member (fun h => absurd h (by decide)) rfl) (.nil _)))
  obtain ⟨_, hf9, hf35⟩ := plainInit_find w8 w9 w35 (wireOf ([w453, w448] ++ [w10])) rfl rfl rfl
  obtain ⟨m', c', hP, hI, _⟩ := loop_chain (dict_iter tenApp w35 rfl (init := initSec w8 w9 w35) hf9 hf35) (hch.and_mem hrestW) .main
    ([w8, w9, w35] ++ List.replicate ([w453, w448] ++ [w10]).length TagValue.zero) 3 (plainInit w8 w9 w35 (wireOf ([w453, w448] ++ [w10]))) []
    ⟨rfl, rfl, (fun _ _ _ h => by cases h), rfl, Nat.le_refl 3, rfl, (fun s => by cases s <;> rfl), (fun _ h => by cases h)⟩
    (List.append_nil _).symm (by simp)
  rw [hP, hI.mode_eq]
  -- no field is left: the group goes to the body, and the loop ends because the field parsed last is CheckSum
  -- `erw`: the field array and the index are closed terms that only agree with the lemma's pattern after evaluation
  erw [grp_out_of_fields (d := tenD) [w8, w9, w35, w453, w448, w10] 5 3 [453] tenC c' w10 rfl (by omega) rfl rfl]
  rw [finish_ok [w8, w9, w35, w453, w448, w10] _ w9 ?h9 rfl ten_bodyLength]
  case h9 => exact (hI.find hf9 hf35).1
  refine ⟨_, rfl, rfl, ?_, ?_⟩
  · show alFind (finishAdjust _).trailer.lookup 10 = none
    rw [(finishAdjust_keeps _).2.2.2]
    show alFind (c'.sec .t).lookup 10 = none
    rw [hI.secs .t]
    rfl
  · show alFind (finishAdjust _).body.lookup 453 = _
    rw [(finishAdjust_keeps _).2.2.1]
    exact alFind_insert_self _ _ _

end Qfx
