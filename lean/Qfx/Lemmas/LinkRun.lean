/-
  Histories of the link model: `runL`; the link seen from the other side (`swapL`: every event commutes with it, so what
  is proved of B's events holds of A's); `lstep_keeps`, the induction over link events for properties of the two engines
  alone, and its instances — the configurations, "every used number is stored" (`LFull`), "inside the session time" (`InTime`).
  For the last one: the states a handler returns (SessEffects' `Nx`) are inSession / logout / latent / resend, none of them
  `notSessionTime`, which only `checkSessionTime` outside the range enters.
-/
import Qfx.Model.Link
import Qfx.Lemmas.SessC03
import Qfx.Lemmas.SessEffects
namespace Qfx.Link
open Qfx Qfx.Sess

def runL (l : LSt) : List LEv → LSt
  | [] => l
  | e :: es => runL (lstep l e).1 es

theorem runL_append (l : LSt) (x y : List LEv) : runL l (x ++ y) = runL (runL l x) y := by
  induction x generalizing l with
  | nil => rfl
  | cons e es ih => exact ih _

theorem runL_one (l : LSt) (e : LEv) : runL l [e] = (lstep l e).1 := rfl
theorem runL_cons (l : LSt) (e : LEv) (es : List LEv) : runL l (e :: es) = runL (lstep l e).1 es := rfl

theorem onSide_A_b (l : LSt) (e : Ev) : (onSide l .A e).1.b = l.b := rfl
theorem onSide_B_a (l : LSt) (e : Ev) : (onSide l .B e).1.a = l.a := rfl

theorem lstep_deliverB_nil {l : LSt} (hq : l.a2b = []) : lstep l (.deliver .B) = (l, "none") := by simp only [lstep, hq]
theorem lstep_deliverA_nil {l : LSt} (hq : l.b2a = []) : lstep l (.deliver .A) = (l, "none") := by simp only [lstep, hq]

theorem lstep_deliverB_cons {l : LSt} {m : OutMsg} {rest : List OutMsg} (hq : l.a2b = m :: rest) :
    lstep l (.deliver .B) =
      onSide { l with a2b := rest, rcvB := noteRcv l.rcvB (toIn l.a.cfg m) } .B (.incomingMsg (some (toIn l.a.cfg m))) := by
  simp only [lstep, hq]

theorem lstep_deliverA_cons {l : LSt} {m : OutMsg} {rest : List OutMsg} (hq : l.b2a = m :: rest) :
    lstep l (.deliver .A) =
      onSide { l with b2a := rest, rcvA := noteRcv l.rcvA (toIn l.b.cfg m) } .A (.incomingMsg (some (toIn l.b.cfg m))) := by
  simp only [lstep, hq]

def swapL (l : LSt) : LSt :=
  { a := l.b, b := l.a, a2b := l.b2a, b2a := l.a2b, sentA := l.sentB, sentB := l.sentA, dlvA := l.dlvB, dlvB := l.dlvA,
    rcvA := l.rcvB, rcvB := l.rcvA }

theorem swapL_swapL (l : LSt) : swapL (swapL l) = l := rfl

def swapSide : Side → Side | .A => .B | .B => .A

theorem onSide_swap (l : LSt) (side : Side) (e : Ev) : (onSide (swapL l) (swapSide side) e).1 = swapL (onSide l side e).1 := by
  cases side <;> rfl

def swapEv : LEv → LEv
  | .send side p => .send (swapSide side) p
  | .deliver to => .deliver (swapSide to)
  | .restart side => .restart (swapSide side)
  | .timer side e => .timer (swapSide side) e
  | .flush side => .flush (swapSide side)
  | e => e

theorem swapEv_swapEv (e : LEv) : swapEv (swapEv e) = e := by
  cases e <;> first | rfl | (rename_i side; cases side <;> rfl) | (rename_i side _; cases side <;> rfl)

/-- the events in which engine A moves alone -/
def onA : LEv → Bool
  | .send .A _ | .deliver .A | .restart .A | .timer .A _ | .flush .A => true
  | _ => false

theorem onA_swapEv {e : LEv} (h : onA e = true) : onA (swapEv e) = false := by
  cases e with
  | connect | cut => cases h
  | send side _ | timer side _ => cases side <;> first | rfl | cases h
  | deliver side | restart side | flush side => cases side <;> first | rfl | cases h

/-- the two engines act on disjoint parts of the link: every event commutes with the change of side -/
theorem lstep_swap (l : LSt) (e : LEv) : (lstep (swapL l) (swapEv e)).1 = swapL (lstep l e).1 := by
  cases e with
  | connect | cut => rfl
  | send side p =>
    have h' : ((onSide (swapL l) (swapSide side) (.send { kind := "D", seq := 0, f := [(9000, p)] })).2 == "ok") =
        ((onSide l side (.send { kind := "D", seq := 0, f := [(9000, p)] })).2 == "ok") := by cases side <;> rfl
    simp only [swapEv, lstep, h']
    split
    · rw [onSide_swap]
      generalize (onSide l side _).1 = l1
      cases side <;> rfl
    · exact onSide_swap l side _
  | deliver to =>
    have hB : ∀ l : LSt, (lstep (swapL l) (.deliver .A)).1 = swapL (lstep l (.deliver .B)).1 := by
      intro l
      cases hq : l.a2b with
      | nil => rw [lstep_deliverB_nil hq]; exact congrArg Prod.fst (lstep_deliverA_nil (l := swapL l) hq)
      | cons m rest => rw [lstep_deliverB_cons hq]; exact congrArg Prod.fst (lstep_deliverA_cons (l := swapL l) hq)
    cases to with
    -- a delivery to A is a delivery to B on the link seen from the other side
    | A => exact (congrArg swapL (hB (swapL l))).symm
    | B => exact hB l
  | restart side => cases side <;> rfl
  | timer side ev => exact onSide_swap l side (.timeout ev)
  | flush side => exact onSide_swap l side .flush

theorem runL_swap (evs : List LEv) : ∀ l : LSt, runL (swapL l) (evs.map swapEv) = swapL (runL l evs) := by
  induction evs with
  | nil => intro l; rfl
  | cons e es ih => intro l; simp only [List.map_cons, runL]; rw [lstep_swap, ih]

theorem runL_swap_replicate (e : LEv) (n : Nat) (l : LSt) :
    runL (swapL l) (List.replicate n (swapEv e)) = swapL (runL l (List.replicate n e)) := by
  rw [← List.map_replicate]; exact runL_swap _ l

/-- the session events `lstep` hands to an engine, whatever the message (for properties that need nothing of it; the
    invariant uses `LinkEv` of LinkK, which asks that an inbound message was written by the peer and treats `send` apart) -/
def LstepEv : Ev → Prop
  | .connect | .timeout _ | .disconnected | .flush | .send _ | .incomingMsg _ => True
  | _ => False

/-- a property of the two engines and the delivery lists (not of the links and the other ghost lists) that every engine step
    and every restart keep is kept by every link event -/
theorem lstep_keeps {I : LSt → Prop}
    (hg : ∀ l a2b b2a sentA sentB rcvA rcvB, I l →
      I { l with a2b := a2b, b2a := b2a, sentA := sentA, sentB := sentB, rcvA := rcvA, rcvB := rcvB })
    (hs : ∀ l side e, LstepEv e → I l → I (onSide l side e).1)
    (hr : ∀ l, I l → I { l with a := restartSess l.a } ∧ I { l with b := restartSess l.b })
    (l : LSt) (e : LEv) (h : I l) : I (lstep l e).1 := by
  cases e with
  | connect => exact hs _ .B _ trivial (hs l .A _ trivial h)
  | send side p =>
    have h1 := hs l side (.send { kind := "D", seq := 0, f := [(9000, p)] }) trivial h
    simp only [lstep]
    split
    · cases side <;> exact hg _ _ _ _ _ _ _ h1
    · exact h1
  | deliver to =>
    cases to with
    | A =>
      cases hq : l.b2a with
      | nil => rw [lstep_deliverA_nil hq]; exact h
      | cons m rest => rw [lstep_deliverA_cons hq]; exact hs _ .A _ trivial (hg l _ _ _ _ _ _ h)
    | B =>
      cases hq : l.a2b with
      | nil => rw [lstep_deliverB_nil hq]; exact h
      | cons m rest => rw [lstep_deliverB_cons hq]; exact hs _ .B _ trivial (hg l _ _ _ _ _ _ h)
  | cut => exact hg _ _ _ _ _ _ _ (hs _ .B .disconnected trivial (hs _ .A .disconnected trivial (hg l [] [] _ _ _ _ h)))
  | restart side =>
    cases side with
    | A => exact hg _ _ _ _ _ _ _ (hr l h).1
    | B => exact hg _ _ _ _ _ _ _ (hr l h).2
  | timer side ev => exact hs l side _ trivial h
  | flush side => exact hs l side _ trivial h

theorem full_step (s : Sess) (e : Ev) (hp : s.cfg.persist = true) (h : StoredAllInv true s.store) : StoredAllInv true (step s e).1.store := by
  have := (sp_step s e).2 StoredAllInv storedAllInv_closed (by rw [hp]; exact h)
  rwa [hp] at this

/-- both stores hold every number they have used -/
def LFull (l : LSt) : Prop := StoredAllInv true l.a.store ∧ StoredAllInv true l.b.store

theorem LFull_onSide {l : LSt} (hpa : l.a.cfg.persist = true) (hpb : l.b.cfg.persist = true) (h : LFull l) (side : Side) (e : Ev) :
    LFull (onSide l side e).1 := by
  cases side with
  | A => exact ⟨full_step l.a e hpa h.1, h.2⟩
  | B => exact ⟨h.1, full_step l.b e hpb h.2⟩

theorem onSide_cfg (l : LSt) (side : Side) (e : Ev) : (onSide l side e).1.a.cfg = l.a.cfg ∧ (onSide l side e).1.b.cfg = l.b.cfg := by
  cases side with
  | A => exact ⟨(sp_step l.a e).1, rfl⟩
  | B => exact ⟨rfl, (sp_step l.b e).1⟩

theorem lstep_cfg (l : LSt) (e : LEv) : (lstep l e).1.a.cfg = l.a.cfg ∧ (lstep l e).1.b.cfg = l.b.cfg :=
  lstep_keeps (I := fun l' => l'.a.cfg = l.a.cfg ∧ l'.b.cfg = l.b.cfg) (fun _ _ _ _ _ _ _ h => h)
    (fun l' side e _ h => ⟨(onSide_cfg l' side e).1.trans h.1, (onSide_cfg l' side e).2.trans h.2⟩) (fun _ h => ⟨h, h⟩) l e ⟨rfl, rfl⟩

theorem LFull_lstep {l : LSt} (hpa : l.a.cfg.persist = true) (hpb : l.b.cfg.persist = true) (h : LFull l) (e : LEv) : LFull (lstep l e).1 :=
  (lstep_keeps (I := fun l' => LFull l' ∧ l'.a.cfg = l.a.cfg ∧ l'.b.cfg = l.b.cfg) (fun _ _ _ _ _ _ _ h => h)
    (fun l' side e _ h => ⟨LFull_onSide (by rw [h.2.1]; exact hpa) (by rw [h.2.2]; exact hpb) h.1 side e,
      (onSide_cfg l' side e).1.trans h.2.1, (onSide_cfg l' side e).2.trans h.2.2⟩)
    (fun _ h => ⟨h, h⟩) l e ⟨h, rfl, rfl⟩).1

theorem LFull_init (cfgA cfgB : Cfg) : LFull (linkInit cfgA cfgB) :=
  ⟨storedAllInv_empty true rfl rfl, storedAllInv_empty true rfl rfl⟩

theorem LFull_swap {l : LSt} (h : LFull l) : LFull (swapL l) := ⟨h.2, h.1⟩

theorem st_fixMsgInCore (s : Sess) (m : InMsg) (h : s.st.sessionTime = true) : (fixMsgInCore s m).2.sessionTime = true :=
  next_fixMsgInCore (P := fun st => st.sessionTime = true) ⟨rfl, rfl, rfl, fun _ _ _ => rfl⟩ s m (fun e => by rw [e] at h; cases h)

theorem st_mutual : ∀ fuel : Nat,
    (∀ s, s.st.sessionTime = true → (drainIn fuel s).st.sessionTime = true) ∧
    (∀ s m, s.st.sessionTime = true → (incoming fuel s m).st.sessionTime = true) := by
  intro fuel
  induction fuel with
  | zero => exact ⟨fun s h => h, fun s m h => h⟩
  | succ n ih =>
    obtain ⟨ihD, ihI⟩ := ih
    refine ⟨?_, ?_⟩
    · intro s h
      unfold drainIn
      split
      · exact h
      · split
        · exact h
        · exact ihD _ (ihI _ _ h)
    · intro s m h
      unfold incoming
      simp only []
      rw [checkSessionTime_noop n s h]
      split
      · exact h
      · cases m with
        | none => exact h
        | some m =>
          show (setState n (fixMsgInCore s m).1 (fixMsgInCore s m).2).st.sessionTime = true
          rw [st_setState]; exact st_fixMsgInCore s m h

theorem st_timeoutCore (s : Sess) (e : TimerEv) (h : s.st.sessionTime = true) : (timeoutCore s e).2.sessionTime = true := by
  have r := timeoutCore_ret s e
  generalize timeoutCore s e = x at r
  cases r with
  | idle nx hn => rcases hn with rfl | rfl <;> first | exact h | rfl
  | heartbeat nx _ hn => exact hn ▸ h
  | testRequest nx hl hn =>
    subst hn
    revert hl
    cases s.st <;> intro hl <;> first | rfl | cases hl
  | logout => rfl

theorem st_step (s : Sess) (e : Ev) (he : LstepEv e) (h : s.st.sessionTime = true) : (step s e).1.st.sessionTime = true := by
  have h' : s.clearLog.st.sessionTime = true := h
  show (stepCore s.clearLog e).1.st.sessionTime = true
  cases e with
  | connect =>
    exact connect_cases (motive := fun r => r.1.st.sessionTime = true) s.clearLog (fun _ => h')
      (fun _ hn => absurd h' (by rw [hn]; exact Bool.false_ne_true)) (fun _ _ _ => rfl) (fun _ _ _ => rfl)
  | incomingMsg m => exact (st_mutual _).2 _ m h'
  | timeout ev =>
    show (setState _ (timeoutCore (checkSessionTime (fuelOf s.clearLog) s.clearLog true true) ev).1
      (timeoutCore (checkSessionTime (fuelOf s.clearLog) s.clearLog true true) ev).2).st.sessionTime = true
    rw [st_setState, checkSessionTime_noop _ _ h']; exact st_timeoutCore _ ev h'
  | disconnected =>
    exact ite_both (P := fun c : Sess => c.st.sessionTime = true) (by rw [st_setState]; rfl) h'
  | send m => rw [stepCore_send, (frPrim.queueForSend s.clearLog m).st]; exact h'
  | flush =>
    rw [stepCore_flush _ h']
    exact ite_both (P := fun c : Sess => c.st.sessionTime = true) (by rw [(fr_sendQueued _).st]; exact h') h'
  | arrive _ | pop | stop | sessionTime _ _ | resetTime _ => exact he.elim

/-- neither engine is "outside its session time" (the link model never moves the session clock) -/
def InTime (l : LSt) : Prop := l.a.st.sessionTime = true ∧ l.b.st.sessionTime = true

theorem InTime_onSide {l : LSt} (h : InTime l) (side : Side) (e : Ev) (he : LstepEv e) : InTime (onSide l side e).1 := by
  cases side with
  | A => exact ⟨st_step l.a e he h.1, h.2⟩
  | B => exact ⟨h.1, st_step l.b e he h.2⟩

theorem InTime_lstep {l : LSt} (h : InTime l) (e : LEv) : InTime (lstep l e).1 :=
  lstep_keeps (I := InTime) (fun _ _ _ _ _ _ _ h => h) (fun _ side e he h => InTime_onSide h side e he)
    (fun _ h => ⟨⟨rfl, h.2⟩, ⟨h.1, rfl⟩⟩) l e h

theorem InTime_run (evs : List LEv) : ∀ l : LSt, InTime l → InTime (runL l evs) := by
  induction evs with
  | nil => intro l h; exact h
  | cons e es ih => intro l h; exact ih _ (InTime_lstep h e)

theorem InTime_init (cfgA cfgB : Cfg) : InTime (linkInit cfgA cfgB) := ⟨rfl, rfl⟩

theorem LFull_run {cfgA cfgB : Cfg} (hpa : cfgA.persist = true) (hpb : cfgB.persist = true) (evs : List LEv) :
    ∀ l : LSt, l.a.cfg = cfgA → l.b.cfg = cfgB → LFull l → LFull (runL l evs) := by
  induction evs with
  | nil => intro l _ _ h; exact h
  | cons e es ih =>
    intro l ha hb h
    exact ih _ ((lstep_cfg l e).1.trans ha) ((lstep_cfg l e).2.trans hb)
      (LFull_lstep (by rw [ha]; exact hpa) (by rw [hb]; exact hpb) h e)

theorem step_disconnected_latent (s : Sess) (h : s.st.sessionTime = true) : (step s .disconnected).1.st = .latent := by
  show (stepCore s.clearLog .disconnected).1.st = .latent
  unfold stepCore
  dsimp only
  split
  · rw [st_setState]
  · rename_i hc
    show s.st = .latent
    have hc' : s.st.connected = false := by
      have : s.clearLog.st.connected = false := by simpa using hc
      exact this
    cases hst : s.st <;> simp_all [SState.connected, SState.sessionTime]

end Qfx.Link
