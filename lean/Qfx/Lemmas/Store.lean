/- What the three store refinements share: the text formats of the file store (counter files, index lines) read back what was
   printed; `sim_run`, the simulation argument all three instantiate; the accessor equations of the cache `MemStore`; the SQL statements
   on the two tables. -/
import Qfx.Model.Store
import Qfx.Lemmas.Bytes
namespace Qfx.Store
open Qfx

/-- largest Go `int` -/
def maxInt : Nat := 9223372036854775807

theorem digit_facts (c : Nat) (h : isDigit c = true) :
    c ≠ cMinus ∧ c ≠ cPlus ∧ c ≠ cNL ∧ c ≠ cCR ∧ isBlank c = false := by
  have := (isDigit_iff c).1 h
  simp [cMinus, cPlus, cNL, cCR, isBlank]
  omega

theorem digitsVal_cons_zero (l : Bytes) : digitsVal (48 :: l) = digitsVal l := by simp [digitsVal]

theorem digitsVal_replicate_zero (k : Nat) (l : Bytes) : digitsVal (List.replicate k 48 ++ l) = digitsVal l := by
  induction k with
  | zero => simp
  | succ k ih => rw [List.replicate_succ, List.cons_append, digitsVal_cons_zero, ih]

theorem digitsVal_padZero (w : Nat) (d : Bytes) : digitsVal (padZero w d) = digitsVal d := digitsVal_replicate_zero _ d

theorem padZero_all_digits (w : Nat) (d : Bytes) (h : d.all isDigit = true) : (padZero w d).all isDigit = true := by
  simp [padZero, List.all_append, h, c0, isDigit]

theorem trimCRLF_digits (l : Bytes) (h : l.all isDigit = true) : trimCRLF l = l := by
  have h1 : ∀ x ∈ l, (x == cCR || x == cNL) = false := by
    intro x hx
    have := digit_facts x (List.all_eq_true.1 h x hx)
    simp [this.2.2.1, this.2.2.2.1]
  unfold trimCRLF
  simp only []
  rw [dropWhile_none h1, dropWhile_none (fun x hx => h1 x (List.mem_reverse.1 hx)), List.reverse_reverse]

theorem atoiGo_digits (ds : Bytes) (hne : ds ≠ []) (h : ds.all isDigit = true) (hv : digitsVal ds ≤ maxInt) :
    atoiGo ds = some (digitsVal ds : Int) := by
  unfold maxInt at hv
  cases ds with
  | nil => exact absurd rfl hne
  | cons c cs =>
    have hc : isDigit c = true := by simp only [List.all_cons, Bool.and_eq_true] at h; exact h.1
    have f := digit_facts c hc
    simp [atoiGo, f.1, f.2.1, h, hv]

theorem counter_roundtrip (n : Nat) (hn : n ≤ maxInt) : atoiGo (trimCRLF (fmt019 n)) = some (n : Int) := by
  have hd : (padZero 19 (fmtNat n)).all isDigit = true := padZero_all_digits _ _ (fmtNat_all_digits n)
  have hne : padZero 19 (fmtNat n) ≠ [] := by
    simp [padZero]; intro _; exact fmtNat_ne_nil n
  have hv : digitsVal (padZero 19 (fmtNat n)) = n := by rw [digitsVal_padZero, digitsVal_fmtNat]
  have : fmt019 (n : Int) = padZero 19 (fmtNat n) := by
    have h0 : ¬ ((n : Int) < 0) := by omega
    simp [fmt019, h0]
  rw [this, trimCRLF_digits _ hd, atoiGo_digits _ hne hd (by omega), hv]

theorem scanNum_fmtNat (n : Nat) (c : Nat) (rest : Bytes) (hc : isDigit c = false) (hn : n ≤ maxInt) :
    scanNum (fmtNat n ++ c :: rest) = .num (n : Int) (c :: rest) := by
  unfold maxInt at hn
  have hall := fmtNat_all_digits n
  have hv := digitsVal_fmtNat n
  have hc' : ¬ isDigit c = true := by simp [hc]
  have td := And.intro (takeWhile_stop (List.all_eq_true.1 hall) hc' rest) (dropWhile_stop (List.all_eq_true.1 hall) hc' rest)
  cases hf : fmtNat n with
  | nil => exact absurd hf (fmtNat_ne_nil n)
  | cons d ds =>
    rw [hf] at hall hv td
    have hd : isDigit d = true := by simp only [List.all_cons, Bool.and_eq_true] at hall; exact hall.1
    have f := digit_facts d hd
    simp only [List.cons_append] at td ⊢
    simp [scanNum, List.dropWhile, f.2.2.2.2, f.1, f.2.1, f.2.2.1, td.1, td.2, hv, hn]

theorem scanf3_headerLine (seq off size : Nat) (rest : Bytes)
    (h1 : seq ≤ maxInt) (h2 : off ≤ maxInt) (h3 : size ≤ maxInt) :
    scanf3 (headerLine (seq : Int) off size ++ rest) = .item seq off size rest := by
  have e : headerLine (seq : Int) off size ++ rest
      = fmtNat seq ++ cComma :: (fmtNat off ++ cComma :: (fmtNat size ++ cNL :: rest)) := by
    simp [headerLine, fmtD, fmtInt]
  rw [e]
  simp [scanf3, cComma, cNL, scanNum_fmtNat _ 44 _ (by decide : isDigit 44 = false),
        scanNum_fmtNat _ 10 _ (by decide : isDigit 10 = false), h1, h2, h3, scanComma, List.dropWhile, isBlank]

/-- `R s w h` relates an abstract store, a concrete one and the history still to come, so that `R` can carry what is assumed of
    that history.  `run` is any left-to-right run of `step`: `MemW.run`, `FileW.run` and `SqlW.run` satisfy the two equations by `rfl`.
    `rest` is the history behind the run in question: with `rest = []` the relation at the end is usually dropped (`memR_run`, `sqlR_run`);
    keeping it (`fileR_run`) lets a run be continued, or a crash be looked at, from where it ended. -/
theorem sim_run {σ : Type} (step : σ → Op → σ × Obs) (run : σ → List Op → σ × List Obs)
    (run_nil : ∀ w, run w [] = (w, []))
    (run_cons : ∀ w o os, run w (o :: os) = ((run (step w o).1 os).1, (step w o).2 :: (run (step w o).1 os).2))
    (R : AStore → σ → List Op → Prop)
    (hstep : ∀ s w o os, R s w (o :: os) → R (s.step o).1 (step w o).1 os ∧ (step w o).2 = (s.step o).2)
    (rest : List Op) : ∀ (ops : List Op) (s : AStore) (w : σ), R s w (ops ++ rest) →
      R (s.run ops).1 (run w ops).1 rest ∧ (run w ops).2 = (s.run ops).2 := by
  intro ops
  induction ops with
  | nil => intro s w h; rw [run_nil]; exact ⟨h, rfl⟩
  | cons o os ih =>
    intro s w h
    obtain ⟨hR, ho⟩ := hstep s w o (os ++ rest) h
    obtain ⟨hR', hobs⟩ := ih _ _ hR
    rw [run_cons, ho, hobs]
    exact ⟨hR', rfl⟩

namespace MemStore
variable (c : MemStore) (n : Int) (t : Nat)
@[simp] theorem nextS_setS : (c.setS n).nextS = n := Int.sub_add_cancel n 1
@[simp] theorem nextT_setS : (c.setS n).nextT = c.nextT := rfl
@[simp] theorem ctime_setS : (c.setS n).ctime = c.ctime := rfl
@[simp] theorem nextS_setT : (c.setT n).nextS = c.nextS := rfl
@[simp] theorem nextT_setT : (c.setT n).nextT = n := Int.sub_add_cancel n 1
@[simp] theorem ctime_setT : (c.setT n).ctime = c.ctime := rfl
@[simp] theorem nextS_reset : (c.reset t).nextS = 1 := rfl
@[simp] theorem nextT_reset : (c.reset t).nextT = 1 := rfl
@[simp] theorem ctime_reset : (c.reset t).ctime = t := rfl
end MemStore

theorem fails_none (k : Nat) : fails none k = false := rfl

theorem insertMsg_asc (db : Tables) (n : Nat) (m : Bytes) (h : ∀ p ∈ db.msgs, p.1 < n) :
    db.insertMsg n m = some { db with msgs := db.msgs ++ [(n, m)] } := by
  have : db.msgs.any (fun p => p.1 == n) = false := by
    rw [List.any_eq_false]; intro p hp; have := h p hp; simp; omega
  simp [Tables.insertMsg, this]

theorem sqlPopulate_row (c0 : MemStore) (db : Tables) (r : SessRow) (h : db.sess = some r) :
    sqlPopulate c0 db = ((({ c0 with ctime := r.ctime } : MemStore).setT r.incoming).setS r.outgoing, db) := by
  simp [sqlPopulate, h]

theorem insertMsg_updIncoming (t : Tables) (v : Int) (n : Nat) (m : Bytes) :
    (t.updIncoming v).insertMsg n m = (t.insertMsg n m).map (fun t' => t'.updIncoming v) := by
  unfold Tables.insertMsg Tables.updIncoming
  by_cases h : (t.msgs.any fun p => p.1 == n) = true <;> simp [h]

theorem updIncoming_updOutgoing (t : Tables) (v u : Int) :
    (t.updIncoming v).updOutgoing u = (t.updOutgoing u).updIncoming v := by
  cases t with | mk sess msgs => cases sess <;> simp [Tables.updIncoming, Tables.updOutgoing]

end Qfx.Store
