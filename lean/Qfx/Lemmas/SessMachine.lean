/-
  The block setState / drainIn / incoming / checkSessionTime (mutually recursive on fuel) walked once: an induction
  principle for a relation `R` together with an invariant `I` of the session, a condition `okSt` on the states the block
  may be asked to enter and a condition `okMsg` on the messages it may be handed.  What has to be shown is one fact per
  step the block takes: the field updates, `discMid`, taking a message from the inbound buffer, `fixMsgInCore`, and the two
  sends of `checkSessionTime`.  The reset of `checkSessionTime` happens only when it is told that the session is not the
  same as before; `MachineBase` leaves it out, for relations that allow a reset only under a condition of their own.
  The guards of the model's `if`s are not handed on: `sendLogout` is asked of every session with `I` although `checkSessionTime`
  sends only when logged on, `stepCore` asks `sendQueued` and `dropQueue` whatever the state; a relation that reads the state tag
  needs an induction of its own.
  The side conditions are fixed predicates: a statement whose pre- and postcondition differ from one of the four functions to
  the next, or that needs a bound on the fuel (both: `c8_mutual` of SessC08Conn), is an induction of its own; `pendMachine` there and
  every `StepRel` are instances.
-/
import Qfx.Model.Session
namespace Qfx.Sess
open Qfx

structure MachineBase (I : Sess → Prop) (R : Sess → Sess → Prop) (okSt : SState → Prop) (okMsg : InMsg → Prop) : Prop where
  refl : ∀ s, R s s
  trans : ∀ {a b c}, R a b → R b c → R a c
  latent : okSt .latent
  notSessionTime : okSt .notSessionTime
  setSt : ∀ s next, I s → okSt next → R s (s.setSt next) ∧ I (s.setSt next)
  closeInbox : ∀ s, I s → R s s.closeInbox ∧ I s.closeInbox
  setStopped : ∀ s, I s → R s s.setStopped ∧ I s.setStopped
  arm : ∀ s n, I s → R s (s.emit (.armPeer n)) ∧ I (s.emit (.armPeer n))
  discMid : ∀ s, I s → R s (discMid s) ∧ I (discMid s)
  sendLogout : ∀ s, I s → R s (sendLogout s) ∧ I (sendLogout s)
  pop : ∀ s m rest, I s → s.inbox = m :: rest → okMsg m ∧ R s (s.setInbox rest) ∧ I (s.setInbox rest)
  fixMsgIn : ∀ s m, I s → okMsg m → R s (fixMsgInCore s m).1 ∧ I (fixMsgInCore s m).1 ∧ okSt (fixMsgInCore s m).2

structure Machine (I : Sess → Prop) (R : Sess → Sess → Prop) (okSt : SState → Prop) (okMsg : InMsg → Prop) : Prop
    extends MachineBase I R okSt okMsg where
  dropAndReset : ∀ s, I s → R s (dropAndReset s) ∧ I (dropAndReset s)

namespace MachineBase
variable {I : Sess → Prop} {R : Sess → Sess → Prop} {okSt : SState → Prop} {okMsg : InMsg → Prop}
  (h : MachineBase I R okSt okMsg)
include h

/-- one step after another, the invariant handed on -/
theorem andThen {s a b : Sess} (h1 : R s a ∧ I a) (h2 : I a → R a b ∧ I b) : R s b ∧ I b :=
  ⟨h.trans h1.1 (h2 h1.2).1, (h2 h1.2).2⟩

/-- a step the model takes under a condition: asked unconditionally, the condition is dropped -/
theorem whenever (c : Prop) [Decidable c] {s a : Sess} (ha : I s → R s a ∧ I a) (hI : I s) :
    R s (if c then a else s) ∧ I (if c then a else s) := by
  split
  · exact ha hI
  · exact ⟨h.refl s, hI⟩

/-- `okReset`: under which the caller may say that the session is not the same as before (`checkSessionTime … false`) -/
theorem stateMachine (okReset : Prop) (reset : okReset → ∀ s, I s → R s (dropAndReset s) ∧ I (dropAndReset s)) : ∀ fuel : Nat,
    (∀ s next, I s → okSt next → R s (setState fuel s next) ∧ I (setState fuel s next)) ∧
    (∀ s, I s → R s (drainIn fuel s) ∧ I (drainIn fuel s)) ∧
    (∀ s m, I s → (∀ x, m = some x → okMsg x) → R s (incoming fuel s m) ∧ I (incoming fuel s m)) ∧
    (∀ s a b, I s → (b = true ∨ okReset) → R s (checkSessionTime fuel s a b) ∧ I (checkSessionTime fuel s a b)) := by
  intro fuel
  induction fuel with
  | zero =>
    refine ⟨?_, ?_, ?_, ?_⟩
    · intro s next hI hn; unfold setState; exact h.setSt s next hI hn
    · intro s hI; unfold drainIn; exact ⟨h.refl s, hI⟩
    · intro s m hI _; unfold incoming; exact ⟨h.refl s, hI⟩
    · intro s a b hI _; unfold checkSessionTime; exact ⟨h.refl s, hI⟩
  | succ n ih =>
    obtain ⟨ihS, ihD, ihI, ihC⟩ := ih
    refine ⟨?_, ?_, ?_, ?_⟩
    · intro s next hI hn
      unfold setState
      dsimp only
      by_cases hc : (!next.connected) = true
      · rw [if_pos hc]
        have hx := h.whenever (s.st.connected = true)
          (fun hI => h.andThen (h.andThen (h.andThen (ihD s hI) (h.discMid _)) (ihD _)) (h.closeInbox _)) hI
        exact h.andThen (h.andThen hx (h.whenever _ (h.setStopped _))) (fun hy => h.setSt _ next hy hn)
      · rw [if_neg hc]
        exact h.setSt s next hI hn
    · intro s hI
      unfold drainIn
      split
      · exact ⟨h.refl s, hI⟩
      · split
        · exact ⟨h.refl s, hI⟩
        · rename_i m rest hib
          obtain ⟨hm, hp⟩ := h.pop s m rest hI hib
          exact h.andThen (h.andThen hp (fun hI' => ihI _ (some m) hI' (by intro x hx; cases hx; exact hm))) (ihD _)
    · intro s m hI hm
      unfold incoming
      dsimp only
      have h1 := ihC s true true hI (Or.inl rfl)
      generalize checkSessionTime n s true true = s1 at h1
      split
      · exact h1
      · refine h.andThen (h.andThen h1 (fun hI1 => ?_)) (h.arm _ _)
        cases m with
        | none => exact ⟨h.refl s1, hI1⟩
        | some m =>
          obtain ⟨f1, f2, f3⟩ := h.fixMsgIn s1 m hI1 (hm m rfl)
          exact h.andThen ⟨f1, f2⟩ (fun hI2 => ihS _ _ hI2 f3)
    · intro s a b hI hb
      unfold checkSessionTime
      dsimp only
      by_cases ha : (!a) = true
      · rw [if_pos ha]
        exact h.andThen (h.whenever _ (h.sendLogout s) hI) (fun hI' => ihS _ _ hI' h.notSessionTime)
      · rw [if_neg ha]
        have h1 := h.whenever ((!s.st.sessionTime) = true) (fun hI => ihS s .latent hI h.latent) hI
        by_cases hsame : (!b) = true
        · rw [if_pos hsame]
          have hr : okReset := hb.resolve_left (by intro hb; rw [hb] at hsame; cases hsame)
          exact h.andThen (h.andThen (h.andThen h1 (h.whenever _ (h.sendLogout _))) (reset hr _))
            (fun hI' => ihS _ _ hI' h.latent)
        · rw [if_neg hsame]
          exact h1

theorem stepCore (okReset : Prop) (reset : okReset → ∀ s, I s → R s (dropAndReset s) ∧ I (dropAndReset s))
    (s : Sess) (e : Ev) (hI : I s)
    (connect : e = .connect → R s (connect s).1 ∧ I (connect s).1)
    (incoming : ∀ m, e = .incomingMsg (some m) → okMsg m)
    (arrive : ∀ m, e = .arrive m → R s (s.setInbox (s.inbox ++ [m])) ∧ I (s.setInbox (s.inbox ++ [m])))
    (timeoutCore : ∀ x ev, I x → R x (timeoutCore x ev).1 ∧ I (timeoutCore x ev).1 ∧ okSt (timeoutCore x ev).2)
    (setPendingStop : ∀ x, I x → R x x.setPendingStop ∧ I x.setPendingStop)
    (stopNext : ∀ x, I x → R x (stopNext x).1 ∧ I (stopNext x).1 ∧ okSt (stopNext x).2)
    (send : ∀ m, e = .send m → R s (queueForSend s m) ∧ I (queueForSend s m))
    (sendQueued : ∀ x, I x → R x (sendQueued x) ∧ I (sendQueued x))
    (dropQueue : ∀ x, I x → R x (x.setToSend []) ∧ I (x.setToSend []))
    (sessionTime : ∀ r sm, e = .sessionTime r sm → sm = true ∨ okReset)
    (resetTime : ∀ now, e = .resetTime now → R s (checkResetTime s now) ∧ I (checkResetTime s now)) :
    R s (stepCore s e).1 ∧ I (stepCore s e).1 := by
  obtain ⟨hS, _, hIn, hC⟩ := h.stateMachine okReset reset (fuelOf s)
  unfold Sess.stepCore
  dsimp only
  cases e with
  | connect => exact connect rfl
  | incomingMsg m => exact hIn s m hI (fun x hx => incoming x (by rw [hx]))
  | arrive m =>
    dsimp only
    split
    · exact arrive m rfl
    · exact ⟨h.refl s, hI⟩
  | pop =>
    dsimp only
    split
    · exact ⟨h.refl s, hI⟩
    · split
      · exact ⟨h.refl s, hI⟩
      · rename_i m rest hib
        obtain ⟨hm, hp⟩ := h.pop s m rest hI hib
        exact h.andThen hp (fun hI' => hIn _ (some m) hI' (by intro x hx; cases hx; exact hm))
  | timeout ev =>
    have g1 := hC s true true hI (Or.inl rfl)
    obtain ⟨t1, t2, t3⟩ := timeoutCore _ ev g1.2
    exact h.andThen (h.andThen g1 fun _ => ⟨t1, t2⟩) fun hx => hS _ _ hx t3
  | disconnected =>
    dsimp only
    split
    · exact hS s _ hI h.latent
    · exact ⟨h.refl s, hI⟩
  | stop =>
    have g1 := setPendingStop s hI
    obtain ⟨t1, t2, t3⟩ := stopNext _ g1.2
    exact h.andThen (h.andThen g1 fun _ => ⟨t1, t2⟩) fun hx => hS _ _ hx t3
  | send m =>
    have hq := send m rfl
    unfold Sess.queueForSend at hq
    dsimp only
    generalize Sess.prep s m = r at hq
    obtain ⟨o, s2⟩ := r
    cases o <;> exact hq
  | flush =>
    dsimp only
    refine h.andThen (hC s true true hI (Or.inl rfl)) (fun hx => ?_)
    split
    · exact sendQueued _ hx
    · exact dropQueue _ hx
  | sessionTime r sm => exact hC s r sm hI (sessionTime r sm rfl)
  | resetTime now => exact resetTime now rfl

end MachineBase

theorem Machine.stateMachine {I : Sess → Prop} {R : Sess → Sess → Prop} {okSt : SState → Prop} {okMsg : InMsg → Prop}
    (h : Machine I R okSt okMsg) (fuel : Nat) :
    (∀ s next, I s → okSt next → R s (setState fuel s next) ∧ I (setState fuel s next)) ∧
    (∀ s, I s → R s (drainIn fuel s) ∧ I (drainIn fuel s)) ∧
    (∀ s m, I s → (∀ x, m = some x → okMsg x) → R s (incoming fuel s m) ∧ I (incoming fuel s m)) ∧
    (∀ s a b, I s → R s (checkSessionTime fuel s a b) ∧ I (checkSessionTime fuel s a b)) :=
  have ⟨hS, hD, hI, hC⟩ := h.toMachineBase.stateMachine True (fun _ => h.dropAndReset) fuel
  ⟨hS, hD, hI, fun s a b hs => hC s a b hs (Or.inr trivial)⟩

end Qfx.Sess
