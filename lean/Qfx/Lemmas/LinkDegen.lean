/-
  The degenerate configurations with an empty CompID.  No message can then pass the CompID check of the engine that
  receives it (`checkCompID` refuses an empty SenderCompID / TargetCompID whatever the validator settings are), so no
  Logon is ever accepted and nothing is ever delivered (generic frame machinery of Lemmas/SessPool with the policy "no
  application delivery").  Also: what the default validator does with an empty payload value.
-/
import Qfx.Lemmas.LinkFields
import Qfx.Spec.Link
import Qfx.Lemmas.LinkRun
import Qfx.Lemmas.LinkCtx
import Qfx.Lemmas.Validate
namespace Qfx.Link
open Qfx Qfx.Sess

def NoApp : Obs → Prop := fun o => ∀ sq t, o ≠ .fromApp sq t

instance noAppPolicy : Policy NoApp TS where
  sRefl := fun _ => trivial
  sTrans := fun _ _ => trivial
  nWire := fun _ _ _ h => by cases h
  nSaved := fun _ _ _ _ _ h => by cases h
  nIncS := fun _ _ h => by cases h
  nIncT := fun _ _ h => by cases h
  nSetT := fun _ _ _ h => by cases h
  nArm := fun _ _ _ h => by cases h
  nClosed := fun _ _ h => by cases h
  nOnLogout := fun _ _ h => by cases h
  nRefresh := fun _ _ h => by cases h
  sPersist := fun _ _ _ => trivial
  sIncS := fun _ => trivial
  sTarget := fun _ _ _ => trivial

theorem noApp_resetOK : ResetOK NoApp TS := ⟨(fun _ _ h => by cases h), fun _ => trivial⟩

def FailsCompID (cfg : Cfg) (im : InMsg) : Prop := ¬ CompOK cfg im

theorem cbObs_admin_noApp (s' : Sess) (m : InMsg) (hk : kindOf m = "A") : NoApp (cbObs s' m) := by
  intro sq t h
  unfold cbObs at h
  rw [hk] at h
  simp [isAdminKind] at h

theorem poolHyp_failsCompID (cfg : Cfg) : PoolHyp NoApp TS (FailsCompID cfg) cfg :=
  fun m hm => ⟨hm, fun hg _ => absurd hg.comp hm, fun hk _ s' => cbObs_admin_noApp s' m hk, (fun _ hg _ _ _ _ => absurd hg.comp hm),
    Or.inl noApp_resetOK⟩

theorem failsCompID_any (cfg : Cfg) (h : cfg.sender = "" ∨ cfg.target = "") (im : InMsg) : FailsCompID cfg im := by
  intro hc
  rcases h with h | h
  · have := hc.2.2.2; rw [h] at this; simp at this
  · have := hc.2.2.1; rw [h] at this; simp at this

/-- nothing has been delivered and everything buffered or stashed is refused by the CompID check -/
structure LInvD (l : LSt) : Prop where
  da : l.dlvA = []
  db : l.dlvB = []
  pa : PoolInv (FailsCompID l.a.cfg) l.a
  pb : PoolInv (FailsCompID l.b.cfg) l.b

theorem step_failsCompID (s : Sess) (e : Ev) (hp : PoolInv (FailsCompID s.cfg) s) (he : EvOK NoApp TS (FailsCompID s.cfg) s.cfg e) :
    deliveredSeqs (step s e).2.1 = [] ∧ (step s e).1.cfg = s.cfg ∧ PoolInv (FailsCompID s.cfg) (step s e).1 := by
  obtain ⟨h1, _, h3, h4⟩ := step_good (N := NoApp) (S := TS) s e (poolHyp_failsCompID _) (Or.inl noApp_resetOK) hp he
  exact ⟨deliveredSeqs_none _ h1, h3, h4⟩

def sideCfg (l : LSt) : Side → Cfg
  | .A => l.a.cfg
  | .B => l.b.cfg

theorem LInvD_onSide {l : LSt} (h : LInvD l) (side : Side) (e : Ev)
    (he : EvOK NoApp TS (FailsCompID (sideCfg l side)) (sideCfg l side) e) :
    LInvD (onSide l side e).1 ∧ (onSide l side e).1.a.cfg = l.a.cfg ∧ (onSide l side e).1.b.cfg = l.b.cfg := by
  cases side with
  | A =>
    obtain ⟨h1, h2, h3⟩ := step_failsCompID l.a e h.pa he
    simp only [onSide, h1, List.map_nil, List.append_nil]
    exact ⟨⟨h.da, h.db, by rw [h2]; exact h3, h.pb⟩, h2, trivial⟩
  | B =>
    obtain ⟨h1, h2, h3⟩ := step_failsCompID l.b e h.pb he
    simp only [onSide, h1, List.map_nil, List.append_nil]
    exact ⟨⟨h.da, h.db, h.pa, by rw [h2]; exact h3⟩, trivial, h2⟩

theorem poolInv_restart (s : Sess) : PoolInv (FailsCompID (restartSess s).cfg) (restartSess s) :=
  ⟨(by intro m hm; cases hm), (by intro p hp; cases hp)⟩

theorem evOK_failsCompID (cfg : Cfg) (h : cfg.sender = "" ∨ cfg.target = "") (e : Ev) (he : LstepEv e) : EvOK NoApp TS (FailsCompID cfg) cfg e := by
  cases e with
  | incomingMsg m => intro x _; exact failsCompID_any cfg h x
  | send m => exact Or.inl noApp_resetOK
  | connect | timeout _ | disconnected | flush => trivial
  | _ => exact he.elim

theorem LInvD_lstep {cfgA cfgB : Cfg} (hbad : (cfgA.sender = "" ∨ cfgA.target = "") ∧ (cfgB.sender = "" ∨ cfgB.target = ""))
    {l : LSt} (h : LInvD l) (hca : l.a.cfg = cfgA) (hcb : l.b.cfg = cfgB) (e : LEv) :
    LInvD (lstep l e).1 ∧ (lstep l e).1.a.cfg = cfgA ∧ (lstep l e).1.b.cfg = cfgB := by
  refine lstep_keeps (I := fun l' => LInvD l' ∧ l'.a.cfg = cfgA ∧ l'.b.cfg = cfgB)
    (fun _ _ _ _ _ _ _ h => ⟨⟨h.1.da, h.1.db, h.1.pa, h.1.pb⟩, h.2⟩) ?_
    (fun _ h => ⟨⟨⟨h.1.da, h.1.db, poolInv_restart _, h.1.pb⟩, h.2⟩, ⟨⟨h.1.da, h.1.db, h.1.pa, poolInv_restart _⟩, h.2⟩⟩) l e ⟨h, hca, hcb⟩
  intro l' side e he h
  obtain ⟨k, a, b⟩ := LInvD_onSide h.1 side e (by
    cases side
    · exact evOK_failsCompID _ (by rw [show sideCfg l' .A = cfgA from h.2.1]; exact hbad.1) e he
    · exact evOK_failsCompID _ (by rw [show sideCfg l' .B = cfgB from h.2.2]; exact hbad.2) e he)
  exact ⟨k, a.trans h.2.1, b.trans h.2.2⟩

theorem LInvD_run {cfgA cfgB : Cfg} (hbad : (cfgA.sender = "" ∨ cfgA.target = "") ∧ (cfgB.sender = "" ∨ cfgB.target = ""))
    (evs : List LEv) : ∀ l : LSt, LInvD l → l.a.cfg = cfgA → l.b.cfg = cfgB → LInvD (runL l evs) := by
  induction evs with
  | nil => intro l h _ _; exact h
  | cons e es ih =>
    intro l h ha hb
    obtain ⟨k, a, b⟩ := LInvD_lstep hbad h ha hb e
    exact ih _ k a b

theorem LInvD_init (cfgA cfgB : Cfg) : LInvD (linkInit cfgA cfgB) :=
  ⟨rfl, rfl, ⟨(by intro m hm; cases hm), (by intro p hp; cases hp)⟩, ⟨(by intro m hm; cases hm), (by intro p hp; cases hp)⟩⟩

theorem safe_of_LInvD {l : LSt} (h : LInvD l) : safe l.sentA l.sentB l.dlvA l.dlvB = true := by
  unfold safe; rw [h.da, h.db]; simp [isPrefix]

/-- the default validator with ValidateFieldsHaveValues on (its default) refuses an application message whose payload id
    is empty: tag specified without a value, RefTagID 9000 -/
theorem validate_empty_payload (rcfg cfg : Cfg) (n : Int) (hs : cfg.sender ≠ "") (ht : cfg.target ≠ "")
    (happ : rcfg.validator.app = none) (hhv : rcfg.validator.settings.checkHaveValues = true) :
    validate rcfg (toIn cfg (appMsg n "")) = some (noValue 9000) := by
  have ne : ∀ (t : Nat) (v : String), Validate.isHeaderTag t = true → v ≠ "" →
      Validate.isHeaderTag (tvOf (t, v)).tag = true ∧ (tvOf (t, v)).value.isEmpty = false :=
    fun t v h1 h2 => ⟨h1, wireValue_nonempty v (String.isEmpty_eq_false_iff.2 h2)⟩
  -- tags 9 and 10 with the placeholder values `toPMsg` gives BodyLength and CheckSum
  have hfields : (toPMsg rcfg.validator.tr (toIn cfg (appMsg n ""))).fields =
      [tvOf (8, bsName cfg.bs), { tag := 9, value := [48] }, tvOf (35, "D"), tvOf (49, cfg.sender), tvOf (56, cfg.target),
       tvOf (34, toString n), tvOf (52, "@0")] ++ tvOf (9000, "") :: [{ tag := 10, value := [48, 48, 48] }] := by
    unfold toPMsg wireFields
    rw [toIn_f]
    rfl
  rw [validate_noDict rcfg _ happ, hdr_has35 _ _ (toIn_has35 cfg _)]
  unfold Validate.validateFieldContent
  have hpre : ∀ x ∈ [tvOf (8, bsName cfg.bs), { tag := 9, value := [48] }, tvOf (35, "D"), tvOf (49, cfg.sender), tvOf (56, cfg.target),
      tvOf (34, toString n), tvOf (52, "@0")], Validate.isHeaderTag x.tag = true ∧ x.value.isEmpty = false := by
    intro x hx
    simp only [List.mem_cons, List.not_mem_nil, or_false] at hx
    rcases hx with rfl | rfl | rfl | rfl | rfl | rfl | rfl
    · exact ne 8 _ rfl (bsName_ne_empty _)
    · exact ⟨rfl, rfl⟩
    · exact ne 35 _ rfl (by decide)
    · exact ne 49 _ rfl hs
    · exact ne 56 _ rfl ht
    · exact ne 34 _ rfl (toString_int_ne_empty n)
    · exact ne 52 _ rfl (by decide)
  rw [hfields, hhv, Validate.contentLoop_first_empty _ _ [{ tag := 10, value := [48, 48, 48] }] (tvOf (9000, "")) ⟨_, [_], _, rfl, fun x hx => (hpre x hx).1,
    fun x hx => List.mem_singleton.1 hx ▸ ⟨rfl, rfl⟩, fun x hx => List.mem_singleton.1 hx ▸ rfl⟩ (fun x hx => (hpre x hx).2) rfl]
  rfl

end Qfx.Link
