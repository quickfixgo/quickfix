/-
  The parse loop one field at a time.  An iteration stores the field, runs the mode's `switch` (`switchOf`) and — unless `parseGroup` goes
  on — the statements behind it.  For a field that `extractField` delivers while no XMLData length is pending, three case rules say what
  follows, whatever the switch did: `parseLoop_goes` (`parseGroup` is entered or goes on), `parseLoop_back` (the field is filed, the main
  loop goes on; not for tag 212), `parseLoop_ends` (CheckSum).  XMLDataLen (212) and the field cut off by its announced length are not
  covered: an instance that meets them unfolds the loop itself (CodecXml).  `loop_chain` is the loop over a list of fields for an invariant
  `I` indexed by a ghost state and the moves `T` of the ghost state: a client shows `Advances fx d I T` (one case per move: it cuts the field
  off the buffer, then a switch equation and a case rule), presents its fields as a `Chain T`, and gets the state behind them
  existentially, described by `I`; the smallest `Advances` to copy is `wire_iter` (CodecAnyDict).  What the client does behind the chain —
  CheckSum by `parseLoop_checksum` or `parseLoop_ends`, then `finish_ok` — asks of the last state that no XMLData length is pending and
  that the header still maps 9 to the second field, so `I` should carry both.  Behind that: what `parseMessage` does around the loop (field
  array, the three leading extractions, the final check).  `hh10 : isHeaderField d 10 = false`, a hypothesis of every whole-message
  theorem, says that the transport dictionary does not list CheckSum as a header field (the header test comes first in both switches).
-/
import Qfx.Lemmas.CodecParse
namespace Qfx

variable {d : Dicts}

def switchOf (fx : Fixes) (d : Dicts) (fields : List TagValue) (idx : Nat) (tv : TagValue) (c : PCore) : Mode → Res (PCore × Option Mode)
  | .main => .ok (mainSwitch fx d fields idx tv c)
  | .grp j tags gf => grpSwitch fx d fields idx tv j tags gf c

theorem parseLoop_field (fx : Fixes) (mode : Mode) (fields : List TagValue) (idx : Nat) (c : PCore) (tv : TagValue) (raw' : Bytes)
    (hidx : idx < fields.length) (hx : c.xmlDataLen = 0) (hex : extractField c.rawBytes = (raw', .ok tv)) :
    parseLoop fx d mode fields idx c =
      match switchOf fx d (fields.set idx tv) idx tv { c with rawBytes := raw' } mode with
      | .ok (c1, some m) => parseLoop fx d m (fields.set idx tv) (idx + 1) c1
      | .ok (c1, none) =>
        (match tailStep (fields.set idx tv) tv c1 with
         | .ok (c2, true) => finishParse (fields.set idx tv) c2
         | .ok (c2, false) => parseLoop fx d .main (fields.set idx tv) (idx + 1) c2
         | .err e => .err e
         | .fault w => .fault w)
      | .err e => .err e
      | .fault w => .fault w := by
  rw [parseLoop]
  cases mode with
  | main =>
    simp only [hidx, dite_true, hx, show ¬ ((0 : Int) > 0) by decide, if_false, hex, switchOf]
    generalize mainSwitch _ _ _ _ _ _ = r
    obtain ⟨c1, _ | m⟩ := r <;> rfl
  | grp j tags gf =>
    simp only [hidx, dite_true, hex, switchOf]
    generalize grpSwitch _ _ _ _ _ _ _ _ _ = r
    obtain ⟨c1, _ | m⟩ | e | w := r <;> rfl

section
variable (fx : Fixes) (mode : Mode) (fields : List TagValue) (idx : Nat) (c c1 : PCore) (tv : TagValue) (raw' : Bytes)
  (hidx : idx < fields.length) (hx : c.xmlDataLen = 0) (hex : extractField c.rawBytes = (raw', .ok tv))
include hidx hx hex

theorem parseLoop_goes (m : Mode) (hsw : switchOf fx d (fields.set idx tv) idx tv { c with rawBytes := raw' } mode = .ok (c1, some m)) :
    parseLoop fx d mode fields idx c = parseLoop fx d m (fields.set idx tv) (idx + 1) c1 := by
  rw [parseLoop_field fx mode fields idx c tv raw' hidx hx hex, hsw]

theorem parseLoop_back (hsw : switchOf fx d (fields.set idx tv) idx tv { c with rawBytes := raw' } mode = .ok (c1, none))
    (h10 : tv.tag ≠ 10) (h212 : tv.tag ≠ 212) :
    parseLoop fx d mode fields idx c = parseLoop fx d .main (fields.set idx tv) (idx + 1) (plainTail c1) := by
  rw [parseLoop_field fx mode fields idx c tv raw' hidx hx hex, hsw]
  simp only [tailStep_nd _ _ _ h10 h212]

theorem parseLoop_ends (hsw : switchOf fx d (fields.set idx tv) idx tv { c with rawBytes := raw' } mode = .ok (c1, none))
    (h10 : tv.tag = 10) : parseLoop fx d mode fields idx c = finishParse (fields.set idx tv) c1 := by
  rw [parseLoop_field fx mode fields idx c tv raw' hidx hx hex, hsw]
  simp only [tailStep_10 _ _ _ h10]

/-- an iteration depends on the mode and on the state only through what the switch makes of them -/
theorem parseLoop_same (m1 : Mode) (hx1 : c1.xmlDataLen = 0) (hex1 : extractField c1.rawBytes = (raw', .ok tv))
    (hsw : switchOf fx d (fields.set idx tv) idx tv { c with rawBytes := raw' } mode =
      switchOf fx d (fields.set idx tv) idx tv { c1 with rawBytes := raw' } m1) :
    parseLoop fx d mode fields idx c = parseLoop fx d m1 fields idx c1 := by
  rw [parseLoop_field fx mode fields idx c tv raw' hidx hx hex, parseLoop_field fx m1 fields idx c1 tv raw' hidx hx1 hex1, hsw]
end

/-- the ghost state moves along a list of fields -/
inductive Chain {G : Type} (T : G → TagValue → G → Prop) : G → List TagValue → G → Prop where
  | nil (g : G) : Chain T g [] g
  | cons {g g1 g' : G} {tv : TagValue} {r : List TagValue} : T g tv g1 → Chain T g1 r g' → Chain T g (tv :: r) g'

theorem Chain.trans {G : Type} {T : G → TagValue → G → Prop} {a b c : G} {l1 l2 : List TagValue} (h1 : Chain T a l1 b)
    (h2 : Chain T b l2 c) : Chain T a (l1 ++ l2) c := by
  induction h1 with
  | nil g => exact h2
  | cons hT _ ih => exact .cons hT (ih h2)

theorem Chain.of_forall {G : Type} {T : G → TagValue → G → Prop} (g : G) : ∀ (l : List TagValue), (∀ tv ∈ l, T g tv g) → Chain T g l g
  | [], _ => .nil g
  | tv :: r, h => .cons (h tv (by simp)) (Chain.of_forall g r fun x hx => h x (by simp [hx]))

/-- a chain may start from any state that can make its first move -/
theorem Chain.head {G : Type} {T : G → TagValue → G → Prop} {g g0 g' : G} {tv : TagValue} {l : List TagValue} (h : Chain T g (tv :: l) g')
    (hT : ∀ g1, T g tv g1 → T g0 tv g1) : Chain T g0 (tv :: l) g' := by
  cases h with
  | cons h1 h2 => exact .cons (hT _ h1) h2

/-- one iteration over a field whose bytes the buffer starts with moves the ghost state from `g` to `g'`, keeps `I` and leaves the buffer
    behind the field; how the field is cut off the buffer (`extractField`, or by an announced length) is the instance's business -/
def Advances {G : Type} (fx : Fixes) (d : Dicts) (I : G → Mode → List TagValue → Nat → PCore → Prop) (T : G → TagValue → G → Prop) : Prop :=
  ∀ g tv g', T g tv g' → ∀ mode fields idx c raw', I g mode fields idx c → idx < fields.length → c.rawBytes = tv.bytes ++ raw' →
    ∃ m' c', parseLoop fx d mode fields idx c = parseLoop fx d m' (fields.set idx tv) (idx + 1) c' ∧
      I g' m' (fields.set idx tv) (idx + 1) c' ∧ c'.rawBytes = raw'

theorem loop_chain {fx : Fixes} {G : Type} {I : G → Mode → List TagValue → Nat → PCore → Prop} {T : G → TagValue → G → Prop}
    (hit : Advances fx d I T) {g g' : G} {rest : List TagValue} (hch : Chain T g rest g') :
    ∀ (mode : Mode) (fields : List TagValue) (idx : Nat) (c : PCore) (tail : Bytes),
    I g mode fields idx c → c.rawBytes = wireOf rest ++ tail → idx + rest.length ≤ fields.length →
    ∃ m' c', parseLoop fx d mode fields idx c = parseLoop fx d m' (setRange fields idx rest) (idx + rest.length) c' ∧
      I g' m' (setRange fields idx rest) (idx + rest.length) c' ∧ c'.rawBytes = tail := by
  induction hch with
  | nil g => intro mode fields idx c tail hI hraw _; exact ⟨mode, c, rfl, hI, by simpa [wireOf] using hraw⟩
  | @cons g g1 g' tv r hT _ ih =>
    intro mode fields idx c tail hI hraw hlen
    rw [List.length_cons] at hlen
    obtain ⟨m1, c1, e1, hI1, hraw1⟩ := hit g tv g1 hT mode fields idx c (wireOf r ++ tail) hI (by omega)
      (by rw [hraw, wireOf_cons, List.append_assoc])
    obtain ⟨m', c', e2, hI', hraw'⟩ := ih m1 (fields.set idx tv) (idx + 1) c1 tail hI1 hraw1 (by rw [List.length_set]; omega)
    have e : idx + 1 + r.length = idx + (r.length + 1) := by omega
    rw [e] at e2 hI'
    exact ⟨m', c', e1.trans e2, hI', hraw'⟩

theorem Chain.and_mem {G : Type} {T : G → TagValue → G → Prop} {P : TagValue → Prop} {g g' : G} {l : List TagValue} (h : Chain T g l g')
    (hP : ∀ tv ∈ l, P tv) : Chain (fun g tv g' => P tv ∧ T g tv g') g l g' := by
  induction h with
  | nil g => exact .nil g
  | cons hT _ ih => exact .cons ⟨hP _ (by simp), hT⟩ (ih fun x hx => hP x (by simp [hx]))

theorem parseLoop_checksum (fx : Fixes) (fields : List TagValue) (idx : Nat) (c : PCore) (t10 : TagValue) (rest : Bytes)
    (hidx : idx < fields.length) (hx : c.xmlDataLen = 0) (hw : IsWire t10) (h10 : t10.tag = 10) (hh10 : isHeaderField d 10 = false)
    (hraw : c.rawBytes = t10.bytes ++ rest) :
    parseLoop fx d .main fields idx c =
      finishParse (fields.set idx t10) { c with rawBytes := rest, trailer := c.trailer.add t10.tag (.view idx 1), foundTrailer := true } := by
  have ht : isTrailerField d t10.tag = true := by rw [h10]; exact isTrailerField_ten d
  have hh : isHeaderField d t10.tag = false := by rw [h10]; exact hh10
  exact parseLoop_ends fx .main fields idx c _ t10 rest hidx hx (by rw [hraw]; exact extractField_wire t10 rest hw)
    (by simp only [switchOf, mainSwitch, hh, ht, if_true, Bool.false_eq_true, if_false]) h10

theorem setRange_append (fields : List TagValue) (idx : Nat) (a b : List TagValue) :
    setRange fields idx (a ++ b) = setRange (setRange fields idx a) (idx + a.length) b := by
  induction a generalizing fields idx with
  | nil => simp [setRange]
  | cons x r ih =>
    simp only [List.cons_append, setRange, List.length_cons]
    rw [ih]; congr 1; omega

/-- the final check passes when BodyLength is the summed length, or the message carried XMLData -/
theorem finish_pass (F : List TagValue) (C : PCore) (t9 : TagValue) (bl : Int) (h9 : alFind C.header.lookup 9 = some (.view 1 1))
    (hF : F[1]? = some t9) (hbl : atoi t9.value = .ok bl) (hp : bl = ((fieldsLength F : Nat) : Int) ∨ C.xmlDataMsg = true) :
    finishParse F C = .ok (F, finishAdjust C) := by
  have hget : (finishAdjust C).header.getInt F 9 = .ok bl := by
    rw [(finishAdjust_keeps C).1]
    have hb := getBytes_view C.header F 9 1 t9 h9 hF
    simp [FieldMap.getInt, hb, hbl]
  simp only [finishParse, hget, (finishAdjust_keeps C).2.1]
  rcases hp with rfl | hx
  · simp
  · simp [hx]

theorem finish_ok (F : List TagValue) (C : PCore) (t9 : TagValue) (h9 : alFind C.header.lookup 9 = some (.view 1 1))
    (hF : F[1]? = some t9) (hbl : atoi t9.value = .ok ((fieldsLength F : Nat) : Int)) :
    finishParse F C = .ok (F, finishAdjust C) :=
  finish_pass F C t9 _ h9 hF hbl (.inl rfl)

theorem setRange_snoc (fields : List TagValue) (idx : Nat) (a : List TagValue) (x : TagValue) :
    (setRange fields idx a).set (idx + a.length) x = setRange fields idx (a ++ [x]) := by
  rw [setRange_append]; rfl

/-- the message a parse returns, assembled from the final loop state -/
def msgOf (w : Bytes) (fields : List TagValue) (c : PCore) : Message :=
  { header := c.header, body := c.body, trailer := c.trailer, fields := fields, bodyBytes := c.bodyBytes, raw := some w }

/-- the sections of the returned message are those of the last loop state -/
theorem msgOf_sec (w : Bytes) (F : List TagValue) (C : PCore) (s : Sec) : (msgOf w F (finishAdjust C)).sec s = C.sec s := by
  obtain ⟨k1, _, k3, k4⟩ := finishAdjust_keeps C
  cases s
  · exact k1
  · exact k3
  · exact k4

/-- `m + 3` SOH bytes: Go sizes the field array by counting SOH -/
theorem parseMessage_lead (fx : Fixes) (t8 t9 t35 : TagValue) (rest : List TagValue) (m : Nat)
    (hw8 : IsWire t8) (hw9 : IsWire t9) (hw35 : IsWire t35)
    (h8 : t8.tag = 8) (h9 : t9.tag = 9) (h35 : t35.tag = 35)
    (hcount : countByte (wireOf (t8 :: t9 :: t35 :: rest)) SOH = m + 3) :
    parseMessage fx d (wireOf (t8 :: t9 :: t35 :: rest)) =
      (match parseLoop fx d .main ([t8, t9, t35] ++ List.replicate m TagValue.zero) 3 (plainInit t8 t9 t35 (wireOf rest)) with
       | .err e => .err e
       | .fault w => .fault w
       | .ok (fields, c') => .ok (msgOf (wireOf (t8 :: t9 :: t35 :: rest)) fields c')) := by
  have ex1 := extractField_wireOf t8 (t9 :: t35 :: rest) [] hw8
  have ex2 := extractField_wireOf t9 (t35 :: rest) [] hw9
  have ex3 := extractField_wireOf t35 rest [] hw35
  simp only [List.append_nil] at ex1 ex2 ex3
  simp only [parseMessage, hcount]
  have hne : ¬ (m + 3 = 0) := by omega
  simp only [hne, if_false]
  rw [extractSpecific_ok fx 8 _ 0 _ _ _ t8 (by simp) ex1 h8]
  simp only []
  rw [extractSpecific_ok fx 9 _ 1 _ _ _ t9 (by simp) ex2 h9]
  simp only []
  rw [extractSpecific_ok fx 35 _ 2 _ _ _ t35 (by simp) ex3 h35]
  simp only []
  have hf3 : (((List.replicate (m + 3) TagValue.zero).set 0 t8).set 1 t9).set 2 t35 =
      [t8, t9, t35] ++ List.replicate m TagValue.zero := by
    simp [List.replicate_succ]
  rw [hf3]
  rfl

theorem parseMessage_lead_wire (fx : Fixes) (t8 t9 t35 : TagValue) (rest : List TagValue)
    (hw8 : IsWire t8) (hw9 : IsWire t9) (hw35 : IsWire t35) (hrest : ∀ tv ∈ rest, IsWire tv)
    (h8 : t8.tag = 8) (h9 : t9.tag = 9) (h35 : t35.tag = 35) :
    parseMessage fx d (wireOf (t8 :: t9 :: t35 :: rest)) =
      (match parseLoop fx d .main ([t8, t9, t35] ++ List.replicate rest.length TagValue.zero) 3 (plainInit t8 t9 t35 (wireOf rest)) with
       | .err e => .err e
       | .fault w => .fault w
       | .ok (fields, c') => .ok (msgOf (wireOf (t8 :: t9 :: t35 :: rest)) fields c')) := by
  exact parseMessage_lead fx t8 t9 t35 rest rest.length hw8 hw9 hw35 h8 h9 h35 (by
    rw [countByte_wireOf _ (List.forall_mem_cons.2 ⟨hw8, List.forall_mem_cons.2 ⟨hw9, List.forall_mem_cons.2 ⟨hw35, hrest⟩⟩⟩)]; simp)

theorem parseMessage_ok_inv {fx : Fixes} {w : Bytes} {m : Message} (h : parseMessage fx d w = .ok m) :
    ∃ f1 r1 h1 f2 r2 h2 f3 r3 h3 c fields c',
      extractSpecific fx 8 (List.replicate (countByte w SOH) TagValue.zero) 0 w (FieldMap.empty .header) = .ok (f1, r1, h1) ∧
      extractSpecific fx 9 f1 1 r1 h1 = .ok (f2, r2, h2) ∧ extractSpecific fx 35 f2 2 r2 h2 = .ok (f3, r3, h3) ∧
      parseLoop fx d .main f3 3 c = .ok (fields, c') ∧ m = msgOf w fields c' := by
  revert h
  -- case10: the one `.ok` leaf
  fun_cases parseMessage fx d w with
  | case10 _ _ _ f1 r1 h1 e1 f2 r2 h2 e2 f3 r3 h3 e3 c fields c' hl =>
    intro h; cases h
    exact ⟨f1, r1, h1, f2, r2, h2, f3, r3, h3, _, fields, c', e1, e2, e3, hl, rfl⟩
  | _ => nofun

end Qfx
