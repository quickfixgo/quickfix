/-
  The READER side of what `RepeatingGroup.Write` emits: for entries that conform to their template (`Spec.entriesOK`) over a template tree
  of distinct tags, the output is `n` entries of well-formed member blocks (`EntryOKB`, nested groups reading back with their nested
  templates) at ANY nesting depth — by induction over the successful conforming runs (`write_induct`: `write_blocks_run`, `write_blocks`).
-/
import Qfx.Lemmas.CodecWriteNest
import Qfx.Lemmas.CodecOps
namespace Qfx
open Qfx.Spec

/-- the tags strictly inside the nested group items of a template -/
def deepTags : List Item → List Tag
  | [] => []
  | .elem _ :: r => deepTags r
  | .group _ sub :: r => allTmplTags sub ++ deepTags r

theorem allTmplTags_perm (tm : List Item) : (allTmplTags tm).Perm (tmplTags tm ++ deepTags tm) := by
  induction tm with
  | nil => simp [allTmplTags, tmplTags, deepTags]
  | cons it r ih =>
    cases it with
    | elem t =>
      simp only [allTmplTags, tmplTags, List.map_cons, Item.tag, deepTags, List.cons_append]
      exact List.Perm.cons _ ih
    | group t sub =>
      simp only [allTmplTags, tmplTags, List.map_cons, Item.tag, deepTags, List.cons_append]
      refine List.Perm.cons _ ?_
      have h1 : (allTmplTags sub ++ allTmplTags r).Perm (allTmplTags sub ++ (tmplTags r ++ deepTags r)) := List.Perm.append_left _ ih
      refine h1.trans ?_
      simp only [tmplTags]
      rw [← List.append_assoc, ← List.append_assoc]
      exact List.Perm.append_right _ List.perm_append_comm

theorem nodupTags_iff (l : List Tag) : nodupTags l = true ↔ l.Nodup := by
  induction l with
  | nil => simp [nodupTags]
  | cons t r ih =>
    simp only [nodupTags, Bool.and_eq_true, Bool.not_eq_true', List.nodup_cons, ih]
    constructor
    · rintro ⟨h1, h2⟩; exact ⟨by simpa using h1, h2⟩
    · rintro ⟨h1, h2⟩; exact ⟨by simpa using h1, h2⟩

theorem deep_of_find_group {tm : List Item} {t t' : Tag} {sub : List Item} (h : findItem tm t = some (.group t' sub)) :
    ∀ x ∈ allTmplTags sub, x ∈ deepTags tm := by
  fun_induction findItem tm t with
  | case1 => cases h
  | case2 it r => cases h; exact fun x hx => List.mem_append_left _ hx
  | case3 it r t _ ih =>
    intro x hx
    cases it with
    | elem _ => exact ih h x hx
    | group _ s2 => exact List.mem_append_right _ (ih h x hx)

theorem nodup_sub_of_find_group {tm : List Item} {t t' : Tag} {sub : List Item} (h : findItem tm t = some (.group t' sub))
    (hn : (allTmplTags tm).Nodup) : (allTmplTags sub).Nodup := by
  fun_induction findItem tm t with
  | case1 => cases h
  | case2 it r =>
    cases h
    simp only [allTmplTags, List.nodup_cons, List.nodup_append] at hn
    exact hn.2.1
  | case3 it r t _ ih =>
    cases it with
    | elem _ => simp only [allTmplTags, List.nodup_cons] at hn; exact ih h hn.2
    | group _ s2 => simp only [allTmplTags, List.nodup_cons, List.nodup_append] at hn; exact ih h hn.2.2.1

theorem findItem_none_of_not_mem (tm : List Item) (t : Tag) (h : t ∉ tmplTags tm) : findItem tm t = none := by
  fun_induction findItem tm t with
  | case1 => rfl
  | case2 it r => exact absurd (List.mem_cons_self ..) h
  | case3 it r t _ ih => exact ih fun hm => h (List.mem_cons_of_mem _ hm)

theorem top_not_deep {tm : List Item} (hn : (allTmplTags tm).Nodup) (t : Tag) (ht : t ∈ tmplTags tm) : t ∉ deepTags tm := by
  have := (allTmplTags_perm tm).nodup_iff.1 hn
  rw [List.nodup_append] at this
  intro hd
  exact this.2.2 t ht t hd rfl

theorem sub_tags_split {sub : List Item} (x : Tag) : x ∈ allTmplTags sub ↔ x ∈ tmplTags sub ∨ x ∈ deepTags sub := by
  rw [(allTmplTags_perm sub).mem_iff, List.mem_append]

/-- a tag outside the template tree is, for the reader, neither a deep tag nor an item of the template -/
theorem outside_tmpl {tm : List Item} {t : Tag} (h : t ∉ allTmplTags tm) : t ∉ deepTags tm ∧ findItem tm t = none :=
  ⟨fun hd => h ((sub_tags_split t).2 (Or.inr hd)), findItem_none_of_not_mem _ _ fun hm => h ((sub_tags_split t).2 (Or.inl hm))⟩

mutual
  /-- every (nested) entry count fits Go's int -/
  inductive SmallE : List GFld → Prop where
    | nil : SmallE []
    | fld {t : Tag} {v : Bytes} {r : List GFld} : SmallE r → SmallE (.fld t v :: r)
    | grp {t : Tag} {tm : List Item} {es : List (List GFld)} {r : List GFld} : es.length < 9223372036854775808 → SmallEs es → SmallE r →
        SmallE (.grp t tm es :: r)
  inductive SmallEs : List (List GFld) → Prop where
    | nil : SmallEs []
    | cons {e : List GFld} {es : List (List GFld)} : SmallE e → SmallEs es → SmallEs (e :: es)
end

theorem blockData_some (f : GFld) : ∃ p, blockData f = some p ∧ p.1 = f.tag := by
  cases f with
  | fld t v => exact ⟨_, rfl, rfl⟩
  | grp t tm es =>
    obtain ⟨W, hW⟩ := write_total.2 tm es
    exact ⟨(t, countTV t es.length :: W), by simp [blockData, hW], rfl⟩

theorem latestB_of_mem (bs : List (Tag × List TagValue)) (t : Tag) (h : ∃ p ∈ bs, p.1 = t) : ∃ v, latestB bs t = some v := by
  fun_induction latestB bs t with
  | case1 => obtain ⟨p, hp, _⟩ := h; cases hp
  | case2 => exact ⟨_, rfl⟩
  | case3 => exact ⟨_, rfl⟩
  | case4 k x r t hl hk ih =>
    obtain ⟨p, hp, hpt⟩ := h
    rcases List.mem_cons.1 hp with e | e
    · subst e; exact absurd hpt hk
    · obtain ⟨v, hv⟩ := ih ⟨p, e, hpt⟩; rw [hl] at hv; cases hv

theorem write_blocks_run :
    (∀ (e : List GFld) (fm : FieldMap), ∀ tm fm', entryOK tm e = true → buildEntry e fm = .ok fm' →
      (allTmplTags tm).Nodup → SmallE e → ∀ p ∈ e.filterMap blockData, BlockOK (fun t => t ∉ deepTags tm) tm ⟨p.1, p.2⟩) ∧
    (∀ (tm : List Item) (es : List (List GFld)), ∀ W, entriesOK tm es = true → writeEntries tm es = .ok W →
      ∀ (d : Tag) (tmplr : List Item), tm = .elem d :: tmplr → (allTmplTags tm).Nodup → SmallEs es →
      ∃ bss : List (List Block), bss.length = es.length ∧ W = bss.flatMap serBlocks ∧
        ∀ e ∈ bss, EntryOKB (fun t => t ∉ deepTags tm) d tmplr e) := by
  apply write_induct
    (P1 := fun tm e _ _ => (allTmplTags tm).Nodup → SmallE e → ∀ p ∈ e.filterMap blockData, BlockOK (fun t => t ∉ deepTags tm) tm ⟨p.1, p.2⟩)
    (P2 := fun tm es W => ∀ (d : Tag) (tmplr : List Item), tm = .elem d :: tmplr → (allTmplTags tm).Nodup → SmallEs es →
      ∃ bss : List (List Block), bss.length = es.length ∧ W = bss.flatMap serBlocks ∧
        ∀ e ∈ bss, EntryOKB (fun t => t ∉ deepTags tm) d tmplr e)
  · intro tm fm _ _ p hp; cases hp
  · -- a plain member
    intro tm t t' v r fm s fm' hfi _ ih hn hsm
    cases hsm with
    | fld hsr => exact List.forall_mem_cons.2 ⟨Or.inl ⟨TagValue.init t v, t', rfl, rfl, hfi⟩, ih hn hsr⟩
  · -- a nested group member
    intro tm t t' sub es' r fm tvs fm' hfi hokS hw ih2 ih1 hn hsm
    cases hsm with
    | grp hcnt hses hsr =>
      simp only [List.filterMap_cons, blockData, hw]
      refine List.forall_mem_cons.2 ⟨Or.inr ⟨t', sub, countTV t es'.length, tvs, hfi, rfl, rfl, ?_⟩, ih1 hn hsr⟩
      -- the nested group's wire form reads back whenever a tag allowed at this level follows
      cases es' with
      | nil =>
        simp only [writeEntries] at hw; injection hw with hw; subst hw
        exact nestedOK_nil _ t sub
      | cons e1 es2 =>
        obtain ⟨⟨d', r', hsub, _⟩, _, _⟩ := entriesOK_cons hokS
        have hnsub := nodup_sub_of_find_group hfi hn
        obtain ⟨bss, hlen, hwr, hes⟩ := ih2 d' r' hsub hnsub hses
        subst hwr
        rw [← hlen]
        subst hsub
        refine nestedOK_of_entries (fun x => x ∉ deepTags (.elem d' :: r')) (fun x => x ∉ deepTags tm) t d' r' ?_ ?_ bss hes
          (by rw [hlen]; exact hcnt)
        · intro x hx; exact top_not_deep hnsub x hx
        · intro x hx
          exact outside_tmpl fun hm => hx (deep_of_find_group hfi x hm)
  · intro tm d tmplr _ _ _
    exact ⟨[], rfl, rfl, by intro e he; cases he⟩
  · -- one more entry
    intro tm e es fm tvs hok hb ih1 ih2 d0 tmplr htm hn hsm
    obtain ⟨⟨d, r0, htm0, hany⟩, _, _⟩ := entriesOK_cons hok
    cases htm0.symm.trans htm
    cases hsm with
    | cons hsE hsEs =>
      obtain ⟨bss', hlen', hwr', hes'⟩ := ih2 d0 tmplr htm hn hsEs
      -- the entry's member data, one per setter call
      generalize hbs : e.filterMap blockData = bs
      have hprop : ∀ p ∈ bs, BlockOK (fun t => t ∉ deepTags tm) tm ⟨p.1, p.2⟩ := hbs ▸ ih1 hn hsE
      have hbe := buildEntry_blocks e (FieldMap.empty (.group (tmplTags tm))) (fun f _ => (blockData_some f).imp fun _ h => h.1) (FMOK.empty 0 _)
      rw [hb, hbs] at hbe; injection hbe with hbe
      have htop : (tmplTags tm).Nodup := (List.nodup_append.1 ((allTmplTags_perm tm).nodup_iff.1 hn)).1
      have hent : entryTVs fm = serBlocks (canonB (tmplTags tm) bs) := by
        rw [hbe]; exact entryTVs_blocks (tmplTags tm) htop bs (fun p hp => let ⟨_, _, _, _, h⟩ := (hprop p hp).head; h)
      have hdel : ∃ tv, latestB bs d0 = some [tv] ∧ tv.tag = d0 := by
        obtain ⟨f, hf, hft⟩ := List.any_eq_true.1 hany
        have hft' : f.tag = d0 := by simpa using hft
        obtain ⟨q, hq, hqt⟩ := blockData_some f
        obtain ⟨v, hv⟩ := latestB_of_mem bs d0 ⟨q, hbs ▸ List.mem_filterMap.2 ⟨f, hf, hq⟩, by rw [hqt, hft']⟩
        have hmem := latestB_mem bs d0 v hv
        have hfd : findItem tm (d0, v).1 = some (.elem d0) := by rw [htm]; simp [findItem, Item.tag]
        obtain ⟨tv, htv, htag⟩ := (hprop (d0, v) hmem).elem hfd
        simp only at htv htag
        exact ⟨tv, by rw [hv, htv], htag⟩
      obtain ⟨tv, hd, htv⟩ := hdel
      refine ⟨canonB (tmplTags tm) bs :: bss', by simp [hlen'], by rw [hent, hwr', List.flatMap_cons], List.forall_mem_cons.2 ⟨?_, hes'⟩⟩
      rw [htm] at htop hprop ⊢
      exact canonB_entryOK _ d0 tmplr htop bs tv hd htv hprop

/-- `Write` of template-conforming entries is, for the reader, a list of well-formed member blocks (any nesting depth): the reader-side
    counterpart of `write_gwu`.  Success is `write_total`; what the successful run emits, `write_blocks_run`. -/
theorem write_blocks (tm : List Item) (es : List (List GFld)) (d : Tag) (tmplr : List Item) (htm : tm = .elem d :: tmplr)
    (hn : (allTmplTags tm).Nodup) (hok : entriesOK tm es = true) (hsm : SmallEs es) :
    ∃ bss : List (List Block), bss.length = es.length ∧ writeEntries tm es = .ok (bss.flatMap serBlocks) ∧
      ∀ e ∈ bss, EntryOKB (fun t => t ∉ deepTags tm) d tmplr e := by
  obtain ⟨W, hW⟩ := write_total.2 tm es
  obtain ⟨bss, h1, h2, h3⟩ := write_blocks_run.2 tm es W hok hW d tmplr htm hn hsm
  exact ⟨bss, h1, by rw [hW, h2], h3⟩

end Qfx
