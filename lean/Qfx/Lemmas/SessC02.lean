/-
  The sequential layer of C02 over Qfx.Model.Session: ghost monitor `g2Of` folded over the observation log, invariant `K`
  (the monitor's counter is the store's, every queued message is a replay or has been saved), neutral extensions `Ext`.
  The argument is in `K_persistOut` / `K_filed` (a message is numbered, saved, and only then queued) and
  `pres_sendQueued` (what is written was queued); the walk of the call tree is SessWalk's.
-/
import Qfx.Spec.SessionTypedC02
import Qfx.Lemmas.SessWalk
namespace Qfx.Sess.C02
open Qfx Qfx.Sess

def g2Of (p : Bool) (g0 : G2) (s : Sess) : G2 := s.log.reverse.foldl (g2Step p) g0

/-- invariant: the monitor is happy, its counter is the store's next outbound number, persistence is as configured,
    and (with persistence) every queued message is a replay or has been saved -/
def K (p : Bool) (g0 : G2) (s : Sess) : Prop :=
  (g2Of p g0 s).ok = true ∧ (g2Of p g0 s).S = s.store.sender ∧ s.cfg.persist = p ∧
  (p = true → ∀ m ∈ s.toSend, covered (g2Of p g0 s) m = true)

theorem g2Of_emit (p : Bool) (g0 : G2) (s : Sess) (o : Obs) : g2Of p g0 (s.emit o) = g2Step p (g2Of p g0 s) o :=
  foldLog_emit (g2Step p) g0 s o

def neutral : Obs → Bool
  | .reset | .saved _ _ _ | .incS | .wire _ => false
  | _ => true

theorem g2Step_neutral (p : Bool) (g : G2) (o : Obs) (h : neutral o = true) : g2Step p g o = g := by
  cases o <;> simp_all [g2Step, neutral]

/-- `s'` extends the log of `s` by neutral observations only and leaves outbound counter, queue and configuration alone -/
structure Ext (s s' : Sess) : Prop where
  snd : s'.store.sender = s.store.sender
  q : s'.toSend = s.toSend
  cfg : s'.cfg = s.cfg
  log : ∃ extra : List Obs, s'.log = extra ++ s.log ∧ extra.all neutral = true

theorem Ext.refl (s : Sess) : Ext s s := ⟨rfl, rfl, rfl, LogBy.refl _ s⟩

theorem Ext.trans {a b c : Sess} (h1 : Ext a b) (h2 : Ext b c) : Ext a c :=
  ⟨h2.snd.trans h1.snd, h2.q.trans h1.q, h2.cfg.trans h1.cfg, LogBy.trans h1.log h2.log⟩

theorem Ext.emit (s : Sess) (o : Obs) (h : neutral o = true) : Ext s (s.emit o) := ⟨rfl, rfl, rfl, LogBy.emit s o h⟩

theorem Ext.g2 {s s' : Sess} (h : Ext s s') (p : Bool) (g0 : G2) : g2Of p g0 s' = g2Of p g0 s :=
  LogBy.fold (g2Step_neutral p) h.log g0

def Pres (p : Bool) (g0 : G2) (s s' : Sess) : Prop := K p g0 s → K p g0 s'

theorem Pres.refl (p : Bool) (g0 : G2) (s : Sess) : Pres p g0 s s := id
theorem Pres.trans {p : Bool} {g0 : G2} {a b c : Sess} (h1 : Pres p g0 a b) (h2 : Pres p g0 b c) : Pres p g0 a c :=
  fun h => h2 (h1 h)

theorem Ext.pres {s s' : Sess} (h : Ext s s') (p : Bool) (g0 : G2) : Pres p g0 s s' := by
  intro hk
  unfold K at *
  rw [h.g2 p g0, h.snd, h.q, h.cfg]; exact hk

theorem Ext.of_eq {s s' : Sess} (h1 : s'.store.sender = s.store.sender) (h2 : s'.toSend = s.toSend)
    (h3 : s'.cfg = s.cfg) (h4 : s'.log = s.log) : Ext s s' :=
  ⟨h1, h2, h3, LogBy.of_eq h4⟩

theorem saved_mono_step (p : Bool) (g : G2) (o : Obs) : ∀ x ∈ g.saved, x ∈ (g2Step p g o).saved := by
  intro x hx
  cases o <;> simp [g2Step, hx]

theorem covered_mono {g g' : G2} {m : OutMsg} (h : ∀ x ∈ g.saved, x ∈ g'.saved) (hc : covered g m = true) :
    covered g' m = true := by
  unfold covered at *
  simp only [Bool.or_eq_true, Bool.not_eq_true', List.contains_iff_mem] at *
  rcases hc with hc | hc
  · exact Or.inl hc
  · exact Or.inr (h _ hc)

theorem pres_storeReset (p : Bool) (g0 : G2) (s : Sess) : Pres p g0 s s.storeReset := by
  intro ⟨hok, hS, hc, hq⟩
  unfold K Sess.storeReset
  rw [g2Of_emit]
  have hg : g2Of p g0 { s with store := s.store.reset } = g2Of p g0 s := rfl
  rw [hg]
  refine ⟨by simpa [g2Step] using hok, by simp [g2Step, Sess.emit, Store.reset], hc, ?_⟩
  intro hp m hm
  exact covered_mono (saved_mono_step p _ _) (hq hp m hm)

/-- persisting under the store's own next number: the monitor agrees, and the message is covered from now on -/
theorem K_persistOut (p : Bool) (g0 : G2) (s : Sess) (m : OutMsg) (h : K p g0 s) :
    K p g0 (s.persistOut s.store.sender m) ∧
    (p = true → ∀ m' : OutMsg, m'.seq = s.store.sender → m'.kind = m.kind → resendable m' = resendable m →
        covered (g2Of p g0 (s.persistOut s.store.sender m)) m' = true) := by
  obtain ⟨hok, hS, hc, hq⟩ := h
  obtain ⟨f1, f2, f3⟩ := persistOut_frame s s.store.sender m
  have hg : g2Of p g0 (s.persistOut s.store.sender m) = g2Step p (g2Of p g0 s) (savedObs s s.store.sender m) :=
    foldLog_persistOut _ _ _ _ _
  unfold K
  rw [hg, f1, f2, f3]
  unfold savedObs
  rw [hc]
  cases p
  · exact ⟨⟨hok, congrArg (· + 1) hS, rfl, nofun⟩, nofun⟩
  · refine ⟨⟨by simp [g2Step, hok, hS], congrArg (· + 1) hS, rfl, fun hp x hx => covered_mono (fun _ => List.mem_cons_of_mem _) (hq hp x hx)⟩,
      fun _ m' h1 h2 h3 => ?_⟩
    unfold covered
    rw [h1, h2, h3]
    simp [g2Step]

/-- writing the whole queue: every message is covered, so the monitor accepts each write -/
theorem foldl_wire_ok (p : Bool) (g : G2) (l : List OutMsg) (hok : g.ok = true)
    (hc : p = true → ∀ m ∈ l, covered g m = true) :
    (l.map Obs.wire).foldl (g2Step p) g = g := by
  induction l with
  | nil => rfl
  | cons m l ih =>
    simp only [List.map_cons, List.foldl_cons]
    have h1 : g2Step p g (.wire m) = g := by
      obtain ⟨S, ok, sv⟩ := g
      simp only at hok
      subst hok
      simp only [g2Step]
      cases p with
      | false => simp
      | true => simp [hc rfl m (by simp)]
    rw [h1]
    exact ih (fun hp x hx => hc hp x (by simp [hx]))

theorem pres_sendQueued (p : Bool) (g0 : G2) (s : Sess) : Pres p g0 s (sendQueued s) := by
  intro ⟨hok, hS, hc, hq⟩
  unfold sendQueued
  split
  · unfold K
    have hg : g2Of p g0 { s with log := (s.toSend.map Obs.wire).reverse ++ s.log, toSend := [] } = g2Of p g0 s := by
      unfold g2Of
      simp only [List.reverse_append, List.reverse_reverse, List.foldl_append]
      exact foldl_wire_ok p _ _ hok hq
    rw [hg]
    exact ⟨hok, hS, hc, fun _ m hm => by simp at hm⟩
  · exact ⟨hok, hS, hc, hq⟩

theorem K_setToSend_nil {p : Bool} {g0 : G2} {s : Sess} (h : K p g0 s) : K p g0 (s.setToSend []) := by
  obtain ⟨hok, hS, hc, _⟩ := h
  exact ⟨hok, hS, hc, fun _ m hm => by simp [Sess.setToSend] at hm⟩

theorem K_setToSend_snoc {p : Bool} {g0 : G2} {s : Sess} {m : OutMsg} (h : K p g0 s)
    (hm : p = true → covered (g2Of p g0 s) m = true) : K p g0 (s.setToSend (s.toSend ++ [m])) := by
  obtain ⟨hok, hS, hc, hq⟩ := h
  refine ⟨hok, hS, hc, fun hp x hx => ?_⟩
  simp only [Sess.setToSend, List.mem_append, List.mem_singleton] at hx
  rcases hx with hx | hx
  · exact hq hp x hx
  · subst hx; exact hm hp

theorem K_setToSend_single {p : Bool} {g0 : G2} {s : Sess} {m : OutMsg} (h : K p g0 s)
    (hm : p = true → covered (g2Of p g0 s) m = true) : K p g0 (s.setToSend [m]) := by
  obtain ⟨hok, hS, hc, _⟩ := h
  refine ⟨hok, hS, hc, fun hp x hx => ?_⟩
  simp only [Sess.setToSend, List.mem_singleton] at hx
  subst hx; exact hm hp

/-- a message is numbered, saved, and only then queued — behind the old queue (`keep`) or in its place: it is covered -/
theorem K_filed (p : Bool) (g0 : G2) (s : Sess) (m : OutMsg) (keep : Bool) (h : K p g0 s) :
    K p g0 ((prepBase s m).filed (if keep then s.toSend else []) (outgoing s m)) := by
  have h1 : K p g0 (prepBase s m) := by
    unfold prepBase
    split
    · exact (Ext.of_eq (s := s.storeReset) rfl rfl rfl rfl).pres p g0 (pres_storeReset p g0 s h)
    · exact h
  obtain ⟨a, b⟩ := K_persistOut p g0 (prepBase s m) (outgoing s m) h1
  have hc := fun hp => b hp _ rfl rfl rfl
  unfold Sess.filed
  cases keep
  · exact K_setToSend_single a hc
  · rw [if_pos rfl, ← prepBase_toSend s m, ← persistOut_toSend (prepBase s m) (prepBase s m).store.sender (outgoing s m)]
    exact K_setToSend_snoc a hc

theorem pres_queueForSend (p : Bool) (g0 : G2) (s : Sess) (m : OutMsg) : Pres p g0 s (queueForSend s m) := by
  intro h
  rw [queueForSend_eq]
  split
  · exact h
  · exact K_filed p g0 s m true h

theorem pres_dropAndSend (p : Bool) (g0 : G2) (s : Sess) (m : OutMsg) : Pres p g0 s (dropAndSend s m) := by
  intro h
  rw [dropAndSend_eq]
  split
  · exact h
  · exact pres_sendQueued p g0 _ (K_filed p g0 s m false h)

theorem pres_sendInReplyTo (p : Bool) (g0 : G2) (s : Sess) (m : OutMsg) : Pres p g0 s (sendInReplyTo s m) := by
  intro h
  rw [sendInReplyTo_eq]
  split
  · exact pres_queueForSend p g0 s _ h
  · split
    · exact h
    · exact pres_sendQueued p g0 _ (K_filed p g0 s m true h)

theorem covered_of_dup (g : G2) (m : OutMsg) (h : firstTime m = false) : covered g m = true := by
  simp [covered, h]

theorem firstTime_of_possDup {m : OutMsg} (h : m.possDup) : firstTime m = false := by
  unfold OutMsg.possDup at h
  simp [firstTime, h]

theorem pres_enqueueAndSend (p : Bool) (g0 : G2) (s : Sess) (m : OutMsg) (hd : firstTime m = false) :
    Pres p g0 s (enqueueAndSend s m) := by
  intro h
  unfold enqueueAndSend
  simp only []
  split
  · exact pres_sendQueued p g0 _ (K_setToSend_snoc (K_setToSend_nil h) (fun _ => covered_of_dup _ m hd))
  · exact pres_sendQueued p g0 _ (K_setToSend_snoc h (fun _ => covered_of_dup _ m hd))

theorem pres_dropAndReset (p : Bool) (g0 : G2) (s : Sess) : Pres p g0 s (dropAndReset s) := by
  intro h
  unfold dropAndReset
  exact pres_storeReset p g0 _ (K_setToSend_nil h)

theorem neutral_of_notice {o : Obs} (h : o.isNotice = true) : neutral o = true := by
  cases o <;> first | rfl | cases h

theorem ext_verifyAppImpl (s : Sess) (m : InMsg) : Ext s (verifyAppImpl s m).1 := by
  unfold verifyAppImpl
  split
  · exact Ext.refl s
  · exact ite_both (Ext.emit _ _ rfl) (Ext.emit _ _ rfl)

theorem ext_incrTarget (s : Sess) : Ext s (incrTarget s) :=
  ⟨rfl, rfl, rfl, [.incT], rfl, rfl⟩

theorem ext_setT (s : Sess) (n : Int) : Ext s ((s.setTarget n).emit (.setT n)) :=
  ⟨rfl, rfl, rfl, [.setT n], rfl, rfl⟩

theorem kSend (p : Bool) (g0 : G2) : SendRel (Pres p g0) where
  refl := Pres.refl p g0
  trans := Pres.trans
  quiet := fun _ _ _ _ => (Ext.of_eq rfl rfl rfl rfl).pres p g0
  arm := fun s n => (Ext.emit s (.armPeer n) rfl).pres p g0
  incrTarget := fun s => (ext_incrTarget s).pres p g0
  sendInReplyTo := fun s m _ => pres_sendInReplyTo p g0 s m
  enqueueAndSend := fun s m hm => pres_enqueueAndSend p g0 s m (firstTime_of_possDup hm.possDup)

theorem pres_sendResendRequest (p : Bool) (g0 : G2) (s : Sess) (b e : Int) : Pres p g0 s (sendResendRequest s b e).1 :=
  sendResendRequest_of_sendInReplyTo (fun s _ => pres_sendInReplyTo p g0 s _) s b e

theorem kStep (p : Bool) (g0 : G2) : StepRel (Pres p g0) where
  toSendRel := kSend p g0
  sendResendRequest := pres_sendResendRequest p g0
  notice := fun s o ho => (Ext.emit s o (neutral_of_notice ho)).pres p g0
  dropAndSend := pres_dropAndSend p g0
  dropAndReset := pres_dropAndReset p g0
  setT := fun s n _ => (ext_setT s n).pres p g0
  plain := (kSend p g0).plain_of_verify (pres_sendResendRequest p g0) fun s m => (ext_verifyAppImpl s m).pres p g0
  frame := fun _ _ _ _ _ _ _ _ => (Ext.of_eq rfl rfl rfl rfl).pres p g0
  dropQueue := fun _ => K_setToSend_nil
  sendQueued := pres_sendQueued p g0

section peel
variable {p : Bool} {g0 : G2} {s x : Sess}
theorem peel_storeReset (h : Pres p g0 s x) : Pres p g0 s x.storeReset := h.trans (pres_storeReset p g0 x)
theorem peel_sendQueued (h : Pres p g0 s x) : Pres p g0 s (sendQueued x) := h.trans (pres_sendQueued p g0 x)
theorem peel_setToSend_nil (h : Pres p g0 s x) : Pres p g0 s (x.setToSend []) := fun hk => K_setToSend_nil (h hk)
theorem peel_sendResendRequest (b e : Int) (h : Pres p g0 s x) : Pres p g0 s (sendResendRequest x b e).1 :=
  h.trans (pres_sendResendRequest p g0 x b e)
end peel

theorem K_stepCore (p : Bool) (g0 : G2) (s : Sess) (e : Ev) (h : K p g0 s) : K p g0 (stepCore s e).1 :=
  (kStep p g0).stepCore s e (fun m _ => pres_queueForSend p g0 s m) h

end Qfx.Sess.C02
