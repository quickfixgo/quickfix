/-
  The invariant `K` of one engine step relative to the (fixed) store of the peer — sender role (`Snd`), the expected
  inbound number never passes the peer's next outbound number, and what was delivered is exactly the payloads of the
  peer's application messages numbered below the expected number — through the handlers of inbound messages (the drain,
  the resend state and the dispatch by state above them are SessWalk's `fixMsgInCore_inv`), the state changes and one
  whole event.
-/
import Qfx.Lemmas.LinkCtx
import Qfx.Lemmas.LinkSnd
namespace Qfx.Link
open Qfx Qfx.Sess

/-- payloads delivered according to a log (newest first) -/
def dl (rcv : List (String × String)) (log : List Obs) : List String := (deliveredSeqs log.reverse).map (payloadOf rcv)

theorem dl_cons (rcv : List (String × String)) (o : Obs) (log : List Obs) :
    dl rcv (o :: log) = dl rcv log ++ (deliveredSeqs [o]).map (payloadOf rcv) := by
  simp only [dl, List.reverse_cons, deliveredSeqs_append, List.map_append]

theorem dl_cons_neutral (rcv : List (String × String)) (o : Obs) (log : List Obs) (h : neutral o = true) : dl rcv (o :: log) = dl rcv log := by
  rw [dl_cons, deliveredSeqs_none [o] (by
    intro o' ho' sq t e
    rw [← List.mem_singleton.1 ho', e] at h; cases h)]
  exact List.append_nil _

theorem dl_ext {s s' : Sess} (h : Ext s s') (rcv : List (String × String)) : dl rcv s'.log = dl rcv s.log := by
  obtain ⟨_, extra, hl, hn⟩ := h
  rw [hl]
  clear hl
  induction extra with
  | nil => rfl
  | cons o extra ih =>
    simp only [List.all_cons, Bool.and_eq_true] at hn
    exact (dl_cons_neutral rcv o _ hn.1).trans (ih hn.2)

theorem dl_cons_incT (rcv : List (String × String)) (log : List Obs) : dl rcv (Obs.incT :: log) = dl rcv log :=
  (dl_cons rcv _ log).trans (List.append_nil _)

theorem dl_cons_setT (rcv : List (String × String)) (n : Int) (log : List Obs) : dl rcv (Obs.setT n :: log) = dl rcv log :=
  (dl_cons rcv _ log).trans (List.append_nil _)

theorem dl_cons_fromApp (rcv : List (String × String)) (sq : String) (t : Int) (log : List Obs) :
    dl rcv (Obs.fromApp sq t :: log) = dl rcv log ++ [payloadOf rcv sq] := dl_cons rcv _ log

structure K (c : Ctx) (s : Sess) : Prop where
  cfg : s.cfg = c.cfg
  snd : Snd c.st0 s
  t1 : 1 ≤ s.store.target
  t2 : s.store.target ≤ c.P.sender
  d : c.d0 ++ dl c.rcv s.log = appPay (below s.store.target c.P.msgs)

theorem SExt.K {c : Ctx} {s s' : Sess} (h : SExt s s') (hk : K c s) : K c s' :=
  ⟨h.cfg.trans hk.cfg, h.snd _ hk.snd, by rw [h.ext.tgt]; exact hk.t1, by rw [h.ext.tgt]; exact hk.t2,
    by rw [dl_ext h.ext, h.ext.tgt]; exact hk.d⟩

theorem snd_target {st0 : Store} {s : Sess} (h : Snd st0 s) (n : Int) (o : Obs) (ho : ∀ m, o ≠ .wire m) :
    Snd st0 ((s.setTarget n).emit o) :=
  ⟨h.persist, h.sok.target n, h.grow.target n, fun m hm => (h.q m hm).mono (Grow.target (Grow.refl true s.store) n), by
    intro m hm
    simp only [Sess.emit, Sess.setTarget, List.mem_cons] at hm
    rcases hm with hm | hm
    · exact absurd hm.symm (ho m)
    · exact (h.w m hm).mono (Grow.target (Grow.refl true s.store) n)⟩

theorem K.incr_admin {c : Ctx} {s : Sess} (hc : CtxOK c) (hk : K c s) (m0 : OutMsg) (hmem : (s.store.target, m0) ∈ c.P.msgs)
    (ha : isAdminKind m0.kind = true) : K c (incrTarget s) := by
  have hlt := (hc.pok.ent _ hmem).2.2.1
  simp only at hlt
  refine ⟨hk.cfg, snd_target hk.snd _ _ (by intro m; simp), ?_, ?_, ?_⟩
  · have := hk.t1; simp only [incrTarget, Sess.emit, Sess.setTarget]; omega
  · simp only [incrTarget, Sess.emit, Sess.setTarget]; omega
  · simp only [incrTarget, Sess.emit, Sess.setTarget, dl_cons_incT]
    rw [adv_one _ m0 _ hc.pok.desc hmem, hk.d]
    simp [pay, ha]

theorem K.deliver {c : Ctx} {s : Sess} (hc : CtxOK c) (hk : K c s) (m0 : OutMsg) (hmem : (s.store.target, m0) ∈ c.P.msgs)
    (ha : isAdminKind m0.kind = false) (p : String) (hp : m0.f.get? 9000 = some p) (sq : String) (hn : payloadOf c.rcv sq = p) (tt : Int) :
    K c (incrTarget (s.emit (.fromApp sq tt))) := by
  have hlt := (hc.pok.ent _ hmem).2.2.1
  simp only at hlt
  have hs1 : Snd c.st0 (s.emit (.fromApp sq tt)) := (SExt.of_eq (s := s) (s' := s) rfl rfl rfl rfl).snd _ hk.snd |> fun h =>
    ⟨h.persist, h.sok, h.grow, h.q, by
      intro m hm
      simp only [Sess.emit, List.mem_cons] at hm
      rcases hm with hm | hm
      · cases hm
      · exact h.w m hm⟩
  refine ⟨hk.cfg, snd_target hs1 _ _ (by intro m; simp), ?_, ?_, ?_⟩
  · have := hk.t1; simp only [incrTarget, Sess.emit, Sess.setTarget]; omega
  · simp only [incrTarget, Sess.emit, Sess.setTarget]; omega
  · simp only [incrTarget, Sess.emit, Sess.setTarget, dl_cons_incT, dl_cons_fromApp]
    rw [adv_one _ m0 _ hc.pok.desc hmem, ← hk.d, hn]
    simp [pay, ha, hp]

theorem K.setT {c : Ctx} {s : Sess} (hc : CtxOK c) (hk : K c s) (e : Int) (hbe : s.store.target < e) (he : e ≤ c.P.sender)
    (hadm : ∀ p ∈ c.P.msgs, s.store.target ≤ p.1 → p.1 < e → isAdminKind p.2.kind = true) :
    K c ((s.setTarget e).emit (.setT e)) := by
  refine ⟨hk.cfg, snd_target hk.snd _ _ (by intro m; simp), ?_, ?_, ?_⟩
  · have := hk.t1; simp only [Sess.emit, Sess.setTarget]; omega
  · simp only [Sess.emit, Sess.setTarget]; exact he
  · simp only [Sess.emit, Sess.setTarget, dl_cons_setT]
    rw [adv_gap _ e _ hc.pok.desc (by omega) hadm, hk.d]

theorem sext_emit_cb_admin (x : Sess) (pcfg : Cfg) (m : OutMsg) (ha : isAdminKind m.kind = true) : SExt x (x.emit (cbObs x (toIn pcfg m))) := by
  rw [cbObs_toIn, if_pos ha]
  exact SExt.emit _ _ rfl (fun _ => Obs.noConfusion)

theorem K_reject_high {c : Ctx} {s : Sess} (hk : K c s) (im : InMsg) (recv exp : Int) : K c (processReject s im (.tooHigh recv exp)).1 := by
  unfold processReject
  simp only []
  split
  · exact hk
  · exact (sext_sendResendRequest s _ _).K hk

theorem K_reject_low {c : Ctx} (hc : CtxOK c) {s : Sess} (hk : K c s) {m : OutMsg} (hw : Wire c.P m) (a b : Int) :
    K c (processReject s (toIn c.pcfg m) (.tooLow a b)).1 := by
  unfold processReject
  simp only []
  exact (sext_doTargetTooLow s _ 0 (getTime_at0 _ _ (toIn_hdr _ _ 52 _ rfl)) (kind_ne hc hw)).K hk

theorem K_finish_admin {c : Ctx} (hc : CtxOK c) {s : Sess} (hk : K c s) {m : OutMsg} (hw : Wire c.P m) {x : Sess} (hx : SExt s x)
    (ha : isAdminKind m.kind = true) (hk4 : m.kind ≠ "4")
    (h1 : s.store.target ≤ m.seq) (h2 : m.seq ≤ s.store.target) : K c (incrTarget x) := by
  obtain ⟨m0, hmem, hkd, _⟩ := wire_at hw hk4
  have hx' := hx.K hk
  have ht : x.store.target = m.seq := by rw [hx.ext.tgt]; omega
  exact hx'.incr_admin hc m0 (by rw [ht]; exact hmem) (by rw [hkd]; exact ha)

theorem K_seqGate {c : Ctx} (hc : CtxOK c) {s : Sess} (hk : K c s) {m : OutMsg} (hw : Wire c.P m) (ha : isAdminKind m.kind = true)
    (hk4 : m.kind ≠ "4") {x : Sess} (hX : SExt s x) (st : SState) :
    K c (if m.seq < x.store.target then (x, st) else if m.seq > x.store.target then (x, st) else (incrTarget x, st)).1 := by
  have e := hX.ext.tgt
  split
  · exact hX.K hk
  · split
    · exact hX.K hk
    · exact K_finish_admin hc hk hw hX ha hk4 (by omega) (by omega)

theorem K_handleLogout {c : Ctx} (hc : CtxOK c) {s : Sess} (hk : K c s) {m : OutMsg} (hw : Wire c.P m)
    (ha : isAdminKind m.kind = true) (hk4 : m.kind ≠ "4") : K c (handleLogout s (toIn c.pcfg m)).1 := by
  unfold handleLogout
  rw [verifySelect_pool hc hk.cfg hw]
  simp only [Bool.false_eq_true, false_and, if_false, if_true]
  generalize hx : (if (s.emit (cbObs s (toIn c.pcfg m))).st.loggedOn = true
      then sendInReplyTo (s.emit (cbObs s (toIn c.pcfg m))) ((mkOut "5" []).inReplyTo (toIn c.pcfg m)) else s.emit (cbObs s (toIn c.pcfg m))) = x
  have hX : SExt s x := by
    rw [← hx]
    have h0 := sext_emit_cb_admin s c.pcfg m ha
    exact ite_both (xpeel_sendInReplyTo _ (outOK_logout.re _) h0) h0
  rw [if_neg (by rw [hX.cfg, hk.cfg, hc.nr.2.1]; decide), seqGate_pool hc hw]
  exact K_seqGate hc hk hw ha hk4 hX _

theorem K_handleTestRequest {c : Ctx} (hc : CtxOK c) {s : Sess} (hk : K c s) {m : OutMsg} (hw : Wire c.P m)
    (ha : isAdminKind m.kind = true) (hk4 : m.kind ≠ "4") : K c (handleTestRequest s (toIn c.pcfg m)).1 := by
  unfold handleTestRequest
  rw [verifySelect_pool hc hk.cfg hw]
  simp only [true_and, if_true]
  by_cases h1 : m.seq < s.store.target
  · simp only [h1, if_true]; exact K_reject_low hc hk hw _ _
  · by_cases h2 : s.store.target < m.seq
    · simp only [h1, h2, if_true, if_false]; exact K_reject_high hk _ _ _
    · simp only [h1, h2, if_false]
      have h0 := sext_emit_cb_admin s c.pcfg m ha
      refine K_finish_admin hc hk hw ?_ ha hk4 (by omega) (by omega)
      split
      · rename_i id hid
        rw [toIn_get_body _ _ 112 (by decide)] at hid
        have hne : id ≠ "" := ((wire_facts hc.pok hc.bound hw).vals _ (get?_mem hid)).1
        exact xpeel_sendInReplyTo _ ((outOK_hbReply id hne).re _) h0
      · exact h0

theorem K_handleSequenceReset {c : Ctx} (hc : CtxOK c) {s : Sess} (hk : K c s) {m : OutMsg} (hw : Wire c.P m)
    (hk4 : m.kind = "4") : K c (handleSequenceReset s (toIn c.pcfg m)).1 := by
  obtain ⟨b, e, l, rfl, _⟩ := wire_gap_inv hc.pok hw hk4
  obtain ⟨hbe, he, _, hadm⟩ := wire_gap hc.pok hw
  rw [handleSequenceReset_pool hc hk.cfg hw]
  split
  · exact K_reject_low hc hk hw _ _
  · split
    · exact K_reject_high hk _ _ _
    · have hk' := (sext_emit_cb_admin s c.pcfg (gapFillL b e l) (show isAdminKind "4" = true by decide)).K hk
      exact hk'.setT hc e (by show s.store.target < e; omega) he (fun p hp h3 h4 => hadm p hp (by
        have : s.store.target ≤ p.1 := h3
        omega) h4)

theorem K_handleResendRequest {c : Ctx} (hc : CtxOK c) {s : Sess} (hk : K c s) {m : OutMsg} (hw : Wire c.P m)
    (hk2 : m.kind = "2") : K c (handleResendRequest s (toIn c.pcfg m)).1 := by
  have ha : isAdminKind m.kind = true := by rw [hk2]; decide
  have hk4 : m.kind ≠ "4" := by rw [hk2]; decide
  obtain ⟨x7, x16, h7, h16⟩ := (hc.pok.ent _ (wire_stored_of_admin hw ha hk4)).2.2.2.rr hk2
  obtain ⟨b, hb⟩ := getInt_of_get?_some (toIn c.pcfg m) 7 x7 (by rw [toIn_get_body _ _ 7 (by decide)]; exact h7)
  obtain ⟨e, he⟩ := getInt_of_get?_some (toIn c.pcfg m) 16 x16 (by rw [toIn_get_body _ _ 16 (by decide)]; exact h16)
  have hb64 := getInt_in64 _ _ _ hb
  rw [handleResendRequest_pool hc hk.cfg hw hb he rfl]
  refine K_seqGate hc hk hw ha hk4 ?_ _
  exact (xpeel_setReplyLast _ (sext_emit_cb_admin s c.pcfg m ha)).trans
    (sext_resendMessages _ b _ (by unfold inInt64 at hb64; omega) (C03_clip_le _ _ _))

theorem K_generic {c : Ctx} (hc : CtxOK c) {s : Sess} (hk : K c s) {m : OutMsg} (hw : Wire c.P m) (hn : Noted c.rcv m)
    (hk4 : m.kind ≠ "4") :
    K c (match verifySelect s (toIn c.pcfg m) true true true with
      | (s, some r) => processReject s (toIn c.pcfg m) r
      | (s, none) => (incrTarget s, SState.inSession)).1 := by
  rw [verifySelect_pool hc hk.cfg hw]
  simp only [true_and, if_true]
  by_cases h1 : m.seq < s.store.target
  · simp only [h1, if_true]; exact K_reject_low hc hk hw _ _
  · by_cases h2 : s.store.target < m.seq
    · simp only [h1, h2, if_true, if_false]; exact K_reject_high hk _ _ _
    · simp only [h1, h2, if_false]
      cases ha : isAdminKind m.kind with
      | true => exact K_finish_admin hc hk hw (sext_emit_cb_admin s c.pcfg m ha) ha hk4 (by omega) (by omega)
      | false =>
        rw [cbObs_toIn, ha]
        simp only [Bool.false_eq_true, if_false]
        obtain ⟨m0, hmem, hkd, h9⟩ := wire_at hw hk4
        have ht : s.store.target = m.seq := by omega
        have ha0 : isAdminKind m0.kind = false := by rw [hkd]; exact ha
        obtain ⟨p, hp⟩ := (hc.pok.ent _ hmem).2.2.2.app ha0
        have hp0 : m0.f.get? 9000 = some p := by rw [hp]; simp [get?_cons]
        exact hk.deliver hc m0 (by rw [ht]; exact hmem) ha0 p hp0 _ (hn p (by rw [← h9]; exact hp0)) _

theorem sext_logonReply (s : Sess) (im : InMsg) : SExt s (logonReply s im false) := by
  have hb : SExt s (if !s.cfg.hbOverride then (match getInt im 108 with | .val h => s.setHb h | _ => s) else s) := by
    refine ite_both ?_ (SExt.refl s)
    split
    · exact xpeel_setHb _ (SExt.refl s)
    · exact SExt.refl s
  unfold logonReply
  exact ite_both (ite_both hb (xpeel_sendLogonRe im hb)) (SExt.refl s)

theorem K_logonFinish {c : Ctx} (hc : CtxOK c) {s : Sess} (hk : K c s) {m : OutMsg} (hw : Wire c.P m)
    (ha : isAdminKind m.kind = true) (hk4 : m.kind ≠ "4") {x : Sess} (hX : SExt s x) (h1 : s.store.target ≤ m.seq) (ns : Int) :
    K c (logonFinish x (toIn c.pcfg m) ns).1 ∧
      (∀ r, (logonFinish x (toIn c.pcfg m) ns).2 = some (LogonErr.rej r) → ∃ a b, r = Rej.tooHigh a b) := by
  have hX4 : SExt s (notified x) :=
    xpeel_emit _ rfl (fun _ => Obs.noConfusion) (xpeel_emit _ rfl (fun _ => Obs.noConfusion) (xpeel_setSentReset false hX))
  have e := hX4.ext.tgt
  rw [logonFinish_pool hc hw x (hX.cfg.trans hk.cfg) ns]
  split
  · exact ⟨hX4.K hk, fun r hr => by simp only [Option.some.injEq, LogonErr.rej.injEq] at hr; exact ⟨_, _, hr.symm⟩⟩
  · exact ⟨K_finish_admin hc hk hw hX4 ha hk4 h1 (by omega), fun r hr => by cases hr⟩

theorem K_handleLogon {c : Ctx} (hc : CtxOK c) {s : Sess} (hk : K c s) {m : OutMsg} (hw : Wire c.P m)
    (ha : isAdminKind m.kind = true) (hk4 : m.kind ≠ "4") :
    K c (handleLogon s (toIn c.pcfg m)).1 ∧
      (∀ r, (handleLogon s (toIn c.pcfg m)).2 = some (.rej r) → (∃ a b, r = .tooLow a b) ∨ (∃ a b, r = .tooHigh a b)) := by
  cases h1137 : (s.cfg.bs == 5 && !(toIn c.pcfg m).f.has 1137) with
  | true =>
    unfold handleLogon
    rw [if_pos h1137]
    exact ⟨hk, fun r hr => by cases hr⟩
  | false =>
    have h2 : SExt s (logonS2 s (toIn c.pcfg m)) :=
      (ite_both (SExt.emit s _ rfl (fun _ => Obs.noConfusion)) (SExt.refl s)).trans (sext_emit_cb_admin _ c.pcfg m ha)
    rw [handleLogon_pool hc hk.cfg hw h1137]
    by_cases hlow : m.seq < s.store.target
    · rw [if_pos hlow]
      exact ⟨h2.K hk, fun r hr => by simp only [Option.some.injEq, LogonErr.rej.injEq] at hr; exact Or.inl ⟨_, _, hr.symm⟩⟩
    · rw [if_neg hlow]
      obtain ⟨k1, k2⟩ := K_logonFinish hc hk hw ha hk4 (h2.trans (sext_logonReply _ _)) (by omega) s.store.sender
      exact ⟨k1, fun r hr => Or.inr (k2 r hr)⟩

theorem K_inSessionFixMsgIn {c : Ctx} (hc : CtxOK c) {s : Sess} (hk : K c s) {im : InMsg} (hp : PoolP c im) :
    K c (inSessionFixMsgIn s im).1 := by
  obtain ⟨m, rfl, hw, hn⟩ := hp
  have hkd := toIn_kind c.pcfg m
  refine inSessionFixMsgIn_cases s _ (motive := fun r => K c r.1) (fun hA => ?_)
    (fun h5 => K_handleLogout hc hk hw (by rw [← hkd, h5]; decide) (by rw [← hkd, h5]; decide))
    (fun h2 => K_handleResendRequest hc hk hw (hkd ▸ h2)) (fun h4 => K_handleSequenceReset hc hk hw (hkd ▸ h4))
    (fun h1 => K_handleTestRequest hc hk hw (by rw [← hkd, h1]; decide) (by rw [← hkd, h1]; decide))
    (fun _ _ _ h4 _ => K_generic hc hk hw hn (hkd ▸ h4))
  have h := (K_handleLogon hc hk hw (by rw [← hkd, hA]; decide) (by rw [← hkd, hA]; decide)).1
  generalize handleLogon s (toIn c.pcfg m) = r at h
  obtain ⟨s', o⟩ := r
  cases o with
  | some e => exact (sext_sendInReplyTo s' ((mkOut "5" []).inReplyTo (toIn c.pcfg m)) (outOK_logout.re _)).K h
  | none => exact h

theorem K_sRR_eq {c : Ctx} {s : Sess} {b e : Int} {r : Sess × Int × Int} (hr : sendResendRequest s b e = r) (hk : K c s) : K c r.1 := by
  rw [← hr]; exact (sext_sendResendRequest s b e).K hk

theorem K_shutdown_false {c : Ctx} {s : Sess} (im : InMsg) (hk : K c s) : K c (shutdownWithReason s im false).1 := by
  unfold shutdownWithReason
  simp only [Bool.false_eq_true, if_false]
  exact (sext_dropAndSend s _ (outOK_logout.re im)).K hk

theorem K_logonFixMsgIn {c : Ctx} (hc : CtxOK c) {s : Sess} (hk : K c s) {im : InMsg} (hp : PoolP c im) :
    K c (logonFixMsgIn s im).1 := by
  obtain ⟨m, rfl, hw, hn⟩ := hp
  unfold logonFixMsgIn
  split
  · exact hk
  · rename_i hkA
    have hkA' : m.kind = "A" := by rw [toIn_kind] at hkA; simpa using hkA
    have h := K_handleLogon hc hk hw (by rw [hkA']; decide) (by rw [hkA']; decide)
    generalize handleLogon s (toIn c.pcfg m) = r at h
    obtain ⟨s', o⟩ := r
    obtain ⟨h1, h2⟩ := h
    simp only [] at h1 h2
    -- the verdicts: none, RejectLogon (no peer-written Logon gets it), too low, too high, any other error
    split
    · rename_i heq; cases heq; exact h1
    · rename_i heq; cases heq
      rcases h2 _ rfl with ⟨a, b, hr⟩ | ⟨a, b, hr⟩ <;> cases hr
    · rename_i heq; cases heq; exact K_shutdown_false _ h1
    · rename_i heq; cases heq
      exact (sext_sendResendRequest _ _ _).K h1
    · rename_i heq; cases heq; exact h1

theorem K_fixMsgInCore {c : Ctx} (hc : CtxOK c) {s : Sess} (hk : K c s) {im : InMsg} (hp : PoolP c im) (hs : StashOK (PoolP c) s.st) :
    K c (fixMsgInCore s im).1 :=
  fixMsgInCore_inv (I := K c) (M := PoolP c) (fun _ _ hm h => K_inSessionFixMsgIn hc h hm)
    (fun x lo hi h => (sext_sendResendRequest x lo hi).K h) (fun _ _ hm h => K_logonFixMsgIn hc h hm) s im hs hp hk

theorem K_discMid {c : Ctx} (hc : CtxOK c) {s : Sess} (hk : K c s) : K c (discMid s) := by
  unfold discMid
  simp only []
  generalize hs1 : (if (s.st.loggedOn || match s.st with | SState.logout => true | SState.logon => s.cfg.initiator | x => false) = true
      then s.emit Obs.onLogout else s) = s1
  have h1 : SExt s s1 := by rw [← hs1]; exact ite_both (SExt.emit s _ rfl (fun _ => Obs.noConfusion)) (SExt.refl s)
  have hro : s1.cfg.resetOnDisconnect = false := by rw [h1.cfg, hk.cfg]; exact hc.nr.2.2
  simp only [hro, Bool.false_eq_true, if_false]
  have h2 : SExt s (if s1.out = true then (s1.setOut false).emit Obs.closed else s1) :=
    ite_both (xpeel_emit _ rfl (fun _ => Obs.noConfusion) (xpeel_setOut false h1)) h1
  exact h2.K hk

theorem K_setSt {c : Ctx} {s : Sess} (h : K c s) (st : SState) : K c (s.setSt st) := (xpeel_setSt st (SExt.refl s)).K h

/-- `K` with the pool through the state machine: the pool half is SessPool's `withinMachine`, the `K` half one fact per step -/
theorem kMachine {c : Ctx} (hc : CtxOK c) :
    MachineBase (fun s => K c s ∧ PoolInv (PoolP c) s) (fun _ _ => True) (StashOK (PoolP c)) (PoolP c) :=
  have pm := withinMachine (N := TN) (S := TS) stashClass c.cfg (pool_fixOK c.cfg (poolHyp_triv (PoolP c) _) (cfgHyp_triv _)) (cfgHyp_triv _)
  { refl := fun _ => trivial
    trans := fun _ _ => trivial
    latent := pm.latent
    notSessionTime := pm.notSessionTime
    setSt := fun s next hI hn => ⟨trivial, K_setSt hI.1 next, (pm.setSt s next ⟨hI.1.cfg, hI.2⟩ hn).2.2⟩
    closeInbox := fun s hI => ⟨trivial, (xpeel_closeInbox (SExt.refl s)).K hI.1, (pm.closeInbox s ⟨hI.1.cfg, hI.2⟩).2.2⟩
    setStopped := fun s hI => ⟨trivial, (xpeel_setStopped (SExt.refl s)).K hI.1, hI.2⟩
    arm := fun s n hI => ⟨trivial, (SExt.emit s _ rfl (by intro _; simp)).K hI.1, hI.2⟩
    discMid := fun s hI => ⟨trivial, K_discMid hc hI.1, (pm.discMid s ⟨hI.1.cfg, hI.2⟩).2.2⟩
    sendLogout := fun s hI => ⟨trivial, (sext_sendLogout s).K hI.1, (pm.sendLogout s ⟨hI.1.cfg, hI.2⟩).2.2⟩
    pop := fun s m rest hI hib =>
      have p := pm.pop s m rest ⟨hI.1.cfg, hI.2⟩ hib
      ⟨p.1, trivial, (xpeel_setInbox rest (SExt.refl s)).K hI.1, p.2.2.2⟩
    fixMsgIn := fun s m hI hm =>
      have p := pm.fixMsgIn s m ⟨hI.1.cfg, hI.2⟩ hm
      ⟨trivial, ⟨K_fixMsgInCore hc hI.1 hm hI.2.2, p.2.1.2⟩, p.2.2⟩ }

theorem K_timeoutCore {c : Ctx} {s : Sess} (hk : K c s) (e : TimerEv) : K c (timeoutCore s e).1 := by
  have h1 := (sext_inSessionTimeout s e).K hk
  unfold timeoutCore
  generalize inSessionTimeout s e = r at h1
  obtain ⟨s', p⟩ := r
  split <;> first | exact hk | exact h1

theorem K_connect {c : Ctx} (hc : CtxOK c) {s : Sess} (hk : K c s) : K c (connect s).1 := by
  have hnr : NoResetCfg s.cfg := by rw [hk.cfg]; exact hc.nr
  by_cases hcon : s.st.connected = true
  · unfold connect; rw [if_pos hcon]; exact hk
  by_cases hses : s.st.sessionTime = true
  · cases hi : s.cfg.initiator with
    | false =>
      rw [connect_acceptor s (by simpa using hcon) hses hi]
      exact K_setSt ((xpeel_openConn (SExt.refl s)).K hk) _
    | true =>
      rw [connect_initiator_noReset s (by simpa using hcon) hses hi hnr]
      have hO := xpeel_openConn (SExt.refl s)
      have hX : SExt s (if s.openConn.cfg.refreshOnLogon = true then s.openConn.emit Obs.refresh else s.openConn) :=
        ite_both (xpeel_emit _ rfl (fun _ => Obs.noConfusion) hO) hO
      exact K_setSt ((xpeel_sendLogonInReplyTo hX).K hk) _
  · unfold connect
    rw [if_neg hcon, if_pos (by simpa using hses), if_neg (by rw [hnr.2.2]; decide)]
    exact hk

/-- the session events of `lstep` under which `K` is kept: an inbound message is one the peer wrote (`PoolP`); a submission
    is not among them — it changes the sender's store by an application message and is a case of its own (`halves_send`, LinkInv) -/
def LinkEv (c : Ctx) : Ev → Prop
  | .connect | .timeout _ | .disconnected | .flush => True
  | .incomingMsg (some im) => PoolP c im
  | _ => False

theorem K_stepCore {c : Ctx} (hc : CtxOK c) (s : Sess) (e : Ev) (he : LinkEv c e) (hk : K c s) (hp : PoolInv (PoolP c) s) :
    K c (stepCore s e).1 ∧ PoolInv (PoolP c) (stepCore s e).1 := by
  obtain ⟨hS, _, hI, hC⟩ := (kMachine hc).stateMachine False (fun h => h.elim) (fuelOf s)
  unfold stepCore
  simp only []
  cases e with
  | connect => exact ⟨K_connect hc hk, (within_connect (N := TN) (S := TS) stashClass s (cfgHyp_triv _) hp).2⟩
  | incomingMsg m =>
    cases m with
    | none => exact he.elim
    | some im => exact (hI s (some im) ⟨hk, hp⟩ (by intro x hx; cases hx; exact he)).2
  | timeout ev =>
    dsimp only
    have k1 := (hC s true true ⟨hk, hp⟩ (Or.inl rfl)).2
    have t := timeoutCore_ret (checkSessionTime (fuelOf s) s true true) ev
    exact (hS _ _ ⟨K_timeoutCore k1.1 ev, ((t.relF (N := TN) (S := TS)).within ⟨k1.1.cfg, k1.2⟩).2.2⟩ (t.next stashClass k1.2.2)).2
  | disconnected =>
    dsimp only; split
    · exact (hS _ _ ⟨hk, hp⟩ (stashOK_plain _ rfl)).2
    · exact ⟨hk, hp⟩
  | flush =>
    dsimp only
    have k1 := (hC s true true ⟨hk, hp⟩ (Or.inl rfl)).2
    split
    · exact ⟨(sext_sendQueued _).K k1.1, by rw [PoolInv, (fr_sendQueued _).inbox, (fr_sendQueued _).st]; exact k1.2⟩
    · exact ⟨(xpeel_setToSend_nil (SExt.refl _)).K k1.1, k1.2⟩
  | arrive _ | pop | stop | send _ | sessionTime _ _ | resetTime _ => exact he.elim

end Qfx.Link
