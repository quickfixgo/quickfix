/-
  The WRITER side of the dictionary round trip: `RepeatingGroup.Write` of entries that conform (`Spec.entriesOK`) to a template that
  describes the dictionary's member list (`TmplDict`) is a WELL-NESTED member sequence for that dictionary (`GWU` / `GroupWalk`), at any
  nesting depth — by `write_induct`, the induction over the successful conforming runs of `buildEntry` / `writeEntries`, which the reader
  side (CodecWriteBlocks) uses as well.
-/
import Qfx.Lemmas.CodecDictNest
import Qfx.Lemmas.CodecGroupNested
namespace Qfx
open Qfx.Spec

/-- the template describes the dictionary's member list: element items are leaf members, group items are nested groups whose
    template describes the nested member list (order and completeness are not required) -/
inductive TmplDict : List Item → List DNode → Prop where
  | nil (C : List DNode) : TmplDict [] C
  | elem {t : Tag} {r : List Item} {C : List DNode} : isGroupMember t C = true → groupOf C t = none → TmplDict r C → TmplDict (.elem t :: r) C
  | group {t : Tag} {tm r : List Item} {C CN : List DNode} : groupOf C t = some CN → TmplDict tm CN → TmplDict r C →
      TmplDict (.group t tm :: r) C

/-- `GroupWalk` without the wire-form requirement on the fields (U for unconstrained) -/
inductive GWU : List DNode → List TagValue → Prop where
  | nil (C : List DNode) : GWU C []
  | leaf {C : List DNode} {tv : TagValue} {r : List TagValue} : isGroupMember tv.tag C = true → groupOf C tv.tag = none →
      GWU C r → GWU C (tv :: r)
  | nest {C CN : List DNode} {tv : TagValue} {MN r : List TagValue} : groupOf C tv.tag = some CN →
      GWU CN MN → GWU C r → GWU C (tv :: (MN ++ r))

theorem GWU.append {C : List DNode} {a b : List TagValue} (ha : GWU C a) (hb : GWU C b) : GWU C (a ++ b) := by
  induction ha with
  | nil C => simpa using hb
  | leaf h1 h2 _ ih => exact .leaf h1 h2 (ih hb)
  | nest h1 h2 _ _ ih2 =>
    have := GWU.nest h1 h2 (ih2 hb)
    simpa [List.append_assoc] using this

theorem GWU.wire {C : List DNode} {M : List TagValue} (h : GWU C M) (hw : ∀ tv ∈ M, IsWire tv) : GroupWalk C M := by
  induction h with
  | nil C => exact .nil _
  | leaf h1 h2 _ ih => exact .leaf (hw _ (by simp)) h1 h2 (ih (fun x hx => hw x (by simp [hx])))
  | nest h1 _ _ ih1 ih2 =>
    exact .nest (hw _ (by simp)) h1 (ih1 (fun x hx => hw x (by simp [hx]))) (ih2 (fun x hx => hw x (by simp [hx])))

theorem tmplDict_find {tmpl : List Item} {C : List DNode} (h : TmplDict tmpl C) {t : Tag} {it : Item} (hf : findItem tmpl t = some it) :
    match (generalizing := false) it with
    | .elem _ => isGroupMember t C = true ∧ groupOf C t = none
    | .group _ tm => ∃ CN, groupOf C t = some CN ∧ TmplDict tm CN := by
  fun_induction findItem tmpl t with
  | case1 => cases hf
  | case2 it0 r =>
    cases hf
    cases h with
    | elem h1 h2 _ => exact ⟨h1, h2⟩
    | group h1 h2 _ => exact ⟨_, h1, h2⟩
  | case3 it0 r t _ ih =>
    cases h with
    | elem _ _ hr => exact ih hr hf
    | group _ _ hr => exact ih hr hf

/-- every field of the entry under construction is an owned list with property `P` -/
def FMall (P : List TagValue → Prop) (fm : FieldMap) : Prop := ∀ k f, alFind fm.lookup k = some f → ∃ l, f = .owned l ∧ P l

theorem FMall.empty (P : List TagValue → Prop) (o : OrdKind) : FMall P (FieldMap.empty o) := by
  intro k f h; simp [FieldMap.empty, alFind] at h

theorem FMall.insert {P : List TagValue → Prop} {fm : FieldMap} (h : FMall P fm) (t : Tag) (l : List TagValue) (tags : List Tag) (hl : P l) :
    FMall P { fm with lookup := alInsert fm.lookup t (.owned l), tags := tags } :=
  alFind_insert_all h ⟨l, rfl, hl⟩

theorem FMall.setTV {P : List TagValue → Prop} {fm : FieldMap} (h : FMall P fm) (tv : TagValue) (s : SetRes) (hs : fm.setTV tv = .ok s)
    (hl : P [tv]) : FMall P s.fm := by
  revert hs
  -- case1 / case4: a field is put; case2: fault; case3: a view (excluded by `h`)
  fun_cases FieldMap.setTV fm tv with
  | case1 | case4 => intro hs; cases hs; exact h.insert _ _ _ hl
  | case2 => nofun
  | case3 s' len hf => obtain ⟨l, e, _⟩ := h _ _ hf; cases e

/-- what `Write` emits for an entry: a property of every field that holds of `[]` and of concatenations holds of the emitted list -/
theorem collectTags_all {P : List TagValue → Prop} {fm : FieldMap} (h : FMall P fm) (hnil : P [])
    (happ : ∀ a b, P a → P b → P (a ++ b)) : ∀ l : List Tag, P (collectTags fm.lookup l) := by
  intro l
  induction l with
  | nil => exact hnil
  | cons t r ih =>
    simp only [collectTags]
    cases hf : alFind fm.lookup t with
    | none => simpa using ih
    | some f =>
      obtain ⟨x, e, hx⟩ := h t f hf
      subst e
      exact happ _ _ (by simpa [Field.items] using hx) ih

def FMgw (C : List DNode) (fm : FieldMap) : Prop := ∀ k f, alFind fm.lookup k = some f → ∃ l, f = .owned l ∧ GWU C l

theorem FMgw.insert {C : List DNode} {fm : FieldMap} (h : FMgw C fm) (t : Tag) (l : List TagValue) (tags : List Tag) (hl : GWU C l) :
    FMgw C { fm with lookup := alInsert fm.lookup t (.owned l), tags := tags } :=
  FMall.insert (P := GWU C) h t l tags hl

theorem tmplEq_eq : ∀ (a b : List Item), tmplEq a b = true → a = b := by
  intro a b
  fun_induction tmplEq a b with
  | case1 => intro _; rfl
  | case2 x r y r' ih =>
    intro h
    simp only [Bool.and_eq_true, beq_iff_eq] at h
    rw [h.1, ih h.2]
  | case3 x ta r y tb r' ih1 ih2 =>
    intro h
    simp only [Bool.and_eq_true, beq_iff_eq] at h
    rw [h.1.1, ih1 h.1.2, ih2 h.2]
  | case4 => intro h; cases h

theorem entriesOK_cons {tm : List Item} {e : List GFld} {es : List (List GFld)} (h : entriesOK tm (e :: es) = true) :
    (∃ d r, tm = .elem d :: r ∧ e.any (fun f => f.tag = d) = true) ∧ entryOK tm e = true ∧ entriesOK tm es = true := by
  unfold entriesOK at h
  simp only [Bool.and_eq_true] at h
  obtain ⟨⟨h1, h2⟩, h3⟩ := h
  refine ⟨?_, h2, h3⟩
  cases tm with
  | nil => simp at h1
  | cons d0 r =>
    cases d0 with
    | elem d => simp only [Bool.true_and, Item.tag] at h1; exact ⟨d, r, rfl, h1⟩
    | group _ _ => simp at h1

/-- induction over the successful runs of `Write` on template-conforming entries: a plain member is an element item of the template, a
    nested group a group item whose entries are written with its nested template; every case is handed the equations of its run and the
    conformance of its parts.  `P1 tm e fm fm'`: the setter calls `e` of one entry under template `tm` take the entry's map from `fm` to
    `fm'`; `P2 tm es W`: the entries `es` under `tm` are written as `W`.  Only successful conforming runs are walked: that every run
    succeeds is `write_total` (CodecOps), by recursion over the entry description itself -/
theorem write_induct {P1 : List Item → List GFld → FieldMap → FieldMap → Prop} {P2 : List Item → List (List GFld) → List TagValue → Prop}
    (nil1 : ∀ tm fm, P1 tm [] fm fm)
    (fld : ∀ tm t t' v r fm s fm', findItem tm t = some (.elem t') → fm.setBytes t v = .ok s → P1 tm r s.fm fm' → P1 tm (.fld t v :: r) fm fm')
    (grp : ∀ tm t t' sub es r fm tvs fm', findItem tm t = some (.group t' sub) → entriesOK sub es = true → writeEntries sub es = .ok tvs →
      P2 sub es tvs → P1 tm r (fm.setGroup t (countTV t es.length :: tvs)) fm' → P1 tm (.grp t sub es :: r) fm fm')
    (nil2 : ∀ tm, P2 tm [] [])
    (cons2 : ∀ tm e es fm tvs, entriesOK tm (e :: es) = true → buildEntry e (FieldMap.empty (.group (tmplTags tm))) = .ok fm →
      P1 tm e (FieldMap.empty (.group (tmplTags tm))) fm → P2 tm es tvs → P2 tm (e :: es) (entryTVs fm ++ tvs)) :
    (∀ (e : List GFld) (fm : FieldMap), ∀ tm fm', entryOK tm e = true → buildEntry e fm = .ok fm' → P1 tm e fm fm') ∧
    (∀ (tm : List Item) (es : List (List GFld)), ∀ W, entriesOK tm es = true → writeEntries tm es = .ok W → P2 tm es W) := by
  -- order: `[]`; `.fld` ok / err / fault; `.grp` ok / err / fault; no entries; an entry ok-ok / rest err / rest fault / entry err / entry fault
  apply buildEntry.mutual_induct
    (motive1 := fun e fm => ∀ tm fm', entryOK tm e = true → buildEntry e fm = .ok fm' → P1 tm e fm fm')
    (motive2 := fun tm es => ∀ W, entriesOK tm es = true → writeEntries tm es = .ok W → P2 tm es W)
  · intro fm tm fm' _ hb
    simp only [buildEntry] at hb; injection hb with hb; subst hb; exact nil1 tm fm
  · intro t v r fm s hs ih tm fm' hok hb
    simp only [entryOK, Bool.and_eq_true] at hok
    simp only [buildEntry, hs] at hb
    cases hfi : findItem tm t with
    | none => rw [hfi] at hok; simp at hok
    | some it =>
      cases it with
      | group _ _ => rw [hfi] at hok; simp at hok
      | elem t' => exact fld tm t t' v r fm s fm' hfi hs (ih tm fm' hok.2 hb)
  · intro t v r fm e hs tm fm' _ hb
    simp only [buildEntry, hs] at hb; cases hb
  · intro t v r fm w hs tm fm' _ hb
    simp only [buildEntry, hs] at hb; cases hb
  · intro t sub es r fm tvs hw ih2 ih1 tm fm' hok hb
    simp only [entryOK, Bool.and_eq_true] at hok
    simp only [buildEntry, hw] at hb
    cases hfi : findItem tm t with
    | none => rw [hfi] at hok; simp at hok
    | some it =>
      cases it with
      | elem _ => rw [hfi] at hok; simp at hok
      | group t' sub' =>
        rw [hfi] at hok
        simp only at hok
        have etm : sub = sub' := tmplEq_eq sub sub' hok.1.1
        subst etm
        exact grp tm t t' sub es r fm tvs fm' hfi hok.1.2 hw (ih2 tvs hok.1.2 hw) (ih1 tm fm' hok.2 hb)
  · intro t sub es r fm e hw _ tm fm' _ hb
    simp only [buildEntry, hw] at hb; cases hb
  · intro t sub es r fm w hw _ tm fm' _ hb
    simp only [buildEntry, hw] at hb; cases hb
  · intro tm W _ hW
    simp only [writeEntries] at hW; injection hW with hW; subst hW; exact nil2 tm
  · intro tm e es fm hb tvs hw ih1 ih2 W hok hW
    simp only [writeEntries, hb, hw] at hW
    injection hW with hW; subst hW
    obtain ⟨_, h1, h2⟩ := entriesOK_cons hok
    exact cons2 tm e es fm tvs hok hb (ih1 tm fm h1 hb) (ih2 tvs h2 hw)
  · intro tm e es fm hb e1 hw _ _ W _ hW
    simp only [writeEntries, hb, hw] at hW; cases hW
  · intro tm e es fm hb w hw _ _ W _ hW
    simp only [writeEntries, hb, hw] at hW; cases hW
  · intro tm e es e1 hb _ W _ hW
    simp only [writeEntries, hb] at hW; cases hW
  · intro tm e es w hb _ W _ hW
    simp only [writeEntries, hb] at hW; cases hW

theorem write_gwu :
    (∀ (e : List GFld) (fm : FieldMap), ∀ (tmpl : List Item) (C : List DNode), TmplDict tmpl C → entryOK tmpl e = true → FMgw C fm →
      ∀ fm', buildEntry e fm = .ok fm' → FMgw C fm') ∧
    (∀ (tmpl : List Item) (es : List (List GFld)), ∀ (C : List DNode), TmplDict tmpl C → entriesOK tmpl es = true →
      ∀ W, writeEntries tmpl es = .ok W → GWU C W) := by
  have := write_induct (P1 := fun tm _ fm fm' => ∀ C, TmplDict tm C → FMgw C fm → FMgw C fm') (P2 := fun tm _ W => ∀ C, TmplDict tm C → GWU C W)
    (fun _ _ _ _ h => h)
    (fun tm t t' v r fm s fm' hfi hs ih C htd h => by
      obtain ⟨h1, h2⟩ := tmplDict_find htd hfi
      exact ih C htd (FMall.setTV (P := GWU C) h _ s hs
        (.leaf (by simpa [TagValue.init] using h1) (by simpa [TagValue.init] using h2) (.nil _))))
    (fun tm t t' sub es r fm tvs fm' hfi _ _ hW ih C htd h => by
      obtain ⟨CN, hg, htdN⟩ := tmplDict_find htd hfi
      have hl : GWU C (countTV t es.length :: tvs) := by
        have := GWU.nest (C := C) (tv := countTV t es.length) (r := []) (by simpa [countTV, TagValue.init] using hg) (hW CN htdN) (.nil _)
        simpa using this
      exact ih C htd (h.insert _ _ _ hl))
    (fun _ _ _ => .nil _)
    (fun tm e es fm tvs _ _ h1 h2 C htd =>
      GWU.append (collectTags_all (P := GWU C) (h1 C htd (FMall.empty (GWU C) _)) (.nil _) (fun _ _ => GWU.append) _) (h2 C htd))
  exact ⟨fun e fm tmpl C htd hok h fm' hb => this.1 e fm tmpl fm' hok hb C htd h,
    fun tmpl es C htd hok W hW => this.2 tmpl es W hok hW C htd⟩

theorem writeGroup_groupWalk (G : Tag) (tmpl : List Item) (es : List (List GFld)) (C : List DNode) (htd : TmplDict tmpl C)
    (hok : entriesOK tmpl es = true) (tvs : List TagValue) (hw : writeGroup G tmpl es = .ok tvs)
    (hwire : ∀ tv ∈ tvs, IsWire tv) :
    ∃ W, tvs = countTV G es.length :: W ∧ GroupWalk C W := by
  revert hw
  fun_cases writeGroup G tmpl es with
  | case1 W hW =>
    intro hw; cases hw
    exact ⟨W, rfl, (write_gwu.2 tmpl es C htd hok W hW).wire (fun tv h => hwire tv (by simp [h]))⟩
  | _ => nofun

end Qfx
