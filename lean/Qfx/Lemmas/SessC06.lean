/-
  The verification pipeline against the C06 gate (Props/C06.lean; SessPool, SessC07, SessC08* use the facts about
  `verifySelect`): the session-level checks as facts about message fields (`firstReject_none_gate`: the checks of
  SessVerify pass exactly when the gate of the specification holds), every outcome of `verifySelect` in those words, the
  reaction to the first failing check.
-/
import Qfx.Spec.SessionTypedC06
import Qfx.Lemmas.SessVerify
namespace Qfx.Sess
open Qfx

theorem checkBeginString_none_iff (s : Sess) (m : InMsg) : checkBeginString s m = none ↔ BeginOK s.cfg m := by
  unfold checkBeginString BeginOK
  cases h : m.f.get? 8 with
  | none => simp
  | some b => simp

theorem checkCompID_none_iff (s : Sess) (m : InMsg) : checkCompID s m = none ↔ CompOK s.cfg m := by
  unfold checkCompID CompOK
  cases h1 : m.f.get? 49 <;> cases h2 : m.f.get? 56 <;> simp
  rename_i a b
  constructor
  · intro h
    split at h
    · cases h
    · split at h
      · cases h
      · split at h
        · cases h
        · simp_all
  · rintro ⟨rfl, rfl, h3, h4⟩
    simp [h3, h4]

theorem checkSendingTime_none_iff (s : Sess) (m : InMsg) : checkSendingTime s m = none ↔ (s.cfg.skipLatency = true ∨ TimeOK m) := by
  unfold checkSendingTime TimeOK
  cases hs : s.cfg.skipLatency
  · simp only [Bool.false_eq_true, if_false, false_or]
    cases h : getTime m 52 with
    | missing => simp
    | garbled => simp
    | val d =>
      simp only [Got.val.injEq, exists_eq_left']
      constructor
      · intro h; split at h
        · cases h
        · rename_i hc; simp at hc; omega
      · intro h; rw [if_neg]; simp; omega
  · simp

def SeqGate (s : Sess) (m : InMsg) (th tl : Bool) : Prop :=
  (tl = true → ∃ n, getInt m 34 = .val n ∧ s.store.target ≤ n) ∧ (th = true → ∃ n, getInt m 34 = .val n ∧ n ≤ s.store.target)

theorem timeGate_iff (s : Sess) (m : InMsg) :
    (if (curResend s).isSome then none else checkSendingTime s m) = none ↔ TimeGate s m := by
  unfold TimeGate
  cases h : (curResend s).isSome
  · simp [checkSendingTime_none_iff]
  · simp

theorem earlyCheck_none_iff (s : Sess) (m : InMsg) : earlyCheck s m = none ↔ (BeginOK s.cfg m ∧ CompOK s.cfg m ∧ TimeGate s m) := by
  unfold earlyCheck
  rw [← checkBeginString_none_iff, ← checkCompID_none_iff, ← timeGate_iff]
  cases checkBeginString s m <;> cases checkCompID s m <;> simp

theorem firstReject_none_gate (s : Sess) (m : InMsg) (th tl : Bool) :
    firstReject s m th tl = none ↔ BeginOK s.cfg m ∧ CompOK s.cfg m ∧ TimeGate s m ∧ SeqGate s m th tl := by
  rw [firstReject_none_iff, earlyCheck_none_iff]
  exact ⟨fun ⟨⟨a, b, c⟩, d⟩ => ⟨a, b, c, d⟩, fun ⟨a, b, c, d⟩ => ⟨⟨a, b, c⟩, d⟩⟩

theorem verifySelect_cases (s : Sess) (m : InMsg) (th tl ai : Bool) :
    (verifySelect s m th tl ai).1 = s ∨
    (ai = true ∧ GateMsg s.cfg m ∧ TimeGate s m ∧ SeqGate s m th tl ∧
      verifySelect s m th tl ai = (s.emit (cbObs s m), callbackVerdict m)) := by
  rw [verifySelect_eq, verifyAppImpl_eq]
  cases hf : firstReject s m th tl with
  | some r => exact .inl rfl
  | none =>
    obtain ⟨hb, hc, ht, hs⟩ := (firstReject_none_gate s m th tl).1 hf
    cases ai with
    | false => exact .inl rfl
    | true =>
      cases hv : validate s.cfg m with
      | some r => exact .inl rfl
      | none => exact .inr ⟨rfl, ⟨hb, hc, hv⟩, ht, hs, rfl⟩

theorem verifySelect_pass (s : Sess) (m : InMsg) (th tl ai : Bool) (h : (verifySelect s m th tl ai).2 = none) :
    BeginOK s.cfg m ∧ CompOK s.cfg m ∧ TimeGate s m ∧ SeqGate s m th tl ∧ (ai = true → Valid s.cfg m ∧ callbackVerdict m = none) := by
  rw [verifySelect_eq, verifyAppImpl_eq] at h
  cases hf : firstReject s m th tl with
  | some r => rw [hf] at h; cases h
  | none =>
    obtain ⟨hb, hc, ht, hs⟩ := (firstReject_none_gate s m th tl).1 hf
    refine ⟨hb, hc, ht, hs, fun ha => ?_⟩
    subst ha
    rw [hf] at h
    cases hv : validate s.cfg m with
    | some r => rw [hv] at h; cases h
    | none => rw [hv] at h; exact ⟨hv, h⟩

theorem verifySelect_complete (s : Sess) (m : InMsg) (th tl ai : Bool) (hb : BeginOK s.cfg m) (hc : CompOK s.cfg m)
    (ht : TimeGate s m) (hs : SeqGate s m th tl) :
    verifySelect s m th tl ai = if ai then verifyAppImpl s m else (s, none) := by
  rw [verifySelect_eq, (firstReject_none_gate s m th tl).2 ⟨hb, hc, ht, hs⟩]

theorem verifyAppImpl_pass (s : Sess) (m : InMsg) (h : Valid s.cfg m) : verifyAppImpl s m = (s.emit (cbObs s m), callbackVerdict m) :=
  verifyAppImpl_valid s m h

/-- kinds whose MsgSeqNum is checked for "too low" -/
def SeqChecked (m : InMsg) : Prop :=
  kindOf m ≠ "A" ∧ kindOf m ≠ "5" ∧ kindOf m ≠ "2" ∧ (kindOf m = "4" → getBool m 123 = .val true)

theorem earlyCheck_begin {s : Sess} {m : InMsg} {r : Rej} (h : checkBeginString s m = some r) : earlyCheck s m = some r := by
  unfold earlyCheck; rw [h]

theorem earlyCheck_comp {s : Sess} {m : InMsg} {r : Rej} (hb : BeginOK s.cfg m) (h : checkCompID s m = some r) :
    earlyCheck s m = some r := by
  unfold earlyCheck; rw [(checkBeginString_none_iff s m).2 hb, h]

theorem earlyCheck_time {s : Sess} {m : InMsg} {r : Rej} (hb : BeginOK s.cfg m) (hc : CompOK s.cfg m) (hr : curResend s = none)
    (h : checkSendingTime s m = some r) : earlyCheck s m = some r := by
  unfold earlyCheck; rw [(checkBeginString_none_iff s m).2 hb, (checkCompID_none_iff s m).2 hc, hr]; exact h

theorem early_begin_missing (s : Sess) (m : InMsg) (h8 : m.f.get? 8 = none) :
    earlyCheck s m = some (reqMissing 8) :=
  earlyCheck_begin (by unfold checkBeginString; rw [h8])

/-- **the reaction to a defective message is the reaction to its first failing check**: every kind but Logon (a
    SequenceReset: readable GapFillFlag), every state — an early check … -/
theorem reaction_early (s : Sess) (m : InMsg) (r : Rej) (hk : kindOf m ≠ "A") (h4 : kindOf m = "4" → getBool m 123 ≠ .garbled)
    (h : earlyCheck s m = some r) : inSessionFixMsgIn s m = processReject s m r :=
  inSessionFixMsgIn_reject s s m r hk h4 (verifySelect_of_reject (firstReject_early h _ _) true)

/-- … or, for the kinds whose MsgSeqNum is checked for "too low", that check once the early ones pass -/
theorem reaction_low (s : Sess) (m : InMsg) (r : Rej) (hk : SeqChecked m) (hb : BeginOK s.cfg m) (hc : CompOK s.cfg m)
    (ht : TimeGate s m) (h : checkTooLow s m = some r) : inSessionFixMsgIn s m = processReject s m r := by
  refine inSessionFixMsgIn_reject s s m r hk.1 (fun h => by rw [hk.2.2.2 h]; exact nofun) ?_
  rw [seqChecked_true hk.2.1 hk.2.2.1 hk.2.2.2]
  exact verifySelect_of_reject (firstReject_low ((earlyCheck_none_iff s m).2 ⟨hb, hc, ht⟩) h true) true

theorem processReject_badBegin (s : Sess) (m : InMsg) : processReject s m .badBeginString = (initiateLogout s, .logout) := rfl
theorem processReject_9 (s : Sess) (m : InMsg) :
    processReject s m (.plain 9 none false) = (initiateLogout (doReject s m 9 none false), .logout) := rfl
theorem processReject_10 (s : Sess) (m : InMsg) :
    processReject s m (.plain 10 none false) = (initiateLogout (doReject s m 10 none false), .logout) := rfl
theorem processReject_reqMissing (s : Sess) (m : InMsg) (t : Nat) :
    processReject s m (reqMissing t) = (incrTarget (doReject s m 1 (some t) false), .inSession) := rfl
theorem processReject_noValue (s : Sess) (m : InMsg) (t : Nat) :
    processReject s m (noValue t) = (incrTarget (doReject s m 4 (some t) false), .inSession) := rfl
theorem processReject_badFormat (s : Sess) (m : InMsg) (t : Nat) :
    processReject s m (badFormat t) = (incrTarget (doReject s m 6 (some t) false), .inSession) := rfl
theorem processReject_tooLow_noPossDup (s : Sess) (m : InMsg) (a b : Int)
    (h43 : getBool m 43 = .missing ∨ getBool m 43 = .val false) :
    processReject s m (.tooLow a b) = (initiateLogout s, .logout) := by
  simp only [processReject, doTargetTooLow]
  rcases h43 with h | h <;> simp [h]

end Qfx.Sess
