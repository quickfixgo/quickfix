/-
  Qfx.Lemmas.Validate — the validator model (C15) stage by stage: the verdict of the pipeline is that of its first failing stage
  (`validatePipeline_eq`); `validateFieldContent` is read through the state of its loop behind header, body and trailer fields.
  Of the walk only the equation of one iteration is here; its loop is treated in Qfx/Lemmas/ValidateGroups.lean.
-/
import Qfx.Model.Validate
namespace Qfx.Validate
open Qfx Qfx.Dict

theorem minTag_none {l : List Nat} : minTag l = none ↔ l = [] := by
  induction l with
  | nil => simp [minTag]
  | cons x r ih =>
    simp only [minTag]
    cases h : minTag r <;> simp

theorem minTag_mem {l : List Nat} {t : Nat} (h : minTag l = some t) : t ∈ l := by
  induction l generalizing t with
  | nil => simp [minTag] at h
  | cons x r ih =>
    simp only [minTag] at h
    cases hr : minTag r with
    | none => simp [hr] at h; simp [h]
    | some y =>
      simp [hr] at h
      by_cases hxy : x ≤ y
      · simp [hxy] at h; simp [h]
      · simp [hxy] at h; subst h; exact List.mem_cons_of_mem _ (ih hr)

theorem requiredFieldMap_ok {req present : List Nat} (h : ∀ t ∈ req, t ∈ present) :
    validateRequiredFieldMap req present = .ok () := by
  have : req.filter (fun t => !present.contains t) = [] := by
    simp only [List.filter_eq_nil_iff]
    intro t ht
    simp [h t ht]
  unfold validateRequiredFieldMap
  rw [this]
  rfl

theorem requiredFieldMap_missing {req present : List Nat} {t : Nat} (hr : t ∈ req) (hm : t ∉ present) :
    ∃ t', validateRequiredFieldMap req present = .error (.reject ⟨1, some t'⟩) ∧ t' ∈ req ∧ t' ∉ present := by
  have hne : req.filter (fun t => !present.contains t) ≠ [] := by
    intro h
    have := List.filter_eq_nil_iff.mp h t hr
    simp [hm] at this
  cases hmin : minTag (req.filter (fun t => !present.contains t)) with
  | none => exact absurd (minTag_none.mp hmin) hne
  | some t' =>
    have hmem := minTag_mem hmin
    simp only [List.mem_filter] at hmem
    refine ⟨t', ?_, hmem.1, ?_⟩
    · unfold validateRequiredFieldMap
      rw [hmin]
      rfl
    · simpa using hmem.2

theorem requiredFieldMap_single {req present : List Nat} {t : Nat} (hr : t ∈ req) (hm : t ∉ present)
    (honly : ∀ u ∈ req, u ≠ t → u ∈ present) :
    validateRequiredFieldMap req present = .error (.reject ⟨1, some t⟩) := by
  obtain ⟨t', h, hr', hm'⟩ := requiredFieldMap_missing hr hm
  have : t' = t := by
    by_cases e : t' = t
    · exact e
    · exact absurd (honly t' hr' e) hm'
  rw [h, this]

theorem validateFields_prefix {tr app : VDict} {s : Settings} {pre : List TV} (rest : List TV)
    (hpre : ∀ g ∈ pre, g.tag ≠ 35 → validateField (if isHeaderTag g.tag || isTrailerTag g.tag then tr else app) s g = .ok ()) :
    validateFields tr app s (pre ++ rest) = validateFields tr app s rest := by
  induction pre with
  | nil => rfl
  | cons g r ih =>
    have ih' := ih (fun x hx => hpre x (List.mem_cons_of_mem _ hx))
    by_cases g35 : g.tag = 35
    · simp only [List.cons_append, validateFields, g35, if_true]; exact ih'
    · simp only [List.cons_append, validateFields, g35, if_false, bind, Except.bind]
      rw [hpre g (List.mem_cons_self ..) g35]
      exact ih'

theorem validateFields_ok {tr app : VDict} {s : Settings} {fs : List TV}
    (h : ∀ f ∈ fs, f.tag ≠ 35 → validateField (if isHeaderTag f.tag || isTrailerTag f.tag then tr else app) s f = .ok ()) :
    validateFields tr app s fs = .ok () := by
  rw [← List.append_nil fs, validateFields_prefix [] h]; rfl

theorem validateFields_first {tr app : VDict} {s : Settings} {pre post : List TV} {f : TV} {e : Stop}
    (hpre : ∀ g ∈ pre, g.tag ≠ 35 → validateField (if isHeaderTag g.tag || isTrailerTag g.tag then tr else app) s g = .ok ())
    (h35 : f.tag ≠ 35)
    (hf : validateField (if isHeaderTag f.tag || isTrailerTag f.tag then tr else app) s f = .error e) :
    validateFields tr app s (pre ++ f :: post) = .error e := by
  rw [validateFields_prefix _ hpre]
  simp only [validateFields, h35, if_false, bind, Except.bind]
  rw [hf]

theorem validateField_empty (d : VDict) (s : Settings) (f : TV) (h : f.value = []) :
    validateField d s f = .error (.reject ⟨4, some f.tag⟩) := by
  simp [validateField, validateFieldWith, h, rej]

theorem validateField_undeclared (d : VDict) (s : Settings) (f : TV) (hv : f.value ≠ []) (hu : d.ftype f.tag = none) :
    validateField d s f = if !checkFieldNotDefined s f.tag then rej 0 f.tag else .ok () := by
  simp only [validateField, validateFieldWith, List.isEmpty_eq_false_iff.2 hv, hu]
  rfl

theorem validateField_declared (d : VDict) (s : Settings) (f : TV) (ft : FType) (hv : f.value ≠ [])
    (hd : d.ftype f.tag = some ft) :
    validateField d s f =
      if !enumOK ft f.value then rej 5 f.tag
      else match ft.proto with
        | none => .error .panic
        | some p => if protoReads p f.value then .ok () else rej 6 f.tag := by
  simp only [validateField, validateFieldWith, List.isEmpty_eq_false_iff.2 hv, hd]
  rfl

theorem enumOK_of_declared {ft : FType} {v : Bytes} (h : ft.enums = [] ∨ v ∈ ft.enums) : enumOK ft v = true := by
  rcases h with h | h <;> simp [enumOK, h]

theorem validateField_undefined (d : VDict) (s : Settings) (f : TV) (hv : f.value ≠ [])
    (hu : d.ftype f.tag = none) (hs : checkFieldNotDefined s f.tag = false) :
    validateField d s f = .error (.reject ⟨0, some f.tag⟩) := by
  simp [validateField_undeclared d s f hv hu, hs, rej]

theorem validateField_undefined_tolerated (d : VDict) (s : Settings) (f : TV) (hv : f.value ≠ [])
    (hu : d.ftype f.tag = none) (hs : checkFieldNotDefined s f.tag = true) :
    validateField d s f = .ok () := by
  simp [validateField_undeclared d s f hv hu, hs]

theorem validateField_bad_enum (d : VDict) (s : Settings) (f : TV) (ft : FType) (hv : f.value ≠ [])
    (hd : d.ftype f.tag = some ft) (hne : ft.enums ≠ []) (hnot : f.value ∉ ft.enums)
    (htok : ft.multi = false ∨ ∃ tok ∈ splitOn32 f.value [], tok ∉ ft.enums) :
    validateField d s f = .error (.reject ⟨5, some f.tag⟩) := by
  have hbad : enumOK ft f.value = false := by
    rcases htok with h | ⟨tok, h1, h2⟩
    · simp [enumOK, hne, hnot, h]
    · simp only [enumOK, Bool.or_eq_false_iff, Bool.and_eq_false_iff]
      refine ⟨⟨by simp [hne], by simpa using hnot⟩, Or.inr ?_⟩
      simp only [List.all_eq_false]
      exact ⟨tok, h1, by simpa using h2⟩
  simp [validateField_declared d s f ft hv hd, hbad, rej]

theorem validateField_bad_format (d : VDict) (s : Settings) (f : TV) (ft : FType) (p : Proto) (hv : f.value ≠ [])
    (hd : d.ftype f.tag = some ft) (henum : ft.enums = [] ∨ f.value ∈ ft.enums)
    (hp : ft.proto = some p) (hbad : protoReads p f.value = false) :
    validateField d s f = .error (.reject ⟨6, some f.tag⟩) := by
  simp [validateField_declared d s f ft hv hd, enumOK_of_declared henum, hp, hbad, rej]

theorem trailer_not_header {t : Nat} (h : isTrailerTag t = true) : isHeaderTag t = false := by
  simp only [isTrailerTag, trailerTags, List.contains_eq_mem, List.mem_cons, List.not_mem_nil, or_false,
    decide_eq_true_eq] at h
  rcases h with h | h | h <;> subst h <;> decide

/-- every field has a value, or empty values are not looked at by validateFieldContent (`hv = false`) -/
def ValuesOK (hv : Bool) (fs : List TV) : Prop := ∀ f ∈ fs, (hv && f.value.isEmpty) = false

def AllValues (fs : List TV) : Prop := ∀ f ∈ fs, f.value.isEmpty = false

theorem AllValues.valuesOK {fs : List TV} (h : AllValues fs) (hv : Bool) : ValuesOK hv fs :=
  fun f hf => by simp [h f hf]

theorem valuesOK_append {hv : Bool} {a b : List TV} : ValuesOK hv (a ++ b) ↔ ValuesOK hv a ∧ ValuesOK hv b :=
  List.forall_mem_append

theorem ValuesOK.tail {hv : Bool} {f : TV} {r : List TV} (h : ValuesOK hv (f :: r)) : ValuesOK hv r :=
  fun g hg => h g (List.mem_cons_of_mem _ hg)

/-- header fields, then body fields, then trailer fields (static tag classes of tag.go) -/
structure Sectioned (fs : List TV) : Prop where
  split : ∃ h b t, fs = h ++ (b ++ t) ∧ (∀ f ∈ h, isHeaderTag f.tag = true) ∧
    (∀ f ∈ b, isHeaderTag f.tag = false ∧ isTrailerTag f.tag = false) ∧ (∀ f ∈ t, isTrailerTag f.tag = true)

/-- the fields that leave the loop of validateFieldContent in the state `(inHeader, inTrailer)` it is in -/
def InPhase : Bool → Bool → TV → Prop
  | true, false, f => isHeaderTag f.tag = true
  | false, false, f => isHeaderTag f.tag = false ∧ isTrailerTag f.tag = false
  | false, true, f => isTrailerTag f.tag = true
  | true, true, _ => False

theorem contentLoop_same_phase (hv ord ih it : Bool) : ∀ (p rest : List TV), ValuesOK hv p →
    (∀ f ∈ p, InPhase ih it f) →
    fieldContentLoop hv ord (p ++ rest) ih it = fieldContentLoop hv ord rest ih it := by
  intro p
  induction p with
  | nil => intros; rfl
  | cons f r ihp =>
    intro rest hval hp
    have h1 := hval f (List.mem_cons_self ..)
    have h2 := hp f (List.mem_cons_self ..)
    rw [← ihp rest hval.tail (fun g hg => hp g (List.mem_cons_of_mem _ hg))]
    cases ih <;> cases it <;> simp only [InPhase] at h2
    · simp [fieldContentLoop, h1, h2.1, h2.2]
    · simp [fieldContentLoop, h1, h2, trailer_not_header h2]
    · simp [fieldContentLoop, h1, h2]

theorem contentLoop_enter_trailer (hv ord : Bool) (t₁ : TV) (rest : List TV) (ih : Bool)
    (ht : isTrailerTag t₁.tag = true) (hval : (hv && t₁.value.isEmpty) = false) :
    fieldContentLoop hv ord (t₁ :: rest) ih false = fieldContentLoop hv ord rest false true := by
  have h3 := trailer_not_header ht
  cases ih <;> simp [fieldContentLoop, hval, ht, h3]

theorem contentLoop_enter_body (hv ord : Bool) (g : TV) (rest : List TV)
    (hg : isHeaderTag g.tag = false ∧ isTrailerTag g.tag = false) (hval : (hv && g.value.isEmpty) = false) :
    fieldContentLoop hv ord (g :: rest) true false = fieldContentLoop hv ord rest false false := by
  simp [fieldContentLoop, hval, hg.1, hg.2]

/-- behind header fields `h`, body fields `b` and trailer fields `t` the loop is in the section of the last non-empty part -/
theorem contentLoop_sections (hv ord : Bool) (h b t rest : List TV) (hval : ValuesOK hv (h ++ (b ++ t)))
    (hh : ∀ f ∈ h, isHeaderTag f.tag = true)
    (hb : ∀ f ∈ b, isHeaderTag f.tag = false ∧ isTrailerTag f.tag = false) (ht : ∀ f ∈ t, isTrailerTag f.tag = true) :
    fieldContentLoop hv ord (h ++ (b ++ (t ++ rest))) true false =
      fieldContentLoop hv ord rest (b.isEmpty && t.isEmpty) (!t.isEmpty) := by
  simp only [valuesOK_append] at hval
  obtain ⟨hvh, hvb, hvt⟩ := hval
  -- the trailer part, entered from the header (`ih = true`) or from the body
  have tl : ∀ ih, fieldContentLoop hv ord (t ++ rest) ih false = fieldContentLoop hv ord rest (ih && t.isEmpty) (!t.isEmpty) := by
    intro ih
    cases t with
    | nil => simp
    | cons t₁ t' =>
      rw [List.cons_append, contentLoop_enter_trailer hv ord t₁ _ ih (ht _ (List.mem_cons_self ..)) (hvt _ (List.mem_cons_self ..)),
        contentLoop_same_phase hv ord false true t' _ hvt.tail (fun f hf => ht f (List.mem_cons_of_mem _ hf))]
      simp
  rw [contentLoop_same_phase hv ord true false h _ hvh hh]
  cases b with
  | nil => simpa using tl true
  | cons g b' =>
    rw [List.cons_append, contentLoop_enter_body hv ord g _ (hb _ (List.mem_cons_self ..)) (hvb _ (List.mem_cons_self ..)),
      contentLoop_same_phase hv ord false false b' _ hvb.tail (fun f hf => hb f (List.mem_cons_of_mem _ hf))]
    simpa using tl false

theorem Sectioned.prefix {pre post : List TV} (hs : Sectioned (pre ++ post)) : Sectioned pre := by
  obtain ⟨h, b, t, e, hh, hb, ht⟩ := hs.split
  rcases List.append_eq_append_iff.1 e with ⟨a', rfl, _⟩ | ⟨c', rfl, e'⟩
  · exact ⟨pre, [], [], by simp, fun f hf => hh f (List.mem_append_left _ hf), fun _ h => (List.not_mem_nil h).elim, fun _ h => (List.not_mem_nil h).elim⟩
  · rcases List.append_eq_append_iff.1 e'.symm with ⟨a', rfl, _⟩ | ⟨c, rfl, rfl⟩
    · exact ⟨h, c', [], by simp, hh, fun f hf => hb f (List.mem_append_left _ hf), fun _ h => (List.not_mem_nil h).elim⟩
    · exact ⟨h, b, c, rfl, hh, hb, fun f hf => ht f (List.mem_append_left _ hf)⟩

theorem validateFieldContent_ok (m : PMsg) (hv ord : Bool) (hs : Sectioned m.fields) (hval : ValuesOK hv m.fields) :
    validateFieldContent m hv ord = .ok () := by
  obtain ⟨h, b, t, e, hh, hb, ht⟩ := hs.split
  unfold validateFieldContent
  split
  · rfl
  · rw [e] at hval ⊢
    have := contentLoop_sections hv ord h b t [] hval hh hb ht
    rw [List.append_nil] at this
    rw [this]; rfl

theorem contentLoop_first_empty (ord : Bool) (pre post : List TV) (f : TV) (hs : Sectioned (pre ++ f :: post))
    (hval : AllValues pre) (he : f.value = []) :
    fieldContentLoop true ord (pre ++ f :: post) true false = rej 4 f.tag := by
  obtain ⟨h, b, t, rfl, hh, hb, ht⟩ := hs.prefix.split
  have := contentLoop_sections true ord h b t (f :: post) (hval.valuesOK true) hh hb ht
  simp only [List.append_assoc] at this ⊢
  rw [this]
  simp [fieldContentLoop, he]

theorem contentLoop_section_order (hv : Bool) (h b rest : List TV) (x : TV) (hne : b ≠ [])
    (hval : ValuesOK hv (h ++ (b ++ [x])))
    (hh : ∀ f ∈ h, isHeaderTag f.tag = true)
    (hb : ∀ f ∈ b, isHeaderTag f.tag = false ∧ isTrailerTag f.tag = false)
    (hx : isHeaderTag x.tag = true) :
    fieldContentLoop hv true (h ++ (b ++ x :: rest)) true false = rej 14 x.tag := by
  simp only [valuesOK_append] at hval
  obtain ⟨hvh, hvb, hvx⟩ := hval
  have := contentLoop_sections hv true h b [] (x :: rest) (valuesOK_append.2 ⟨hvh, valuesOK_append.2 ⟨hvb, nofun⟩⟩)
    hh hb nofun
  rw [List.nil_append] at this
  rw [this]
  have hvx : (hv && x.value.isEmpty) = false := hvx x (List.mem_singleton_self x)
  cases b with
  | nil => exact absurd rfl hne
  | cons _ _ => simp [fieldContentLoop, hvx, hx]

theorem contentLoop_behind_trailer (hv : Bool) (h b t rest : List TV) (t₁ x : TV)
    (hval : ValuesOK hv (h ++ (b ++ (t₁ :: t ++ [x]))))
    (hh : ∀ f ∈ h, isHeaderTag f.tag = true)
    (hb : ∀ f ∈ b, isHeaderTag f.tag = false ∧ isTrailerTag f.tag = false)
    (ht₁ : isTrailerTag t₁.tag = true) (ht : ∀ f ∈ t, isTrailerTag f.tag = true)
    (hx : isHeaderTag x.tag = false ∧ isTrailerTag x.tag = false) :
    fieldContentLoop hv true (h ++ (b ++ (t₁ :: t ++ x :: rest))) true false = rej 14 x.tag := by
  simp only [valuesOK_append] at hval
  obtain ⟨hvh, hvb, hvt, hvx⟩ := hval
  have := contentLoop_sections hv true h b (t₁ :: t) (x :: rest) (valuesOK_append.2 ⟨hvh, valuesOK_append.2 ⟨hvb, hvt⟩⟩)
    hh hb (fun f hf => (List.mem_cons.1 hf).elim (fun e => e ▸ ht₁) (ht f))
  rw [List.cons_append] at this ⊢
  rw [this]
  have hvx : (hv && x.value.isEmpty) = false := hvx x (List.mem_singleton_self x)
  simp [fieldContentLoop, hvx, hx.1, hx.2]

/-- what the pipeline theorems ask of the stages in front of validateFieldContent: the three definitions are there and every required tag
    of header, body and trailer is present -/
structure FrontOK (tr app : VDict) (m : PMsg) (mt : Bytes) (h b t : MDef) : Prop where
  hdef : tr.header = some h
  bdef : app.msg? mt = some b
  tdef : tr.trailer = some t
  reqH : ∀ x ∈ h.reqTags, x ∈ m.hdr
  reqB : ∀ x ∈ b.reqTags, x ∈ m.body
  reqT : ∀ x ∈ t.reqTags, x ∈ m.trl

theorem validatePipeline_eq {tr app : VDict} {mt : Bytes} {b : MDef} (bdef : app.msg? mt = some b) (s : Settings)
    (m : PMsg) :
    validatePipeline tr app s mt m =
      (validateRequired tr app mt m >>= fun _ =>
        validateFieldContent m s.checkHaveValues s.checkOrder >>= fun _ =>
          if s.rejectInvalid then
            validateFields tr app s m.fields >>= fun _ => walkLoop tr app s b (walkFuel m) m.fields []
          else .ok ()) := by
  simp only [validatePipeline, validateMsgType, validateWalk, bdef]
  rfl

theorem validateRequired_ok {tr app : VDict} {m : PMsg} {mt : Bytes} {h b t : MDef} (c : FrontOK tr app m mt h b t) :
    validateRequired tr app mt m = .ok () := by
  simp only [validateRequired, c.hdef, c.bdef, c.tdef, bind, Except.bind]
  rw [requiredFieldMap_ok c.reqH, requiredFieldMap_ok c.reqB, requiredFieldMap_ok c.reqT]

theorem validatePipeline_content_error {tr app : VDict} {s : Settings} {m : PMsg} {mt : Bytes} {h b t : MDef} {e : Stop}
    (c : FrontOK tr app m mt h b t) (he : validateFieldContent m s.checkHaveValues s.checkOrder = .error e) :
    validatePipeline tr app s mt m = .error e := by
  simp only [validatePipeline_eq c.bdef, validateRequired_ok c, he, bind, Except.bind]

theorem validatePipeline_fields {tr app : VDict} {s : Settings} {m : PMsg} {mt : Bytes} {h b t : MDef}
    (c : FrontOK tr app m mt h b t) (sectioned : Sectioned m.fields) (values : ValuesOK s.checkHaveValues m.fields) :
    validatePipeline tr app s mt m =
      if s.rejectInvalid then
        validateFields tr app s m.fields >>= fun _ => walkLoop tr app s b (walkFuel m) m.fields []
      else .ok () := by
  simp only [validatePipeline_eq c.bdef, validateRequired_ok c, validateFieldContent_ok m _ _ sectioned values, bind,
    Except.bind]

theorem validatePipeline_walk {tr app : VDict} {s : Settings} {m : PMsg} {mt : Bytes} {h b t : MDef}
    (c : FrontOK tr app m mt h b t) (sectioned : Sectioned m.fields) (values : AllValues m.fields)
    (typed : ∀ g ∈ m.fields, g.tag ≠ 35 →
      validateField (if isHeaderTag g.tag || isTrailerTag g.tag then tr else app) s g = .ok ()) :
    validatePipeline tr app s mt m =
      if s.rejectInvalid then walkLoop tr app s b (walkFuel m) m.fields [] else .ok () := by
  simp only [validatePipeline_fields c sectioned (values.valuesOK _), validateFields_ok typed, bind, Except.bind]

theorem validateField_ok_of_typed {d : VDict} {s : Settings} {f : TV} (hv : f.value.isEmpty = false)
    (ht : ∃ ft p, d.ftype f.tag = some ft ∧ (ft.enums = [] ∨ f.value ∈ ft.enums) ∧ ft.proto = some p ∧
      protoReads p f.value = true) : validateField d s f = .ok () := by
  obtain ⟨ft, p, hd, he, hp, hr⟩ := ht
  simp [validateField_declared d s f ft (fun e => by simp [e] at hv) hd, enumOK_of_declared he, hp, hr]

/-- the definition validateWalk consults for a tag -/
def defFor (tr : VDict) (body : MDef) (t : Nat) : Option MDef :=
  if isHeaderTag t then tr.header else if isTrailerTag t then tr.trailer else some body

def PlainDefined (tr : VDict) (body : MDef) (f : TV) : Prop :=
  ∃ md fd, defFor tr body f.tag = some md ∧ md.field? f.tag = some fd ∧ fd.isGroup = false

theorem walkFuel_prefix {m : PMsg} {pre post : List TV} {f : TV} (hfs : m.fields = pre ++ f :: post) :
    pre.length + 2 < walkFuel m := by
  unfold walkFuel
  rw [hfs, List.length_append]
  omega

/-- one iteration of validateWalk's loop at a field whose section has a definition -/
theorem walkLoop_cons (tr app : VDict) (s : Settings) (body : MDef) (k : Nat) (f : TV) (rest : List TV) (seen : List Nat)
    {md : MDef} (hd : defFor tr body f.tag = some md) :
    walkLoop tr app s body (k + 1) (f :: rest) seen =
      if f.tag ∈ seen then rej 13 f.tag else
      match md.field? f.tag with
      | none => if !checkFieldNotDefined s f.tag then rej 2 f.tag else walkLoop tr app s body k rest (f.tag :: seen)
      | some fd =>
        match visitFieldW true k fd (f :: rest) with
        | .error e => .error e
        | .ok rest' => walkLoop tr app s body k rest' (f.tag :: seen) := by
  simp only [defFor] at hd
  simp only [walkLoop, hd, List.contains_eq_mem, decide_eq_true_eq]
  rfl

end Qfx.Validate
