/-
  Qfx.Model.Framer — the stream framer, parser.go, function by function.

  State of the Go parser:   bigBuffer []byte, buffer []byte (a window into bigBuffer), reader io.Reader.
  Model state `P`:
    big    = len(p.bigBuffer)                       (= its capacity: it is always `make([]byte, n)`)
    buf    = the contents of p.buffer               (len(p.buffer) = buf.length)
    spare  = cap(p.buffer) - len(p.buffer)          (the window always runs to the end of bigBuffer, so
                                                     re-slicing `p.buffer[k:]` keeps `spare` and drops k bytes)
    rd     = the io.Reader: the chunks it has not served yet + whether it reports io.EOF together with the
             last bytes or on a separate (0, EOF) call
  Every Go slice expression whose bounds are not syntactically safe is an explicit check that yields `.fault`
  (Go would panic, or read stale bytes between len and cap).  A read into a zero-length slice is a fault too:
  the reader would answer (0, nil) and `findIndexAfterOffset` would spin for ever.
  Offsets are `Int` where Go computes them from the wire (`offset + length`, 64-bit wrap-around), `Nat` where
  they come out of a search.
-/
import Qfx.Model.Bytes
namespace Qfx.Framer
open Qfx

/-- parser.go `defaultBufSize` -/
def defaultBufSize : Nat := 4096

/-- the three needles; in parser.go the SOH bytes of `"\x019="` are written raw -/
def dBegin : Bytes := [56, 61]          -- "8="
def dLen : Bytes := [1, 57, 61]         -- SOH "9="
def dCk : Bytes := [1, 49, 48, 61]      -- SOH "10="
def dSOH : Bytes := [1]                 -- SOH

/-- `bytes.Index(s, d)`: index of the first occurrence of `d` in `s` -/
def indexOf (d : Bytes) : Bytes → Option Nat
  | [] => if d.isEmpty then some 0 else none
  | x :: xs => if d.isPrefixOf (x :: xs) then some 0 else (indexOf d xs).map (· + 1)

/-! ## the reader -/

structure Reader where
  chunks : List Bytes     -- what successive Read calls will hand out (a chunk larger than the room is served in pieces)
  eofd : Bool             -- true: the last bytes are returned together with the final error
  endErr : String := "eof" -- the error the reader ends with: io.EOF ("eof") or a connection error ("io")
  deriving Repr

/-- `Read(p)` with `len(p) = room > 0`: (bytes delivered, err != nil, reader afterwards) -/
def Reader.read (r : Reader) (room : Nat) : Bytes × Bool × Reader :=
  match r.chunks with
  | [] => ([], true, r)                                    -- (0, r.endErr)
  | c :: cs =>
    let k := min c.length room
    let rest := if k = c.length then cs else c.drop k :: cs
    (c.take k, r.eofd && rest.isEmpty, { r with chunks := rest })

/-- termination measure of the refill loops: every Read either fails or lowers it -/
def Reader.weight (r : Reader) : Nat := (r.chunks.map (fun c => c.length + 1)).sum

/-! ## the parser -/

structure P where
  big : Nat
  buf : Bytes
  spare : Nat
  rd : Reader
  deriving Repr

/-- `newParser(reader)` : nil buffers -/
def P.init (rd : Reader) : P := { big := 0, buf := [], spare := 0, rd := rd }

/-- unread + buffered bytes: what `readLoop` still has to go through -/
def P.weight (p : P) : Nat := p.buf.length + p.rd.weight

/-- first half of parser.go `readMore`: make room when `len(p.buffer) == cap(p.buffer)` -/
def grow (p : P) : P :=
  if p.spare = 0 then                                    -- len(p.buffer) == cap(p.buffer)
    if p.big = 0 then                                    -- first use: newBuffer = bigBuffer[0:0]; copy copies len(newBuffer) = 0 bytes
      { p with big := defaultBufSize, buf := [], spare := defaultBufSize }
    else if 2 * p.buf.length ≤ p.big then                -- shift to the front: bigBuffer[0:len(buffer)]
      { p with spare := p.big - p.buf.length }
    else                                                 -- reallocate twice the size
      { p with big := 2 * p.buf.length, spare := p.buf.length }
  else p

/-- second half of `readMore`: `n, e := p.reader.Read(p.buffer[len:cap]); p.buffer = p.buffer[:len+n]` -/
def fill (p : P) : Res (Nat × Bool × P) :=
  if p.spare = 0 then .fault "zero-length read: no progress"
  else
    let r := p.rd.read p.spare
    -- n ≤ room by the io.Reader contract, so the re-slice is in range
    .ok (r.1.length, r.2.1, { p with buf := p.buf ++ r.1, spare := p.spare - r.1.length, rd := r.2.2 })

/-- parser.go `readMore` : `(n, err != nil, p)` -/
def readMore (p : P) : Res (Nat × Bool × P) := fill (grow p)

theorem grow_rd (p : P) : (grow p).rd = p.rd := by
  fun_cases grow p <;> rfl

theorem read_weight (r : Reader) (room : Nat) (hroom : 0 < room) :
    (r.read room).2.2.weight + (r.read room).1.length ≤ r.weight ∧
    (((r.read room).1.length = 0 ∧ (r.read room).2.1 = true) ∨ (r.read room).2.2.weight < r.weight) := by
  unfold Reader.read
  cases hc : r.chunks with
  | nil => simp [Reader.weight, hc]
  | cons c cs =>
    simp only [Reader.weight, hc, List.map_cons, List.sum_cons, List.length_take]
    split
    · constructor
      · omega
      · right; omega
    · rename_i hk
      simp only [List.map_cons, List.sum_cons, List.length_drop]
      constructor
      · omega
      · right; omega

theorem grow_buf_le (p : P) : (grow p).buf.length ≤ p.buf.length := by
  fun_cases grow p <;> simp

theorem readMore_weight {p : P} {n : Nat} {e : Bool} {p' : P} (h : readMore p = .ok (n, e, p')) :
    p'.weight ≤ p.weight ∧ ((n = 0 ∧ e = true) ∨ p'.rd.weight < p.rd.weight) := by
  unfold readMore fill at h
  split at h
  · cases h
  · rename_i hsp
    simp only [Res.ok.injEq, Prod.mk.injEq] at h
    obtain ⟨hn, he, hp⟩ := h
    subst hp hn he
    simp only [P.weight, List.length_append]
    have hb := grow_buf_le p
    rw [← grow_rd p]
    have := read_weight (grow p).rd (grow p).spare (by omega)
    constructor
    · omega
    · exact this.2

/-- the loop of `findIndexAfterOffset` for an offset that is not negative -/
def findIdx (offset : Nat) (delim : Bytes) (p : P) : Res (Nat × P) :=
  if offset > p.buf.length then
    match h : readMore p with
    | .ok (n, e, p') =>
      if hne : n = 0 ∧ e = true then .err p.rd.endErr else findIdx offset delim p'
    | .err x => .err x
    | .fault w => .fault w
  else
    match indexOf delim (p.buf.drop offset) with         -- bytes.Index(p.buffer[offset:], delim)
    | some i => .ok (i + offset, p)
    | none =>
      match h : readMore p with
      | .ok (n, e, p') =>
        if hne : n = 0 ∧ e = true then .err p.rd.endErr else findIdx offset delim p'
      | .err x => .err x
      | .fault w => .fault w
termination_by p.rd.weight
decreasing_by
  all_goals
    rcases (readMore_weight h).2 with h1 | h1
    · exact absurd h1 hne
    · exact h1

/-- parser.go `findIndexAfterOffset`: a negative offset passes the `offset > len` test and panics in `p.buffer[offset:]` -/
def findIndexAfterOffset (offset : Int) (delim : Bytes) (p : P) : Res (Nat × P) :=
  if offset < 0 then .fault "slice bounds out of range" else findIdx offset.toNat delim p

/-- parser.go `findStart` -/
def findStart (p : P) : Res (Nat × P) := findIndexAfterOffset 0 dBegin p

/-- parser.go `findEndAfterOffset` -/
def findEndAfterOffset (offset : Int) (p : P) : Res (Nat × P) :=
  match findIndexAfterOffset offset dCk p with
  | .ok (index, p1) =>
    match findIndexAfterOffset ((index : Int) + 1) dSOH p1 with
    | .ok (index2, p2) => .ok (index2 + 1, p2)
    | .err x => .err x
    | .fault w => .fault w
  | .err x => .err x
  | .fault w => .fault w

/-- parser.go `jumpLength`; `guarded = true` is the code after the `fix:` commit (a BodyLength whose end offset
    overflows `int` is an invalid length), `guarded = false` the original arithmetic. -/
def jumpLengthG (guarded : Bool) (p : P) : Res (Int × P) :=
  match findIndexAfterOffset 0 dLen p with
  | .ok (li, p1) =>
    let lengthIndex := li + 3
    match findIndexAfterOffset lengthIndex dSOH p1 with
    | .ok (offset, p2) =>
      if offset = lengthIndex then .err "No length given"
      else if ¬ (lengthIndex ≤ offset ∧ offset ≤ p2.buf.length) then .fault "slice bounds out of range"
      else
        match atoi ((p2.buf.take offset).drop lengthIndex) with    -- atoi(p.buffer[lengthIndex:offset])
        | .ok length =>
          if length ≤ 0 then .err "Invalid length"
          else if guarded && decide (wrap64 ((offset : Int) + length) < (offset : Int)) then .err "Invalid length"
          else .ok (wrap64 ((offset : Int) + length), p2)
        | .err x => .err x
        | .fault w => .fault w
    | .err x => .err x
    | .fault w => .fault w
  | .err x => .err x
  | .fault w => .fault w

/-- parser.go `ReadMessage` -/
def readMessageG (guarded : Bool) (p : P) : Res (Bytes × P) :=
  match findStart p with
  | .ok (start, p1) =>
    if start > p1.buf.length then .fault "slice bounds out of range"      -- p.buffer = p.buffer[start:]
    else
      let p2 : P := { p1 with buf := p1.buf.drop start }
      match jumpLengthG guarded p2 with
      | .ok (index, p3) =>
        match findEndAfterOffset index p3 with
        | .ok (index, p4) =>
          if index > p4.buf.length then .fault "slice bounds out of range"  -- p.buffer[:index], p.buffer[index:]
          else .ok (p4.buf.take index, { p4 with buf := p4.buf.drop index })
        | .err x => .err x
        | .fault w => .fault w
      | .err x => .err x
      | .fault w => .fault w
  | .err x => .err x
  | .fault w => .fault w

def jumpLength := jumpLengthG true
def readMessage := readMessageG true
/-- the tree before the `fix:` commit -/
def jumpLengthOrig := jumpLengthG false
def readMessageOrig := readMessageG false

/-- how a stream ends for `readLoop`: the first error of `ReadMessage` (or a panic) -/
inductive End where
  | err (c : String)
  | fault (w : String)
  deriving Repr, DecidableEq

structure Out where
  frames : List Bytes
  end_ : End
  deriving Repr, DecidableEq

/-! ### `readLoop` terminates: a successful `ReadMessage` shortens buffered + unread bytes -/

theorem findIdx_weight (offset : Nat) (delim : Bytes) (p : P) {i : Nat} {p' : P}
    (h : findIdx offset delim p = .ok (i, p')) : p'.weight ≤ p.weight := by
  -- case2, case7: the recursive calls; case5: found in the buffer
  fun_induction findIdx offset delim p with
  | case2 p hgt n e p1 hrm hne ih | case7 p hle hidx n e p1 hrm hne ih => exact Nat.le_trans (ih h) (readMore_weight hrm).1
  | case5 p hle j hidx => simp only [Res.ok.injEq, Prod.mk.injEq] at h; rw [← h.2]; exact Nat.le_refl _
  | _ => cases h

theorem findIndexAfterOffset_weight {offset : Int} {delim : Bytes} {p : P} {i : Nat} {p' : P}
    (h : findIndexAfterOffset offset delim p = .ok (i, p')) : p'.weight ≤ p.weight := by
  unfold findIndexAfterOffset at h
  split at h
  · cases h
  · exact findIdx_weight _ _ _ h

theorem findEndAfterOffset_weight {offset : Int} {p : P} {i : Nat} {p' : P}
    (h : findEndAfterOffset offset p = .ok (i, p')) : p'.weight ≤ p.weight ∧ 1 ≤ i := by
  revert h
  -- case1: the one `.ok` leaf
  fun_cases findEndAfterOffset offset p with
  | case1 index p1 h1 index2 p2 h2 =>
    intro h
    cases h
    exact ⟨Nat.le_trans (findIndexAfterOffset_weight h2) (findIndexAfterOffset_weight h1), by omega⟩
  | _ => nofun

theorem jumpLengthG_weight {g : Bool} {p : P} {i : Int} {p' : P}
    (h : jumpLengthG g p = .ok (i, p')) : p'.weight ≤ p.weight := by
  revert h
  -- the one `.ok` leaf returns the state left by the two searches
  fun_cases jumpLengthG g p with
  | case5 li p1 h1 _ off p2 h2 =>
    intro h
    cases h
    exact Nat.le_trans (findIndexAfterOffset_weight h2) (findIndexAfterOffset_weight h1)
  | _ => nofun

theorem readMessageG_weight {g : Bool} {p : P} {m : Bytes} {p' : P}
    (h : readMessageG g p = .ok (m, p')) : p'.weight < p.weight := by
  revert h
  -- case3: the one `.ok` leaf
  fun_cases readMessageG g p with
  | case3 start p1 h1 hst p2 be p3 h3 index p4 h4 hidx =>
    intro h
    cases h
    have w1 := findIndexAfterOffset_weight h1
    have w3 := jumpLengthG_weight h3
    have w4 := findEndAfterOffset_weight h4
    simp only [p2, P.weight, List.length_drop] at w1 w3 w4 ⊢
    omega
  | _ => nofun

/-- connection.go `readLoop` over the parser: frames delivered until the first error -/
def runG (guarded : Bool) (p : P) : Out :=
  match h : readMessageG guarded p with
  | .ok (m, p') => let o := runG guarded p'; { o with frames := m :: o.frames }
  | .err c => { frames := [], end_ := .err c }
  | .fault w => { frames := [], end_ := .fault w }
termination_by p.weight
decreasing_by exact readMessageG_weight h

/-- the frames (and the terminal error) the parser extracts from a reader -/
def framesReadG (guarded : Bool) (rd : Reader) : Out := runG guarded (P.init rd)
def framesRead := framesReadG true

/-- … from a reader that serves `cs` and ends with io.EOF -/
def framesChunkedG (guarded : Bool) (eofd : Bool) (cs : List Bytes) : Out :=
  framesReadG guarded { chunks := cs, eofd := eofd }

def framesChunked := framesChunkedG true
def framesChunkedOrig := framesChunkedG false

end Qfx.Framer
