/-
  Qfx.Model.FramerMem — the three buffer primitives of parser.go at the level of the backing array:
  `bigBuffer` is a byte array WITH its stale contents, `buffer` is the window [lo, lo+len) of it
  (cap(buffer) = len(bigBuffer) − lo).  `Qfx/Lemmas/FramerMem.lean` proves that `Qfx.Framer.grow`, `fill` and the
  re-slicings `buffer[k:]` of `Qfx.Model.Framer` are exactly the images of these under `M.toP`
  (contents of the window, spare capacity, length of bigBuffer): shifting to the front, reallocating and reading
  into `buffer[len:cap]` never disturb the bytes of the window.
-/
import Qfx.Model.Framer
namespace Qfx.Framer

structure M where
  mem : Bytes      -- p.bigBuffer, stale bytes included
  lo : Nat         -- where p.buffer starts in p.bigBuffer
  len : Nat        -- len(p.buffer)
  rd : Reader

/-- contents of `p.buffer` -/
def M.window (m : M) : Bytes := (m.mem.drop m.lo).take m.len

def M.toP (m : M) : P :=
  { big := m.mem.length, buf := m.window, spare := m.mem.length - m.lo - m.len, rd := m.rd }

/-- first half of `readMore` on the array: `copy(newBuffer, p.buffer)` is a memmove to index 0 -/
def growM (m : M) : M :=
  if m.mem.length - m.lo - m.len = 0 then
    if m.mem.length = 0 then { m with mem := List.replicate defaultBufSize 0, lo := 0, len := 0 }
    else if 2 * m.len ≤ m.mem.length then { m with mem := m.window ++ m.mem.drop m.len, lo := 0 }
    else { m with mem := m.window ++ List.replicate m.len 0, lo := 0 }
  else m

/-- second half of `readMore`: the reader writes `bs` at bigBuffer[lo+len …], then `buffer = buffer[:len+n]` -/
def fillM (m : M) : Res (Nat × Bool × M) :=
  let room := m.mem.length - m.lo - m.len
  if room = 0 then .fault "zero-length read: no progress"
  else
    let r := m.rd.read room
    .ok (r.1.length, r.2.1,
      { m with mem := m.mem.take (m.lo + m.len) ++ r.1 ++ m.mem.drop (m.lo + m.len + r.1.length),
               len := m.len + r.1.length, rd := r.2.2 })

/-- `p.buffer = p.buffer[k:]` -/
def sliceM (k : Nat) (m : M) : M := { m with lo := m.lo + k, len := m.len - k }

end Qfx.Framer

namespace Qfx.Framer

/-! ## the whole parser on the backing array (same control flow as Qfx.Model.Framer, `m.window` for `p.buffer`) -/

def M.init (rd : Reader) : M := { mem := [], lo := 0, len := 0, rd := rd }

def readMoreM (m : M) : Res (Nat × Bool × M) := fillM (growM m)

theorem growM_rd (m : M) : (growM m).rd = m.rd := by
  fun_cases growM m <;> rfl

theorem readMoreM_weight {m : M} {n : Nat} {e : Bool} {m' : M} (h : readMoreM m = .ok (n, e, m')) :
    (n = 0 ∧ e = true) ∨ m'.rd.weight < m.rd.weight := by
  unfold readMoreM fillM at h
  simp only at h
  split at h
  · cases h
  · rename_i hroom
    simp only [Res.ok.injEq, Prod.mk.injEq] at h
    obtain ⟨hn, he, hm⟩ := h
    subst hm hn he
    simp only
    rw [← growM_rd m]
    exact (read_weight (growM m).rd _ (by omega)).2

def findIdxM (offset : Nat) (delim : Bytes) (m : M) : Res (Nat × M) :=
  if offset > m.len then
    match h : readMoreM m with
    | .ok (n, e, m') =>
      if hne : n = 0 ∧ e = true then .err m.rd.endErr else findIdxM offset delim m'
    | .err x => .err x
    | .fault w => .fault w
  else
    match indexOf delim (m.window.drop offset) with
    | some i => .ok (i + offset, m)
    | none =>
      match h : readMoreM m with
      | .ok (n, e, m') =>
        if hne : n = 0 ∧ e = true then .err m.rd.endErr else findIdxM offset delim m'
      | .err x => .err x
      | .fault w => .fault w
termination_by m.rd.weight
decreasing_by
  all_goals
    rcases readMoreM_weight h with h1 | h1
    · exact absurd h1 hne
    · exact h1

def findIndexAfterOffsetM (offset : Int) (delim : Bytes) (m : M) : Res (Nat × M) :=
  if offset < 0 then .fault "slice bounds out of range" else findIdxM offset.toNat delim m

def findEndAfterOffsetM (offset : Int) (m : M) : Res (Nat × M) :=
  match findIndexAfterOffsetM offset dCk m with
  | .ok (index, m1) =>
    match findIndexAfterOffsetM ((index : Int) + 1) dSOH m1 with
    | .ok (index2, m2) => .ok (index2 + 1, m2)
    | .err x => .err x
    | .fault w => .fault w
  | .err x => .err x
  | .fault w => .fault w

def jumpLengthGM (guarded : Bool) (m : M) : Res (Int × M) :=
  match findIndexAfterOffsetM 0 dLen m with
  | .ok (li, m1) =>
    let lengthIndex := li + 3
    match findIndexAfterOffsetM lengthIndex dSOH m1 with
    | .ok (offset, m2) =>
      if offset = lengthIndex then .err "No length given"
      else if ¬ (lengthIndex ≤ offset ∧ offset ≤ m2.len) then .fault "slice bounds out of range"
      else
        match atoi ((m2.window.take offset).drop lengthIndex) with
        | .ok length =>
          if length ≤ 0 then .err "Invalid length"
          else if guarded && decide (wrap64 ((offset : Int) + length) < (offset : Int)) then .err "Invalid length"
          else .ok (wrap64 ((offset : Int) + length), m2)
        | .err x => .err x
        | .fault w => .fault w
    | .err x => .err x
    | .fault w => .fault w
  | .err x => .err x
  | .fault w => .fault w

def readMessageGM (guarded : Bool) (m : M) : Res (Bytes × M) :=
  match findIndexAfterOffsetM 0 dBegin m with
  | .ok (start, m1) =>
    if start > m1.len then .fault "slice bounds out of range"
    else
      let m2 := sliceM start m1
      match jumpLengthGM guarded m2 with
      | .ok (index, m3) =>
        match findEndAfterOffsetM index m3 with
        | .ok (index, m4) =>
          if index > m4.len then .fault "slice bounds out of range"
          else .ok (m4.window.take index, sliceM index m4)     -- the frame is COPIED out (bytes.Buffer.Write)
        | .err x => .err x
        | .fault w => .fault w
      | .err x => .err x
      | .fault w => .fault w
  | .err x => .err x
  | .fault w => .fault w

def M.weight (m : M) : Nat := m.len + m.rd.weight

/-- `readLoop` on the array-level parser.  The `no progress` guard only makes the definition total without repeating the
    weight lemmas; `runGM_eq` (Lemmas/FramerMem) shows it never fires. -/
def runGM (guarded : Bool) (m : M) : Out :=
  match readMessageGM guarded m with
  | .ok (fr, m') =>
    if m'.weight < m.weight then let o := runGM guarded m'; { o with frames := fr :: o.frames }
    else { frames := [], end_ := .fault "no progress" }
  | .err c => { frames := [], end_ := .err c }
  | .fault w => { frames := [], end_ := .fault w }
termination_by m.weight

def framesReadM (rd : Reader) : Out := runGM true (M.init rd)

end Qfx.Framer
