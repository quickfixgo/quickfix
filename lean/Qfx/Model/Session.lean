/-
  Qfx.Model.Session — the session state machine of quickfix, function by function:
  session.go, session_state.go (incl. CheckResetTime / ResetSeqTime), in_session.go, resend_state.go, logon_state.go, logout_state.go,
  pending_timeout.go, latent_state.go, not_session_time.go, memory_store.go (as the abstract store).

  EnableLastMsgSeqNumProcessed (header tag 369) is `OutMsg.last`, filled by `stamp` at the start of `prep`
  (fillDefaultHeader): the MsgSeqNum of the message replied to (`OutMsg.inReplyTo`), else NextTargetMsgSeqNum-1.
  Inbound messages are ordered (tag, value) lists (the harness builds the bytes from the same list);
  outbound messages are `OutMsg` (MsgType, MsgSeqNum, other observed fields).  Application callbacks are
  scripted by fields of the messages themselves (9001 inbound verdict, 9002 ToApp verdict, 9003 ToApp on
  resend).  The clock enters as relations only: `@n` time tokens are `now + n` seconds; the one absolute clock is the
  argument of `Ev.resetTime` (CheckResetTime), in seconds since a UTC midnight, chosen by the harness.
  Deliberately NOT tidied: the places where Go inspects `session.State` by type switch
  (`verifySelect`, `processReject`), `onDisconnect` draining the inbound channel through the old state, etc.
-/
import Qfx.Model.Values
import Qfx.Model.Validate
namespace Qfx.Sess
open Qfx

/-! ## configuration, messages -/

/-- the validator `sessionFactory.newSession` builds (session_factory.go l.96–180): the five `ValidatorSettings`
    (ValidateFieldsOutOfOrder, RejectInvalidMessage, AllowUnknownMessageFields, CheckUserDefinedFields,
    ValidateFieldsHaveValues) and the dictionaries — `app = none`: `NewValidator(settings, nil, nil)`, the default validator;
    `app = some d, tr = none`: setting `DataDictionary`; both: `TransportDataDictionary` + `AppDataDictionary` (FIXT.1.1).
    The same dictionaries guide the parser (`ParseMessageWithDataDictionary` in `stateMachine.Incoming`). -/
structure VCfg where
  app : Option Validate.VDict := none
  tr : Option Validate.VDict := none
  settings : Validate.Settings := Validate.defaultSettings

instance : Inhabited VCfg := ⟨{}⟩
instance : Repr VCfg := ⟨fun v _ =>
  Std.Format.text ("validator(" ++ (if v.app.isSome then "app" else "-") ++ "," ++ (if v.tr.isSome then "tr" else "-") ++ ",")
    ++ repr v.settings ++ Std.Format.text ")"⟩

structure Cfg where
  initiator : Bool := false
  bs : Nat := 2                 -- 0..4 = FIX.4.0..FIX.4.4, 5 = FIXT.1.1 (ordered as Go compares the strings)
  sender : String := "SND"
  target : String := "TGT"
  chunk : Nat := 0
  resetOnLogon : Bool := false
  resetOnLogout : Bool := false
  resetOnDisconnect : Bool := false
  refreshOnLogon : Bool := false
  persist : Bool := true
  skipLatency : Bool := false
  hb : Int := 30                -- configured HeartBtInt (seconds); acceptors without override start at 0
  hbOverride : Bool := false
  applVer : String := ""
  /-- after the `fix:` the type switches on session.State look through pendingTimeout -/
  lookThroughPending : Bool := true
  /-- ResetSeqTime: seconds of the (UTC) day at which the numbers are reset by a mid-connection Logon; `none` = not enabled -/
  resetSeqTime : Option Nat := none
  /-- EnableLastMsgSeqNumProcessed: every outbound header carries tag 369 -/
  lastSeqProcessed : Bool := false
  /-- the message validator (settings + data dictionaries) -/
  validator : VCfg := {}
  /-- EnableNextExpectedMsgSeqNum: the Logons we send carry tag 789, the peer's 789 is evaluated by `handleLogon` -/
  nextExpected : Bool := false
  deriving Repr, Inhabited

def bsName : Nat → String
  | 0 => "FIX.4.0" | 1 => "FIX.4.1" | 2 => "FIX.4.2" | 3 => "FIX.4.3" | 4 => "FIX.4.4" | _ => "FIXT.1.1"

abbrev Fields := List (Nat × String)

def Fields.get? (f : Fields) (t : Nat) : Option String := (f.find? (·.1 == t)).map (·.2)
def Fields.has (f : Fields) (t : Nat) : Bool := f.any (·.1 == t)
def Fields.set (f : Fields) (t : Nat) (v : String) : Fields :=
  if f.has t then f.map (fun p => if p.1 == t then (t, v) else p) else f ++ [(t, v)]

/-- inbound message: wire-ordered fields without 9 and 10 -/
structure InMsg where
  f : Fields
  deriving Repr, Inhabited, BEq

structure OutMsg where
  kind : String          -- 35
  seq : Int              -- 34
  f : Fields             -- further fields
  /-- header tag 369 (LastMsgSeqNumProcessed), set by `fillDefaultHeader` when the option is on -/
  last : Option Int := none
  /-- the message is built in reply to an inbound message (`inReplyTo ≠ nil`); `last` then holds that message's
      MsgSeqNum when it is readable -/
  re : Bool := false
  deriving Repr, Inhabited, BEq, DecidableEq

def isAdminKind (k : String) : Bool :=
  k == "0" || k == "A" || k == "1" || k == "2" || k == "3" || k == "4" || k == "5"

/-! ## field readers (FieldMap.GetField / GetInt / GetTime outcomes) -/

inductive Got (α : Type) | missing | garbled | val (a : α)
  deriving Repr, Inhabited

def strBytes (s : String) : Bytes := s.toList.map Char.toNat

def getInt (m : InMsg) (t : Nat) : Got Int :=
  match m.f.get? t with
  | none => .missing
  | some v => match readInt (strBytes v) with
    | .ok i => .val i
    | _ => .garbled

def getBool (m : InMsg) (t : Nat) : Got Bool :=
  match m.f.get? t with
  | none => .missing
  | some v => match readBool (strBytes v) with
    | .ok b => .val b
    | _ => .garbled

/-- time tokens: `@n` = now + n seconds (a valid UTCTimestamp on the wire); anything else is not a timestamp -/
def getTime (m : InMsg) (t : Nat) : Got Int :=
  match m.f.get? t with
  | none => .missing
  | some v => match v.toList with
    | '@' :: r => match (String.ofList r).toInt? with
      | some i => .val i
      | none => .garbled
    | _ => .garbled

def kindOf (m : InMsg) : String := (m.f.get? 35).getD ""

/-- `…InReplyTo(msg, inReplyTo)` with `inReplyTo ≠ nil`: remember the MsgSeqNum of the message replied to (GetInt; an
    unreadable number leaves the tag out) -/
def OutMsg.inReplyTo (o : OutMsg) (m : InMsg) : OutMsg :=
  { o with re := true, last := match getInt m 34 with | .val n => some n | _ => none }

/-! ## rejects -/

inductive Rej
  | tooHigh (recv exp : Int)
  | tooLow (recv exp : Int)
  | badBeginString
  | plain (reason : Nat) (refTag : Option Nat) (business : Bool)
  | rejectLogon
  deriving Repr, Inhabited

def reqMissing (t : Nat) : Rej := .plain 1 (some t) false
def noValue (t : Nat) : Rej := .plain 4 (some t) false
def badFormat (t : Nat) : Rej := .plain 6 (some t) false
/-- FieldMap.GetField on an absent tag: ConditionallyRequiredFieldMissing (a business reject, reason 8... encoded as 8) -/
def condMissing (t : Nat) : Rej := .plain 8 (some t) true

/-! ## state -/

inductive SState
  | latent | notSessionTime | logon | logout | inSession
  | resend (stash : List (Int × InMsg)) (cur fin : Int)
  | pendingIn
  | pendingResend (stash : List (Int × InMsg)) (cur fin : Int)
  deriving Repr, Inhabited

def SState.loggedOn : SState → Bool
  | .inSession | .resend .. | .pendingIn | .pendingResend .. => true
  | _ => false
def SState.connected : SState → Bool
  | .latent | .notSessionTime => false
  | _ => true
def SState.sessionTime : SState → Bool
  | .notSessionTime => false
  | _ => true
def SState.name : SState → String
  | .latent => "Latent" | .notSessionTime => "NotSessionTime" | .logon => "Logon" | .logout => "Logout"
  | .inSession => "InSession" | .resend .. => "Resend" | .pendingIn => "Pending:InSession" | .pendingResend .. => "Pending:Resend"

structure Store where
  sender : Int := 1
  target : Int := 1
  msgs : List (Int × OutMsg) := []     -- association list, latest binding first
  epoch : Nat := 0
  deriving Repr, Inhabited

def Store.reset (st : Store) : Store := { sender := 1, target := 1, msgs := [], epoch := st.epoch + 1 }
def Store.lookup (st : Store) (n : Int) : Option OutMsg := (st.msgs.find? (·.1 == n)).map (·.2)

inductive Obs
  | wire (m : OutMsg)                 -- written to the connection (followed by re-arming the heartbeat timer)
  | fromApp (seq : String) (targetAtCall : Int)
  | fromAdmin (kind : String) (seq : String)
  | onLogon | onLogout
  | armPeer (ms : Int)
  | closed
  -- mutations of the message store, in their order relative to everything else
  | reset | saved (seq : Int) (kind : String) (resendable : Bool) | incS | incT | setT (n : Int) | refresh
  deriving Repr, Inhabited, DecidableEq, BEq

structure Sess where
  cfg : Cfg
  st : SState := .latent
  store : Store := {}
  toSend : List OutMsg := []
  out : Bool := false              -- messageOut ≠ nil
  inboxOpen : Bool := false        -- messageIn ≠ nil
  inbox : List InMsg := []         -- buffered, not yet processed (none = garbage marker handled by the driver)
  sentReset : Bool := false
  pendingStop : Bool := false
  stopped : Bool := false
  hb : Int := 0
  log : List Obs := []             -- observations of the current event, newest first
  /-- lastCheckedResetSeqTime (seconds on the harness clock); `none` = the zero time.Time -/
  lastCheckedReset : Option Int := none
  /-- tag 369 of the gap fills answering the ResendRequest being processed (generateSequenceReset's `inReplyTo`) -/
  replyLast : Option Int := none
  deriving Inhabited

def Sess.emit (s : Sess) (o : Obs) : Sess := { s with log := o :: s.log }

/-! named field updates (keeps unfolded terms small in proofs) -/
def Sess.setToSend (s : Sess) (q : List OutMsg) : Sess := { s with toSend := q }
def Sess.setSt (s : Sess) (st : SState) : Sess := { s with st := st }
def Sess.setOut (s : Sess) (b : Bool) : Sess := { s with out := b }
def Sess.setInbox (s : Sess) (ib : List InMsg) : Sess := { s with inbox := ib }
def Sess.closeInbox (s : Sess) : Sess := { s with inboxOpen := false, inbox := [] }
def Sess.setSentReset (s : Sess) (b : Bool) : Sess := { s with sentReset := b }
def Sess.setPendingStop (s : Sess) : Sess := { s with pendingStop := true }
def Sess.setStopped (s : Sess) : Sess := { s with stopped := true }
def Sess.setHb (s : Sess) (h : Int) : Sess := { s with hb := h }
def Sess.setTarget (s : Sess) (n : Int) : Sess := { s with store := { s.store with target := n } }
def Sess.clearLog (s : Sess) : Sess := { s with log := [] }
def Sess.setLastChecked (s : Sess) (now : Int) : Sess := { s with lastCheckedReset := some now }
def Sess.setReplyLast (s : Sess) (v : Option Int) : Sess := { s with replyLast := v }
def Sess.openConn (s : Sess) : Sess := { s with out := true, inboxOpen := true, inbox := [], sentReset := false }

/-- store mutations are observed (the harness wraps the real store) -/
def Sess.storeReset (s : Sess) : Sess := { s with store := s.store.reset }.emit .reset

def resendable (m : OutMsg) : Bool := m.f.get? 9003 != some "n"

def Sess.persistOut (s : Sess) (seq : Int) (m : OutMsg) : Sess :=
  if s.cfg.persist then
    { s with store := { s.store with msgs := (seq, m) :: s.store.msgs, sender := s.store.sender + 1 } }.emit
      (.saved seq m.kind (resendable m))
  else { s with store := { s.store with sender := s.store.sender + 1 } }.emit .incS

/-! ## sending -/

/-- sendQueued: with a connection every queued message is written in order (each write re-arms the heartbeat
    timer); without one the queue is kept -/
def sendQueued (s : Sess) : Sess :=
  if s.out then { s with log := (s.toSend.map Obs.wire).reverse ++ s.log, toSend := [] } else s

/-- not logged on: `queueForSend(msg)` — the `inReplyTo` argument is dropped there (prepMessageForSend(msg, nil)) -/
def OutMsg.asNew (m : OutMsg) : OutMsg := { m with re := false }

/-- fillDefaultHeader's tag 369: off ⇒ absent; in reply to a message ⇒ that message's MsgSeqNum (already in `last`);
    otherwise the last inbound number consumed, `NextTargetMsgSeqNum() - 1`, read before anything else happens.
    The reply marker is consumed here: messages that have been through `prep` all have `re = false`. -/
def stamp (s : Sess) (m : OutMsg) : OutMsg :=
  { m with re := false,
           last := if s.cfg.lastSeqProcessed then (if m.re then m.last else some (s.store.target - 1)) else none }

@[simp] theorem asNew_kind (m : OutMsg) : m.asNew.kind = m.kind := rfl
@[simp] theorem asNew_f (m : OutMsg) : m.asNew.f = m.f := rfl
@[simp] theorem asNew_seq (m : OutMsg) : m.asNew.seq = m.seq := rfl
@[simp] theorem inReplyTo_kind (o : OutMsg) (m : InMsg) : (o.inReplyTo m).kind = o.kind := rfl
@[simp] theorem inReplyTo_f (o : OutMsg) (m : InMsg) : (o.inReplyTo m).f = o.f := rfl
@[simp] theorem inReplyTo_seq (o : OutMsg) (m : InMsg) : (o.inReplyTo m).seq = o.seq := rfl
@[simp] theorem stamp_kind (s : Sess) (m : OutMsg) : (stamp s m).kind = m.kind := rfl
@[simp] theorem stamp_f (s : Sess) (m : OutMsg) : (stamp s m).f = m.f := rfl
@[simp] theorem stamp_seq (s : Sess) (m : OutMsg) : (stamp s m).seq = m.seq := rfl
/-- tag 369 of a message sent in reply to `m`: `m`'s MsgSeqNum if readable (option on) -/
theorem stamp_last_reply (s : Sess) (o : OutMsg) (m : InMsg) :
    (stamp s (o.inReplyTo m)).last =
      if s.cfg.lastSeqProcessed then (match getInt m 34 with | .val n => some n | _ => none) else none := rfl
/-- tag 369 of a message not sent in reply to anything: the last inbound number consumed (option on) -/
theorem stamp_last_new (s : Sess) (o : OutMsg) (h : o.re = false) :
    (stamp s o).last = if s.cfg.lastSeqProcessed then some (s.store.target - 1) else none := by
  unfold stamp; simp [h]
theorem stamp_congr (s s' : Sess) (m : OutMsg) (h1 : s'.cfg = s.cfg) (h2 : s'.store.target = s.store.target) :
    stamp s' m = stamp s m := by unfold stamp; rw [h1, h2]
/-- option off: the header is the one the message was built with (no tag 369) -/
theorem stamp_off (s : Sess) (m : OutMsg) (h : s.cfg.lastSeqProcessed = false) (hl : m.last = none) (hr : m.re = false) :
    stamp s m = m := by
  unfold stamp; simp only [h, Bool.false_eq_true, if_false]; cases m; simp_all

/-- prepMessageForSend after fillDefaultHeader: number, callbacks, Logon-reset, persist.  `none` = the application refused (ToApp error) -/
def prepCore (s : Sess) (m : OutMsg) : Option OutMsg × Sess :=
  let seq := s.store.sender
  if isAdminKind m.kind then
    let (s, seq) :=
      if m.kind == "A" && m.f.get? 141 == some "Y" then
        let s := s.storeReset.setSentReset true
        (s, s.store.sender)
      else (s, seq)
    let m := { m with seq := seq }
    (some m, s.persistOut seq m)
  else
    if m.f.get? 9002 == some "dns" then (none, s)
    else
      let m := { m with seq := seq }
      (some m, s.persistOut seq m)

/-- prepMessageForSend -/
def prep (s : Sess) (m : OutMsg) : Option OutMsg × Sess := prepCore s (stamp s m)

def queueForSend (s : Sess) (m : OutMsg) : Sess :=
  match prep s m with
  | (none, s) => s
  | (some m, s) => s.setToSend (s.toSend ++ [m])

def sendInReplyTo (s : Sess) (m : OutMsg) : Sess :=
  if !s.st.loggedOn then queueForSend s m.asNew
  else match prep s m with
    | (none, s) => s
    | (some m, s) => sendQueued (s.setToSend (s.toSend ++ [m]))

def dropAndSend (s : Sess) (m : OutMsg) : Sess :=
  match prep s m with
  | (none, s) => s
  | (some m, s) => sendQueued (s.setToSend [m])

/-- EnqueueBytesAndSend (after `fix:` 7049454: not logged on ⇒ the queued first-time messages are dropped first) -/
def enqueueAndSend (s : Sess) (m : OutMsg) : Sess :=
  let s := if !s.st.loggedOn then s.setToSend [] else s
  sendQueued (s.setToSend (s.toSend ++ [m]))

def dropAndReset (s : Sess) : Sess := (s.setToSend []).storeReset

def mkOut (kind : String) (f : Fields) : OutMsg := { kind := kind, seq := 0, f := f }

/-- tag 789 (NextExpectedMsgSeqNum) of an inbound Logon as `Body.GetInt` reads it (absent and unreadable are alike to the code) -/
def peerNext (m : InMsg) : Option Int := match getInt m 789 with | .val n => some n | _ => none

def nxTag : Option Int → Fields
  | some n => [(789, toString n)]
  | none => []

/-- the Logon of `sendLogonInReplyTo` with `nx` in tag 789 -/
def logonMsgX (s : Sess) (reset : Bool) (nx : Option Int) : OutMsg :=
  mkOut "A" ([(108, toString s.hb)] ++ (if reset then [(141, "Y")] else [])
             ++ (if s.cfg.applVer.isEmpty then [] else [(1137, s.cfg.applVer)]) ++ nxTag nx)

/-- tag 789 of a Logon sent on our own account (`inReplyTo = nil`: connect, ResetSeqTime): `NextTargetMsgSeqNum() + 1`, read
    before `prepMessageForSend` resets the store for a Logon carrying 141=Y (session.go l.203–205; the code as it is — see
    notes/proofs_b_nx.md, observation 1) -/
def nxOwn (s : Sess) : Option Int := if s.cfg.nextExpected then some (s.store.target + 1) else none

/-- tag 789 of the acceptor's reply: only when the Logon answered carries a readable 789; `NextTargetMsgSeqNum() + 1` —
    the number expected once the Logon being answered is counted -/
def nxReply (s : Sess) (m : InMsg) : Option Int :=
  if s.cfg.nextExpected && (peerNext m).isSome then some (s.store.target + 1) else none

def logonMsg (s : Sess) (reset : Bool) : OutMsg := logonMsgX s reset (nxOwn s)

/-- the Logon answering `m` -/
def logonMsgRe (s : Sess) (reset : Bool) (m : InMsg) : OutMsg := logonMsgX s reset (nxReply s m)

def sendLogonInReplyTo (s : Sess) (reset : Bool) : Sess := dropAndSend s (logonMsg s reset)

/-- sendLogonInReplyTo(reset, msg) with `msg ≠ nil`: the acceptor's answer to a Logon -/
def sendLogonRe (s : Sess) (reset : Bool) (m : InMsg) : Sess := dropAndSend s ((logonMsgRe s reset m).inReplyTo m)

/-- the peer's tag 789 is above `n` (EnableNextExpectedMsgSeqNum on, 789 readable) -/
def nxAbove (cfg : Cfg) (m : InMsg) (n : Int) : Bool :=
  cfg.nextExpected && (match peerNext m with | some x => decide (x > n) | none => false)

/-- `sendLogonInReplyTo(_, msg)` refuses (RejectLogon) when the peer's 789 is above our next outbound number:
    "we can't resend what we never sent" -/
def nxRefuses (s : Sess) (m : InMsg) : Bool := nxAbove s.cfg m s.store.sender

def shouldSendReset (s : Sess) : Bool :=
  if s.cfg.bs < 1 then false
  else (s.cfg.resetOnLogon || s.cfg.resetOnDisconnect || s.cfg.resetOnLogout) && s.store.target == 1 && s.store.sender == 1

def sendLogout (s : Sess) : Sess := sendInReplyTo s (mkOut "5" [])

/-- initiateLogout: Logout + (a LogoutTimeout timer the harness injects itself) -/
def initiateLogout (s : Sess) : Sess := sendLogout s

def infinityEnd (cfg : Cfg) : Int := if cfg.bs < 2 then 999999 else 0

/-- sendResendRequest(beginSeq, endSeq): returns (currentResendRangeEnd, resendRangeEnd) -/
def sendResendRequest (s : Sess) (b e : Int) : Sess × Int × Int :=
  let endSeqNo := if s.cfg.chunk != 0 then b + s.cfg.chunk - 1 else e
  let (cur, endSeqNo) := if endSeqNo < e then (endSeqNo, endSeqNo) else (0, infinityEnd s.cfg)
  (sendInReplyTo s (mkOut "2" [(7, toString b), (16, toString endSeqNo)]), cur, e)

/-! ## reverse routing and Reject construction (message.go reverseRoute, session.go doReject) -/

def reverseRoute (m : InMsg) : Fields :=
  let cp (src dst : Nat) : Fields :=
    match m.f.get? src with
    | some v => if v.isEmpty then [] else [(dst, v)]
    | none => []
  cp 49 56 ++ cp 50 57 ++ cp 142 143 ++ cp 56 49 ++ cp 57 50 ++ cp 143 142
  ++ cp 115 128 ++ cp 116 129 ++ cp 128 115 ++ cp 129 116
  ++ (match m.f.get? 8 with
      | some b => if b != "FIX.4.0" then cp 144 145 ++ cp 145 144 else []
      | none => [])

/-- the fields of the Reject other than routing; 49/56 are overwritten by fillDefaultHeader -/
def rejectMsg (cfg : Cfg) (m : InMsg) (reason : Nat) (refTag : Option Nat) (business : Bool) : OutMsg :=
  let routing := (reverseRoute m).filter (fun p => p.1 != 49 && p.1 != 56)
  let refSeq : Fields := match getInt m 34 with
    | .val i => [(45, toString i)]
    | _ => []
  if cfg.bs ≥ 2 then
    let refType : Fields := [(372, kindOf m)]
    if business then
      mkOut "j" (routing ++ [(380, toString reason)] ++ refType ++ refSeq)
    else
      let rs : Fields := if reason > 11 && cfg.bs == 2 then [] else [(373, toString reason)]
      let rt : Fields := match refTag with | some t => [(371, toString t)] | none => []
      mkOut "3" (routing ++ rs ++ rt ++ refType ++ refSeq)
  else
    mkOut "3" (routing ++ refSeq)

def doReject (s : Sess) (m : InMsg) (reason : Nat) (refTag : Option Nat) (business : Bool) : Sess :=
  sendInReplyTo s ((rejectMsg s.cfg m reason refTag business).inReplyTo m)

/-! ## verification (session.go verifySelect and the checks) -/

/-- is the *current* state literally a resendState (what the Go type switches see)?  With
    `lookThroughPending` a pendingTimeout wrapping a resendState counts too. -/
def curResend (s : Sess) : Option (List (Int × InMsg) × Int × Int) :=
  match s.st with
  | .resend st c f => some (st, c, f)
  | .pendingResend st c f => if s.cfg.lookThroughPending then some (st, c, f) else none
  | _ => none

def checkBeginString (s : Sess) (m : InMsg) : Option Rej :=
  match m.f.get? 8 with
  | none => some (reqMissing 8)
  | some b => if b != bsName s.cfg.bs then some .badBeginString else none

def checkCompID (s : Sess) (m : InMsg) : Option Rej :=
  match m.f.get? 49, m.f.get? 56 with
  | none, _ => some (reqMissing 49)
  | _, none => some (reqMissing 56)
  | some snd, some tgt =>
    if tgt.isEmpty then some (noValue 56)
    else if snd.isEmpty then some (noValue 49)
    else if s.cfg.sender != tgt || s.cfg.target != snd then some (.plain 9 none false)
    else none

def checkSendingTime (s : Sess) (m : InMsg) : Option Rej :=
  if s.cfg.skipLatency then none else
  match getTime m 52 with
  | .missing => some (reqMissing 52)
  | .garbled => some (badFormat 52)
  | .val d => if d ≤ -120 || d ≥ 120 then some (.plain 10 none false) else none

def checkTooLow (s : Sess) (m : InMsg) : Option Rej :=
  match getInt m 34 with
  | .missing => some (reqMissing 34)
  | .garbled => some (badFormat 34)
  | .val n => if n < s.store.target then some (.tooLow n s.store.target) else none

def checkTooHigh (s : Sess) (m : InMsg) : Option Rej :=
  match getInt m 34 with
  | .missing => some (reqMissing 34)
  | .garbled => some (badFormat 34)
  | .val n => if n > s.store.target then some (.tooHigh n s.store.target) else none

/-! ### message validation (validation.go through `Qfx.Validate`, the validator model of C15)

The validator reads a parsed `*Message`: `msg.fields` in wire order — which includes BodyLength (9) behind the first field
and CheckSum (10) at the end, both absent from `InMsg` — and the three field maps filled by the parser.  The dictionaries
of this family have no repeating groups, so the parser (`doParsing`) files every field by its tag class alone:
`isHeaderField` / `isTrailerField` (tag.go, or a member of the transport dictionary's header / trailer), body otherwise. -/

/-- a timestamp the harness could have written for an `@n` token (any in-grammar value behaves alike) -/
def tsOnWire : Bytes := [50, 48, 50, 52, 48, 51, 48, 52, 45, 48, 48, 58, 48, 48, 58, 48, 48, 46, 48, 48, 48]

/-- the bytes of a value on the wire: the harness replaces `@n` (n a decimal number) by the UTCTimestamp now+n -/
def wireValue (v : String) : Bytes :=
  match v.toList with
  | '@' :: r => if (String.ofList r).toInt?.isSome then tsOnWire else strBytes v
  | _ => strBytes v

def tvOf (p : Nat × String) : Validate.TV := { tag := p.1, value := wireValue p.2 }

/-- `msg.fields`: BodyLength is the second field of every message that parses, CheckSum the last (their values are in
    their types' grammars; the validator looks at nothing else) -/
def wireFields (m : InMsg) : List Validate.TV :=
  match m.f with
  | [] => [{ tag := 9, value := [48] }, { tag := 10, value := [48, 48, 48] }]
  | p :: r => tvOf p :: { tag := 9, value := [48] } :: (r.map tvOf ++ [{ tag := 10, value := [48, 48, 48] }])

/-- message.go isHeaderField(tag, transportDataDictionary) -/
def isHeaderField (tr : Option Validate.VDict) (t : Nat) : Bool :=
  Validate.isHeaderTag t ||
    (match tr with
     | some d => (match d.header with | some h => (h.field? t).isSome | none => false)
     | none => false)

/-- message.go isTrailerField(tag, transportDataDictionary) -/
def isTrailerField (tr : Option Validate.VDict) (t : Nat) : Bool :=
  Validate.isTrailerTag t ||
    (match tr with
     | some d => (match d.trailer with | some h => (h.field? t).isSome | none => false)
     | none => false)

/-- the parsed message the validator sees (`tr`: the session's transport dictionary, nil unless FIXT.1.1) -/
def toPMsg (tr : Option Validate.VDict) (m : InMsg) : Validate.PMsg :=
  let fs := wireFields m
  let tags := fs.map (·.tag)
  { fields := fs
    hdr := tags.filter (isHeaderField tr)
    body := tags.filter (fun t => !isHeaderField tr t && !isTrailerField tr t)
    trl := tags.filter (fun t => !isHeaderField tr t && isTrailerField tr t) }

/-- `s.Validator.Validate(msg)`: fixValidator with a nil dictionary (`validateFIX(nil, …)`: only `validateFieldContent`),
    fixValidator / fixtValidator with dictionaries (`Qfx.Validate.validate`) -/
def runValidator (v : VCfg) (m : InMsg) : Validate.V Unit :=
  let pm := toPMsg v.tr m
  match v.app with
  | none =>
    if !pm.hdr.contains 35 then Validate.rej 1 35
    else Validate.validateFieldContent pm v.settings.checkHaveValues v.settings.checkOrder
  | some app => Validate.validate app v.tr v.settings pm

/-- a MessageRejectError of the validator as the session sees it: a session-level reject (never a business reject);
    a panic of the validator (a dictionary type outside `validateField`'s switch, a dictionary without header or trailer —
    not produced by the configurations of this family) is kept apart as reason 99 -/
def rejOfV : Validate.V Unit → Option Rej
  | .ok _ => none
  | .error (.reject r) => some (.plain r.reason r.ref false)
  | .error _ => some (.plain 99 none false)

/-- the verdict of the configured validator on an inbound message -/
def validate (cfg : Cfg) (m : InMsg) : Option Rej := rejOfV (runValidator cfg.validator m)

/-- whatever the validator objects to reaches the session as a plain session-level reject (reason, RefTagID) -/
theorem validate_plain {cfg : Cfg} {m : InMsg} {r : Rej} (h : validate cfg m = some r) :
    ∃ reason t, r = .plain reason t false := by
  unfold validate rejOfV at h
  split at h
  · cases h
  · cases h; exact ⟨_, _, rfl⟩
  · cases h; exact ⟨_, _, rfl⟩

/-- the scripted application: verdict carried in tag 9001 of the inbound message -/
def callbackVerdict (m : InMsg) : Option Rej :=
  match m.f.get? 9001 with
  | some "rej" => some (.plain 5 (some 9001) false)
  | some "brej" => some (.plain 3 none true)
  | some "rlogon" => some .rejectLogon
  | _ => none

def seqText (m : InMsg) : String := (m.f.get? 34).getD "-"

/-- verifyMsgAgainstAppImpl: validator, then FromAdmin / FromApp (observed) -/
def verifyAppImpl (s : Sess) (m : InMsg) : Sess × Option Rej :=
  match validate s.cfg m with
  | some r => (s, some r)
  | none =>
    let k := kindOf m
    let s := if isAdminKind k then s.emit (.fromAdmin k (seqText m)) else s.emit (.fromApp (seqText m) s.store.target)
    (s, callbackVerdict m)

def verifySelect (s : Sess) (m : InMsg) (tooHigh tooLow appImpl : Bool) : Sess × Option Rej :=
  match checkBeginString s m with
  | some r => (s, some r)
  | none =>
  match checkCompID s m with
  | some r => (s, some r)
  | none =>
  match (if (curResend s).isSome then none else checkSendingTime s m) with
  | some r => (s, some r)
  | none =>
  match (if tooLow then checkTooLow s m else none) with
  | some r => (s, some r)
  | none =>
  match (if tooHigh then checkTooHigh s m else none) with
  | some r => (s, some r)
  | none => if appImpl then verifyAppImpl s m else (s, none)

/-! ## in-session handlers (in_session.go) -/

def incrTarget (s : Sess) : Sess := (s.setTarget (s.store.target + 1)).emit .incT

def stashInsert (st : List (Int × InMsg)) (n : Int) (m : InMsg) : List (Int × InMsg) :=
  (n, m) :: st.filter (·.1 != n)

def doTargetTooLow (s : Sess) (m : InMsg) : Sess × SState :=
  match getBool m 43 with
  | .garbled => (doReject s m 6 (some 43) false, .inSession)
  | pd =>
    let possDup := match pd with | .val b => b | _ => false
    if !possDup then (initiateLogout s, .logout)
    else match getTime m 122 with
      | .missing => (doReject s m 1 (some 122) false, .inSession)
      | .garbled => (doReject s m 6 (some 122) false, .inSession)
      | .val orig =>
        match getTime m 52 with
        | .missing => (incrTarget (doReject s m 8 (some 52) true), .inSession)      -- processReject default branch
        | .garbled => (incrTarget (doReject s m 6 (some 52) false), .inSession)
        | .val st => if st < orig then (initiateLogout (doReject s m 10 none false), .logout) else (s, .inSession)

def processReject (s : Sess) (m : InMsg) (r : Rej) : Sess × SState :=
  match r with
  | .tooHigh recv exp =>
    match curResend s with
    | some (st, c, f) => (s, .resend (stashInsert st recv m) c f)
    | none =>
      let (s, c, f) := sendResendRequest s exp (recv - 1)
      (s, .resend (stashInsert [] recv m) c f)
  | .tooLow _ _ => doTargetTooLow s m
  | .badBeginString => (initiateLogout s, .logout)
  | .rejectLogon => (incrTarget (doReject s m 0 none false), .inSession)
  | .plain reason refTag business =>
    if reason == 9 || reason == 10 then (initiateLogout (doReject s m reason refTag business), .logout)
    else (incrTarget (doReject s m reason refTag business), .inSession)

def gapFill (b e : Int) : OutMsg := { kind := "4", seq := b, f := [(36, toString e), (43, "Y"), (122, "+"), (123, "Y")] }

/-- generateSequenceReset(b, e, inReplyTo): the gap fill with the header of a reply to the ResendRequest being answered
    (tag 369 = its MsgSeqNum, kept in `replyLast` while the request is processed) -/
def gapFillR (s : Sess) (b e : Int) : OutMsg := { gapFill b e with last := s.replyLast }

/-- resendMessages over the stored range; `resent m` = original fields + PossDup + OrigSendingTime -/
def resent (m : OutMsg) : OutMsg := { m with f := (m.f.set 43 "Y").set 122 "+" }

def resendLoop (s : Sess) (seqNum nextSeqNum : Int) : List (Int × OutMsg) → Sess × Int × Int
  | [] => (s, seqNum, nextSeqNum)
  | (n, m) :: rest =>
    if isAdminKind m.kind then resendLoop s seqNum (n + 1) rest
    else if m.f.get? 9003 == some "n" then resendLoop s seqNum (n + 1) rest
    else
      let s := if seqNum != n then enqueueAndSend s (gapFillR s seqNum n) else s
      let s := enqueueAndSend s (resent m)
      resendLoop s (n + 1) (n + 1) rest

/-- IterateMessages(b, e) of the memory store: ascending over the integer range, existing numbers only -/
def Store.range (st : Store) (b e : Int) : List (Int × OutMsg) :=
  if e < b then [] else
  ((List.range (e - b + 1).toNat).filterMap fun (k : Nat) =>
    let n : Int := b + Int.ofNat k
    (st.lookup n).map fun m => (n, m))

def resendMessages (s : Sess) (b e : Int) : Sess :=
  if e < b then s            -- after `fix:` 0fb72e5: nothing for an empty or inverted range
  else if !s.cfg.persist then enqueueAndSend s (gapFillR s b (e + 1))
  else
    let (s, seqNum, next) := resendLoop s b b (s.store.range b e)
    if seqNum != next then enqueueAndSend s (gapFillR s seqNum next) else s

def handleLogout (s : Sess) (m : InMsg) : Sess × SState :=
  match verifySelect s m false false true with
  | (s, some r) => processReject s m r
  | (s, none) =>
    let s := if s.st.loggedOn then sendInReplyTo s ((mkOut "5" []).inReplyTo m) else s
    if s.cfg.resetOnLogout then (dropAndReset s, .latent)
    else if (checkTooLow s m).isSome then (s, .latent)
    else if (checkTooHigh s m).isSome then (s, .latent)
    else (incrTarget s, .latent)

def handleTestRequest (s : Sess) (m : InMsg) : Sess × SState :=
  match verifySelect s m true true true with
  | (s, some r) => processReject s m r
  | (s, none) =>
    let s := match m.f.get? 112 with
      | some id => sendInReplyTo s ((mkOut "0" [(112, id)]).inReplyTo m)
      | none => s
    (incrTarget s, .inSession)

def handleSequenceReset (s : Sess) (m : InMsg) : Sess × SState :=
  match getBool m 123 with
  | .garbled => processReject s m (badFormat 123)
  | g =>
    let gf := match g with | .val b => b | _ => false
    match verifySelect s m gf gf true with
    | (s, some r) => processReject s m r
    | (s, none) =>
      match getInt m 36 with
      | .val n =>
        if n > s.store.target then ((s.setTarget n).emit (.setT n), .inSession)
        else if n < s.store.target then (doReject s m 5 none false, .inSession)
        else (s, .inSession)
      | _ => (s, .inSession)

/-- tag 369 of a message built by `fillDefaultHeader(_, inReplyTo = m)` -/
def replyLastOf (s : Sess) (m : InMsg) : Option Int :=
  if s.cfg.lastSeqProcessed then (match getInt m 34 with | .val n => some n | _ => none) else none

def handleResendRequest (s : Sess) (m : InMsg) : Sess × SState :=
  match verifySelect s m false false true with
  | (s, some r) => processReject s m r
  | (s, none) =>
    match getInt m 7 with
    | .val b =>
      (match getInt m 16 with
       | .val e =>
         let expected := s.store.sender
         let e := if (s.cfg.bs ≥ 2 && e == 0) || (s.cfg.bs ≤ 2 && e == 999999) || e ≥ expected then expected - 1 else e
         let s := resendMessages (s.setReplyLast (replyLastOf s m)) b e
         if (checkTooLow s m).isSome then (s, .inSession)
         else if (checkTooHigh s m).isSome then (s, .inSession)
         else (incrTarget s, .inSession)
       | _ => processReject s m (reqMissing 16))
    | _ => processReject s m (reqMissing 7)

/-- session.handleLogon; `Except`-like: left = error class -/
inductive LogonErr | rej (r : Rej) | other
  deriving Repr, Inhabited

/-- the acceptor's part of handleLogon as it was before `fix:` cbdc133: every Logon is answered — also the peer's answer
    to the reset Logon the acceptor sent itself (ResetSeqTime), with a second reset Logon numbered 1 -/
def logonReplyOrig (s : Sess) (m : InMsg) (flag : Bool) : Sess :=
  if !s.cfg.initiator then
    let s := if !s.cfg.hbOverride then (match getInt m 108 with | .val h => s.setHb h | _ => s) else s
    sendLogonRe s flag m
  else s

/-- the acceptor's part of handleLogon: adopt the peer's HeartBtInt unless overridden, reply with a Logon — unless, in an
    established session, the Logon carries ResetSeqNumFlag=Y while `sentReset` is up: that is the peer's answer to the
    reset Logon we sent ourselves, not a logon request (after `fix:` cbdc133) -/
def logonReply (s : Sess) (m : InMsg) (flag : Bool) : Sess :=
  if !s.cfg.initiator then
    let s := if !s.cfg.hbOverride then (match getInt m 108 with | .val h => s.setHb h | _ => s) else s
    if flag && s.sentReset && s.st.loggedOn then s else sendLogonRe s flag m
  else s

/-- the implied gap fill of handleLogon: `generateSequenceReset(b, e, *msg)` — a SequenceReset-GapFill with PossDupFlag whose
    header is that of a reply to the Logon (tag 369) -/
def gapFillRe (s : Sess) (m : InMsg) (b e : Int) : OutMsg := { gapFill b e with last := replyLastOf s m }

theorem nxAbove_off (cfg : Cfg) (m : InMsg) (n : Int) (h : cfg.nextExpected = false) : nxAbove cfg m n = false := by
  unfold nxAbove; rw [h]; rfl
theorem nxAbove_absent (cfg : Cfg) (m : InMsg) (n : Int) (h : peerNext m = none) : nxAbove cfg m n = false := by
  unfold nxAbove; rw [h]; simp
theorem nxRefuses_off (s : Sess) (m : InMsg) (h : s.cfg.nextExpected = false) : nxRefuses s m = false := nxAbove_off _ m _ h
theorem nxRefuses_absent (s : Sess) (m : InMsg) (h : peerNext m = none) : nxRefuses s m = false := nxAbove_absent _ m _ h

theorem Fields.has_of_get? (f : Fields) (t : Nat) (v : String) (h : f.get? t = some v) : f.has t = true := by
  obtain ⟨p, hp, -⟩ := Option.map_eq_some_iff.1 h
  exact List.any_eq_true.2 ⟨p, List.mem_of_find?_eq_some hp, List.find?_some (p := fun x : Nat × String => x.1 == t) hp⟩

/-- handleLogon's evaluation of the peer's tag 789 (session.go l.581–596; only when the Logon has no tag 141 at all): `ns` is
    `nextSenderMsgNumAtLogonReceived` — our next outbound number when the Logon ARRIVED: before a reset the Logon causes,
    before our reply.  A readable 789 different from `ns`: with persistence `generateSequenceReset(789, ns + 1, msg)` — nothing
    is replayed, the store is not read; without, the error `targetTooHigh{789, ns}`.  (The code as it is: notes/proofs_b_nx.md,
    observations 2–5.) -/
def nxEval (s : Sess) (m : InMsg) (ns : Int) : Sess × Option Rej :=
  if s.cfg.nextExpected && !(m.f.has 141) then
    match peerNext m with
    | some n =>
      if n != ns then
        if s.cfg.persist then (enqueueAndSend s (gapFillRe s m n (ns + 1)), none)
        else (s, some (.tooHigh n ns))
      else (s, none)
    | none => (s, none)
  else (s, none)

/-- the end of handleLogon: arm the peer timer, notify, the peer's 789, gap check, consume the Logon's number -/
def logonFinish (s : Sess) (m : InMsg) (ns : Int) : Sess × Option LogonErr :=
  match nxEval (((s.setSentReset false).emit (.armPeer (1200 * s.hb))).emit .onLogon) m ns with
  | (s, some r) => (s, some (.rej r))
  | (s, none) =>
    match checkTooHigh s m with
    | some r => (s, some (.rej r))
    | none => (incrTarget s, none)

def logonResetFlag (m : InMsg) : Bool := match getBool m 141 with | .val b => b | _ => false

/-- does the acceptor's `sendLogonInReplyTo(_, msg)` return RejectLogon instead of answering (peer's 789 above our next outbound
    number, session.go l.195–198)?  An initiator never refuses. -/
def logonRefuses (s : Sess) (m : InMsg) (flag : Bool) : Bool :=
  !s.cfg.initiator && !(flag && s.sentReset && s.st.loggedOn) && nxRefuses s m

/-- what handleLogon has done by then: the acceptor has adopted the peer's HeartBtInt -/
def logonRefused (s : Sess) (m : InMsg) : Sess :=
  if !s.cfg.initiator && !s.cfg.hbOverride then (match getInt m 108 with | .val h => s.setHb h | _ => s) else s

/-- handleLogon once the Logon has passed the checks: the acceptor's reply (or its refusal), then `logonFinish` -/
def logonTail (s : Sess) (m : InMsg) (ns : Int) : Sess × Option LogonErr :=
  if logonRefuses s m (logonResetFlag m) then (logonRefused s m, some (.rej .rejectLogon))
  else logonFinish (logonReply s m (logonResetFlag m)) m ns

/-- the configurations in which the evaluation of the peer's tag 789 never ends in an error: the option off, or message
    persistence on (without persistence a 789 different from our number is reported as `targetTooHigh{789, our outbound number}`) -/
def NxNoErr (cfg : Cfg) : Prop := cfg.nextExpected = false ∨ cfg.persist = true

theorem nxEval_noErr (s : Sess) (m : InMsg) (ns : Int) (h : NxNoErr s.cfg) : (nxEval s m ns).2 = none := by
  unfold nxEval
  rcases h with h | h
  · rw [h]; rfl
  · rw [h]; simp only [if_true]; repeat' split
    all_goals rfl

/-! the option off (`EnableNextExpectedMsgSeqNum=N`, the default): nothing of the above happens -/
theorem nxEval_off (s : Sess) (m : InMsg) (ns : Int) (h : s.cfg.nextExpected = false) : nxEval s m ns = (s, none) := by
  unfold nxEval; rw [h]; rfl
theorem logonRefuses_off (s : Sess) (m : InMsg) (flag : Bool) (h : s.cfg.nextExpected = false) : logonRefuses s m flag = false := by
  unfold logonRefuses; rw [nxRefuses_off s m h, Bool.and_false]
theorem logonTail_off (s : Sess) (m : InMsg) (ns : Int) (h : s.cfg.nextExpected = false) :
    logonTail s m ns = logonFinish (logonReply s m (logonResetFlag m)) m ns := by
  unfold logonTail; rw [logonRefuses_off s m _ h]; rfl
theorem nxOwn_off (s : Sess) (h : s.cfg.nextExpected = false) : nxOwn s = none := by unfold nxOwn; rw [h]; rfl
theorem nxReply_off (s : Sess) (m : InMsg) (h : s.cfg.nextExpected = false) : nxReply s m = none := by unfold nxReply; rw [h]; rfl

def handleLogon (s0 : Sess) (m : InMsg) : Sess × Option LogonErr :=
  if s0.cfg.bs == 5 && !(m.f.has 1137) then (s0, some .other) else
  let s := if !s0.cfg.initiator && s0.cfg.refreshOnLogon then s0.emit .refresh else s0
  match verifyAppImpl s m with
  | (s, some r) => (s, some (.rej r))
  | (s, none) =>
    let resetStore := (if s.cfg.initiator then false else s.cfg.resetOnLogon) || (logonResetFlag m && !s.sentReset)
    let s := if resetStore then dropAndReset s else s
    match verifySelect s m false true false with
    | (s, some r) => (s, some (.rej r))
    | (s, none) => logonTail s m s0.store.sender      -- (nextSenderMsgNumAtLogonReceived, read before everything else)

def inSessionFixMsgIn (s : Sess) (m : InMsg) : Sess × SState :=
  let k := kindOf m
  if k == "A" then
    match handleLogon s m with
    | (s, some _) => (sendInReplyTo s ((mkOut "5" []).inReplyTo m), .logout)      -- initiateLogoutInReplyTo("", msg)
    | (s, none) => (s, .inSession)
  else if k == "5" then handleLogout s m
  else if k == "2" then handleResendRequest s m
  else if k == "4" then handleSequenceReset s m
  else if k == "1" then handleTestRequest s m
  else
    match verifySelect s m true true true with
    | (s, some r) => processReject s m r
    | (s, none) => (incrTarget s, .inSession)

/-- the stash drain of resendState.FixMsgIn: while the message numbered `target` is stashed, process it -/
def drainStash (fuel : Nat) (s : Sess) (stash : List (Int × InMsg)) (last : SState) : Sess × SState × List (Int × InMsg) :=
  match fuel with
  | 0 => (s, last, stash)
  | fuel + 1 =>
    match stash.find? (·.1 == s.store.target) with
    | none => (s, last, stash)
    | some (n, m) =>
      let stash := stash.filter (·.1 != n)
      let (s, nx) := inSessionFixMsgIn s m
      if !nx.loggedOn then (s, nx, stash) else drainStash fuel s stash nx

def resendFixMsgIn (s : Sess) (stash : List (Int × InMsg)) (cur fin : Int) (m : InMsg) : Sess × SState :=
  let (s, nx) := inSessionFixMsgIn s m
  if !nx.loggedOn then (s, nx) else
  -- `s` (the receiver) shares its stash map with whatever processReject stored into the *current* state's map
  let stash := match nx, curResend s with
    | .resend st' _ _, some _ => st'      -- processReject reused the current resend state: same map, new entry visible
    | _, _ => stash
  if cur != 0 && cur < s.store.target then
    let (s, c, f) := sendResendRequest s s.store.target fin
    (s, .resend stash c f)
  else
    match getBool m 123 with
    | .garbled => (s, .latent)
    | g =>
      let gf := match g with | .val b => b | _ => false
      if gf && cur != 0 && cur == s.store.target then
        let (s, c, f) := sendResendRequest s s.store.target fin
        (s, .resend stash c f)
      else if fin ≥ s.store.target then (s, .resend stash cur fin)
      else
        let shared := (curResend s).isSome
        match drainStash (stash.length + 1) s stash nx with
        | (s, .resend st' c f, rest) => (s, .resend (if shared then rest else st') c f)   -- unreachable in practice
        | (s, nx, _) => (s, nx)

def shutdownWithReason (s : Sess) (m : InMsg) (incr : Bool) : Sess × SState :=
  let s := dropAndSend s ((mkOut "5" []).inReplyTo m)
  ((if incr then incrTarget s else s), .latent)

def logonFixMsgIn (s : Sess) (m : InMsg) : Sess × SState :=
  if kindOf m != "A" then (s, .latent) else
  match handleLogon s m with
  | (s, none) => (s, .inSession)
  | (s, some (.rej .rejectLogon)) => shutdownWithReason s m true
  | (s, some (.rej (.tooLow _ _))) => shutdownWithReason s m false
  | (s, some (.rej (.tooHigh recv exp))) =>
    let (s, c, f) := sendResendRequest s exp (recv - 1)
    (s, .resend [] c f)
  | (s, some _) => (s, .latent)

def fixMsgInCore (s : Sess) (m : InMsg) : Sess × SState :=
  match s.st with
  | .latent => (s, .latent)
  | .notSessionTime => (s, .notSessionTime)
  | .logon => logonFixMsgIn s m
  | .logout =>
    let (s, nx) := inSessionFixMsgIn s m
    (match nx with | .latent => (s, .latent) | _ => (s, .logout))
  | .inSession | .pendingIn => inSessionFixMsgIn s m
  | .resend st c f | .pendingResend st c f => resendFixMsgIn s st c f m

/-! ## state changes (session_state.go) -/

/-- handleDisconnectState between the two drains: logout notification, onDisconnect's reset and close -/
def discMid (s : Sess) : Sess :=
  let doOnLogout := s.st.loggedOn || (match s.st with | .logout => true | .logon => s.cfg.initiator | _ => false)
  let s := if doOnLogout then s.emit .onLogout else s
  let s := if s.cfg.resetOnDisconnect then dropAndReset s else s
  if s.out then (s.setOut false).emit .closed else s

mutual
/-- setState with handleDisconnectState / onDisconnect.  After `fix:` 69a603a the buffered inbound messages are
    processed first, through the still-current state and with the connection still in place (a nested disconnect
    finishes the job); then the logout notification, reset-on-disconnect, close; the second drain is what is left
    of the original one. -/
def setState (fuel : Nat) (s : Sess) (next : SState) : Sess :=
  match fuel with
  | 0 => s.setSt next
  | fuel + 1 =>
    if !next.connected then
      let s := if s.st.connected then (drainIn fuel (discMid (drainIn fuel s))).closeInbox else s
      let s := if s.pendingStop then s.setStopped else s
      s.setSt next
    else s.setSt next

def drainIn (fuel : Nat) (s : Sess) : Sess :=
  match fuel with
  | 0 => s
  | fuel + 1 =>
    if !s.inboxOpen then s else
    match s.inbox with
    | [] => s
    | m :: rest => drainIn fuel (incoming fuel (s.setInbox rest) (some m))

/-- stateMachine.Incoming; `none` = bytes that do not parse -/
def incoming (fuel : Nat) (s : Sess) (m : Option InMsg) : Sess :=
  match fuel with
  | 0 => s
  | fuel + 1 =>
    let s := checkSessionTime fuel s true true
    if !s.st.connected then s else
    let s := match m with
      | none => s
      | some m => let (s, nx) := fixMsgInCore s m; setState fuel s nx
    s.emit (.armPeer (1200 * s.hb))

def checkSessionTime (fuel : Nat) (s : Sess) (inRange same : Bool) : Sess :=
  match fuel with
  | 0 => s
  | fuel + 1 =>
    if !inRange then
      let s := if s.st.loggedOn then sendLogout s else s       -- ShutdownNow
      setState fuel s .notSessionTime
    else
      let s := if !s.st.sessionTime then setState fuel s .latent else s
      if !same then
        let s := if s.st.loggedOn then sendLogout s else s
        let s := dropAndReset s
        setState fuel s .latent
      else s
end

/-- the reset instant of the day `now` lies in: time.Date(now's Y-M-D, ResetSeqTime's h:m:s) in UTC, as seconds on the
    same clock as `now` (whose origin is a midnight) -/
def resetInstant (rs : Nat) (now : Int) : Int := now / 86400 * 86400 + rs

/-- lastChecked.Before(resetSeqTimeToday) && !now.Before(resetSeqTimeToday) -/
def crossedReset (rs : Nat) (last now : Int) : Bool :=
  decide (last < resetInstant rs now) && decide (resetInstant rs now ≤ now)

/-- stateMachine.CheckResetTime: not enabled ⇒ nothing; the first call and every call without a connection only
    record the clock; otherwise a Logon with ResetSeqNumFlag is sent when today's reset instant lies in
    (last check, now] -/
def checkResetTime (s : Sess) (now : Int) : Sess :=
  match s.cfg.resetSeqTime with
  | none => s
  | some rs =>
    match s.lastCheckedReset with
    | none => s.setLastChecked now
    | some last =>
      if !s.st.connected then s.setLastChecked now
      else
        let s := if crossedReset rs last now then sendLogonInReplyTo s true else s
        s.setLastChecked now

def fuelOf (s : Sess) : Nat := 4 * s.inbox.length + 8

inductive TimerEv | needHeartbeat | peerTimeout | logonTimeout | logoutTimeout
  deriving Repr, DecidableEq, Inhabited

def inSessionTimeout (s : Sess) (e : TimerEv) : Sess × Bool :=   -- (state, became pending)
  match e with
  | .needHeartbeat => (sendInReplyTo s (mkOut "0" []), false)
  | .peerTimeout =>
    let s := sendInReplyTo s (mkOut "1" [(112, "TEST")])
    (s.emit (.armPeer (1200 * s.hb)), true)
  | _ => (s, false)

def timeoutCore (s : Sess) (e : TimerEv) : Sess × SState :=
  match s.st with
  | .inSession =>
    let (s, p) := inSessionTimeout s e
    (s, if p then .pendingIn else .inSession)
  | .resend st c f =>
    let (s, p) := inSessionTimeout s e
    (s, if p then .pendingResend st c f else .resend st c f)
  | .pendingIn => (s, if e == .peerTimeout then .latent else .pendingIn)
  | .pendingResend st c f => (s, if e == .peerTimeout then .latent else .pendingResend st c f)
  | .logon => (s, if e == .logonTimeout then .latent else .logon)
  | .logout => (s, if e == .logoutTimeout then .latent else .logout)
  | st => (s, st)

inductive Ev
  | connect
  | incomingMsg (m : Option InMsg)        -- Incoming called directly
  | arrive (m : InMsg)                    -- buffered in the inbound channel
  | pop                                   -- the run loop takes the next buffered message
  | timeout (e : TimerEv)
  | disconnected
  | stop
  | send (m : OutMsg)                     -- SendToTarget (queueForSend)
  | flush                                 -- SendAppMessages
  | sessionTime (inRange same : Bool)     -- CheckSessionTime with a chosen clock
  | resetTime (now : Int)                 -- CheckResetTime with a chosen clock (seconds since a midnight, UTC)
  deriving Inhabited

def connect (s : Sess) : Sess × String :=
  if s.st.connected then (s, "already")
  else if !s.st.sessionTime then
    -- handleDisconnectState on a non-connected state: no OnLogout, onDisconnect's reset only
    let s := if s.cfg.resetOnDisconnect then dropAndReset s else s
    (s, "nottime")
  else
    let s := s.openConn
    if !s.cfg.initiator then (s.setSt .logon, "ok")
    else
      let s := if s.cfg.refreshOnLogon then s.emit .refresh else s
      let s := if s.cfg.resetOnLogon then dropAndReset s else s
      let s := sendLogonInReplyTo s (shouldSendReset s)
      (s.setSt .logon, "ok")

def stopNext (s : Sess) : Sess × SState :=
  match s.st with
  | .inSession | .resend .. | .pendingIn | .pendingResend .. => (initiateLogout s, .logout)
  | .logon => (s, .latent)
  | st => (s, st)

/-- one event on a session whose observation log is empty: new state (log = observations, newest first) and a status word -/
def stepCore (s : Sess) (e : Ev) : Sess × String :=
  let fuel := fuelOf s
    match e with
    | .connect => connect s
    | .incomingMsg m => (incoming fuel s m, "ok")
    | .arrive m => if s.inboxOpen then (s.setInbox (s.inbox ++ [m]), "ok") else (s, "noconn")
    | .pop =>
      if !s.inboxOpen then (s, "none") else
      (match s.inbox with
       | [] => (s, "none")
       | m :: rest => (incoming fuel (s.setInbox rest) (some m), "ok"))
    | .timeout ev =>
      let s := checkSessionTime fuel s true true
      let (s, nx) := timeoutCore s ev
      (setState fuel s nx, "ok")
    | .disconnected => ((if s.st.connected then setState fuel s .latent else s), "ok")
    | .stop =>
      let s := s.setPendingStop
      let (s, nx) := stopNext s
      (setState fuel s nx, "ok")
    | .send m => (match prep s m with
        | (none, s) => (s, "refused")
        | (some m, s) => (s.setToSend (s.toSend ++ [m]), "ok"))
    | .flush =>
      let s := checkSessionTime fuel s true true
      ((if s.st.loggedOn then sendQueued s else s.setToSend []), "ok")
    | .sessionTime r sm => (checkSessionTime fuel s r sm, "ok")
    | .resetTime now => (checkResetTime s now, "ok")

/-- one event; returns the new state, the observations in order, and a status word for the op -/
def step (s : Sess) (e : Ev) : Sess × List Obs × String :=
  let r := stepCore s.clearLog e
  (r.1.clearLog, r.1.log.reverse, r.2)

def initSess (cfg : Cfg) (sender target : Int) : Sess :=
  { cfg := cfg, store := { sender := sender, target := target },
    hb := if cfg.initiator || cfg.hbOverride then cfg.hb else 0 }

end Qfx.Sess
