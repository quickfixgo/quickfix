/-
  Qfx.Spec.Framer — what the frames of a byte stream ARE, as a function of the whole stream
  (no buffer, no reader, no chunks), the grammar of a well-formed frame, and the C12 monitor.

  `framesWhole s`: repeatedly
     skip to the first "8=";  from there find the first SOH "9=", read the digits up to the next SOH as BodyLength n
     (empty / not an integer / ≤ 0 / end offset beyond `int` ⇒ the stream ends with a length error);
     the frame ends with the first SOH "10=" at or after (position of that SOH) + n and the first SOH after it;
     a search that runs off the end of the stream ends the stream with `eof`.
-/
import Qfx.Model.Framer
namespace Qfx.Spec
open Qfx Qfx.Framer

/-- first occurrence of `d` in `s` at or after `off` -/
def findFrom (off : Nat) (d s : Bytes) : Option Nat :=
  if off ≤ s.length then (indexOf d (s.drop off)).map (· + off) else none

/-- `s` starts at a BeginString marker: the offset where the search for the trailer starts
    (`guarded = false`: the arithmetic before the `fix:` commit, which can wrap to a negative offset) -/
def bodyEnd (guarded : Bool) (ee : String) (s : Bytes) : Res Int :=
  match findFrom 0 dLen s with
  | none => .err ee
  | some li =>
    match findFrom (li + 3) dSOH s with
    | none => .err ee
    | some off =>
      if off = li + 3 then .err "No length given"
      else
        match atoi ((s.take off).drop (li + 3)) with
        | .ok n =>
          if n ≤ 0 then .err "Invalid length"
          else if guarded && decide (wrap64 ((off : Int) + n) < (off : Int)) then .err "Invalid length"
          else .ok (wrap64 ((off : Int) + n))
        | .err x => .err x
        | .fault w => .fault w

/-- one frame and the rest of the stream -/
def nextFrame (guarded : Bool) (ee : String) (s : Bytes) : Res (Bytes × Bytes) :=
  match findFrom 0 dBegin s with
  | none => .err ee
  | some start =>
    let s1 := s.drop start
    match bodyEnd guarded ee s1 with
    | .ok be =>
      if be < 0 then .fault "slice bounds out of range"
      else
        match findFrom be.toNat dCk s1 with
        | none => .err ee
        | some e1 =>
          match findFrom (e1 + 1) dSOH s1 with
          | none => .err ee
          | some e2 => .ok (s1.take (e2 + 1), s1.drop (e2 + 1))
    | .err x => .err x
    | .fault w => .fault w

theorem nextFrame_shorter {g : Bool} {ee : String} {s m r : Bytes} (h : nextFrame g ee s = .ok (m, r)) : r.length < s.length := by
  revert h
  -- case5: the one `.ok` leaf
  fun_cases nextFrame g ee s with
  | case5 start _ s1 be _ _ e1 _ e2 he2 =>
    intro h
    cases h
    -- the last search started inside `s1`, so `s` is not empty, and at least one byte is taken
    unfold findFrom at he2
    split at he2
    · rename_i hle
      simp only [s1, List.length_drop] at hle ⊢
      omega
    · cases he2
  | _ => nofun

/-- frames of the whole stream and how it ends -/
def framesWholeG (guarded : Bool) (ee : String) (s : Bytes) : Out :=
  match h : nextFrame guarded ee s with
  | .ok (m, r) => let o := framesWholeG guarded ee r; { o with frames := m :: o.frames }
  | .err c => { frames := [], end_ := .err c }
  | .fault w => { frames := [], end_ := .fault w }
termination_by s.length
decreasing_by exact nextFrame_shorter h

/-- `ee`: the error the reader ends with (what a search that runs off the end of the stream reports) -/
def framesWholeE (ee : String) (s : Bytes) : Out := framesWholeG true ee s
/-- … for a stream that ends with io.EOF -/
def framesWhole (s : Bytes) : Out := framesWholeE "eof" s

/-! ## a well-formed frame (what the framer needs of a well-formed message; the CheckSum VALUE is not looked at)

    "8=" v SOH "9=" digits SOH body "10=" ck SOH   with  v, ck free of SOH,  digits = decimal |body|,
    body non-empty and ending with SOH. -/

def noSOH (b : Bytes) : Bool := b.all (· ≠ 1)

/-- split at the first SOH -/
def splitSOH : Bytes → Option (Bytes × Bytes)
  | [] => none
  | x :: xs => if x = 1 then some ([], xs) else (splitSOH xs).map fun ar => (x :: ar.1, ar.2)

def wfShape (m : Bytes) : Bool :=
  match m with
  | 56 :: 61 :: r1 =>
    match splitSOH r1 with
    | some (_, 57 :: 61 :: r2) =>
      match splitSOH r2 with
      | some (ds, r3) =>
        !ds.isEmpty && ds.all isDigit &&
        (let n := digitsVal ds
         decide (0 < n) &&
         (let body := r3.take n
          let tr := r3.drop n
          body.getLast? == some 1 &&
          (match tr with
           | 49 :: 48 :: 61 :: r4 =>
             (match splitSOH r4 with
              | some (_, []) => true
              | _ => false)
           | _ => false)))
      | none => false
    | _ => false
  | _ => false

/-- the length bound only says that the frame's offsets fit Go's `int` -/
def wfFrame (m : Bytes) : Bool := decide (m.length < 9223372036854775807) && wfShape m

/-- no BeginString marker -/
def noBegin (j : Bytes) : Bool := (indexOf dBegin j).isNone

/-- junk₀ m₁ junk₁ m₂ junk₂ … : the leading separator and every message with the separator that follows it -/
structure Parts where
  j0 : Bytes
  ms : List (Bytes × Bytes)

def Parts.stream (ps : Parts) : Bytes := ps.j0 ++ (ps.ms.map fun mj => mj.1 ++ mj.2).flatten
def Parts.msgs (ps : Parts) : List Bytes := ps.ms.map (·.1)
/-- every message a well-formed frame, every separator (as a whole) free of "8=" -/
def Parts.ok (ps : Parts) : Bool := noBegin ps.j0 && ps.ms.all fun mj => wfFrame mj.1 && noBegin mj.2

/-- tokens of a `parts` op (`true` = message): consecutive junk tokens form ONE separator -/
def mkParts : List (Bool × Bytes) → Parts
  | [] => ⟨[], []⟩
  | (false, j) :: r => let p := mkParts r; { p with j0 := j ++ p.j0 }
  | (true, m) :: r => let p := mkParts r; ⟨[], (m, p.j0) :: p.ms⟩

/-! ## the monitor -/

def endClass : End → String
  | .err c => if c = "eof" then "eof" else if c = "io" then "io" else "length"
  | .fault _ => "panic"

structure MonState where
  stream : Bytes := []
  parts : Option Parts := none                   -- the decomposition claimed for the stream, once verified (`Parts.ok`)
  ref : Option (List Bytes × String) := none      -- the first reading of this stream (frames, end class)
  spec : Out := framesWhole stream                 -- what the whole-stream spec says (computed once per stream)

/-- clauses violated by one observed reading (`frames`, `end_`) of the current stream.
    `viaLoop`: observed through `readLoop`, which only logs the error.  -/
def monRead (st : MonState) (opName : String) (viaLoop : Bool) (ee : String) (frames : List Bytes) (end_ : String) : List String :=
  if end_ = "panic" ∨ end_ = "hang" then
    -- context: does the arithmetic of the ORIGINAL jumpLength (no overflow guard) explain it?
    let cause := match (framesWholeG false ee st.stream).end_ with
      | .fault _ => "bodylength-end-offset-overflows-int"
      | .err _ => "unexplained"
    ["c09_framer_" ++ end_ ++ "{cause=" ++ cause ++ "}"]
  else
    let spec := if ee = "eof" then st.spec else framesWholeE ee st.stream
    let c1 := if frames ≠ spec.frames then ["c12_frames_differ_from_whole_stream_spec{op=" ++ opName ++ "}"]
              else if ¬ viaLoop ∧ end_ ≠ endClass spec.end_ then ["c12_end_differs_from_whole_stream_spec{op=" ++ opName ++ "}"]
              else []
    let c2 := match st.ref with
      | some (f0, e0) =>
        if frames ≠ f0 then ["c12_chunk_dependent{what=frames,op=" ++ opName ++ "}"]
        -- the whole reading ended with io.EOF; a reader that ends with `ee` must end the same way, `ee` in place of EOF
        else if ¬ viaLoop ∧ end_ ≠ (if e0 = "eof" then ee else e0) then ["c12_chunk_dependent{what=end,op=" ++ opName ++ "}"]
        else []
      | none => []
    let c3 := match st.parts with
      | some ps => if frames ≠ ps.msgs then ["c12_not_exactly_the_messages{op=" ++ opName ++ "}"] else []
      | none => []
    c1 ++ c2 ++ c3

end Qfx.Spec
