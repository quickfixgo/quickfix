import Qfx.Props.C18
-- generated by ./check: axiom audit of every theorem in Props/C18.lean (+ its <pid>_gen_ obligations in Props/Ties/C18.lean)
#print axioms awo_prev
#print axioms C18_in_range_daily
#print axioms C18_in_range_weekly
#print axioms C18_in_range
#print axioms sessionEnd_eq_hi
#print axioms C18_same_range_ordered
#print axioms same_symm
#print axioms C18_same_range
#print axioms C18_same_symmetric
#print axioms C18_same_implies_in_range
#print axioms window_hi_inj
#print axioms C18_same_transitive
#print axioms C18_original_sunday_witness
