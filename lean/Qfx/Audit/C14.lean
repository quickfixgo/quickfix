import Qfx.Props.C14
-- generated by ./check: axiom audit of every theorem in Props/C14.lean (+ its <pid>_gen_ obligations in Props/Ties/C14.lean)
#print axioms atoi_minus
#print axioms C14_int_write_read
#print axioms C14_int_accept_iff_grammar
#print axioms C14_int_value
#print axioms C14_int_original_faults_only_on_empty
#print axioms C14_int_read_write
#print axioms C14_bool_write_read
#print axioms C14_bool_read_write
#print axioms C14_bool_accept_iff_grammar
#print axioms C14_string_identity
#print axioms floatScan_afterDot
#print axioms floatScan_beforeDot
#print axioms floatBodyG_false
#print axioms C14_float_accept_iff_grammar
#print axioms C14_float_round_nearest
#print axioms C14_float_read_nearest
#print axioms C14_float_nearest_unique
#print axioms C14_float_nearest_unique_ord
#print axioms C14_float_write_read_model
#print axioms C14_float_ok_iff
#print axioms C14_float_write_read
#print axioms C14_float_write_grammar
#print axioms C14_float_read_write
#print axioms daysIn_le
#print axioms C14_ts_write_read
#print axioms C14_ts_read_write
#print axioms C14_ts_original_accepts_comma
#print axioms C14_ts_accept_iff_grammar
#print axioms C14_dec_write_read
#print axioms C14_dec_write_rounds_half_away
#print axioms C14_dec_write_read_exact
#print axioms C14_udec_write_read
#print axioms C14_dec_read_write
