/-
  C19 — "The data dictionary says what the specification file says".
  Property theorems only; helper lemmas are in Qfx/Lemmas/Dict.lean and Qfx/Lemmas/DictCycle.lean.

  Model: Qfx/Model/Dict.lean (`buildWith a fuel mk`, `build a = buildWith a (a.size+1) newMessageDef`).
  Spec:  Qfx/Spec/Dict.lean  (`FieldNum`, `CompDef`, `MsgDef`, `ReachM`, `ReqM`, `Expands`, `RefsOK`, `Dangling`,
         `WFNames`, executable `expandSpec`).

  Clause checklist (monitor clause ↦ theorem):
    group_order, group_required   C19_group_order, C19_group_order_header, C19_group_order_trailer
                                  (`Expands` pins order, tags, own flags, the members of every group and, up to
                                  membership, the required-set of every group), C19_expands_functional,
                                  C19_expands_functional_req
    fields                        C19_fields, C19_fields_header, C19_fields_trailer
    required                      C19_required, C19_required_header, C19_required_trailer;
                                  C19_required_orig_witness (the unchanged tree violates it, D10)
    types_enums                   C19_types_enums
    refuses_dangling              C19_refuses_dangling
                                  (needs unique names: C19_refuses_dangling_needs_wf)
    loads_wellformed              C19_loads_wellformed, C19_loads_wellformed_orig
    messages                      C19_messages
    fields_map                    not stated: `MDef.field?` is a definition of the model (last flattened field of a tag)
    (executable spec of the monitor) C19_spec_exec_sound, C19_spec_lookup, C19_monitor_guards,
                                  C19_monitor_msg_accepts, C19_monitor_load_accepts, C19_monitor_refused_accepts

  The tree after the `fix:` that refuses circular component references (`buildWithS`, `buildS`; helper lemmas in
  Qfx/Lemmas/DictCycle.lean).  Every clause above carries over through C19_checked_is_unchecked:
    group_order, group_required   C19_group_order_checked, C19_group_order_header_checked, C19_group_order_trailer_checked
    fields                        C19_fields_checked, C19_fields_header_checked, C19_fields_trailer_checked
    required                      C19_required_checked, C19_required_header_checked, C19_required_trailer_checked
    refuses_dangling              C19_refuses_dangling_checked
    loads_wellformed              C19_loads_wellformed_checked (the circular-reference exit is never taken on a file
                                  whose components expand)
    messages                      C19_messages_checked
    (monitor)                     C19_monitor_msg_accepts_checked, C19_monitor_load_accepts_checked,
                                  C19_monitor_refused_accepts_checked
    c09_cyclic_components (a clause of C09: no crash on circular components)
                                  C19_no_overflow (the recursion budget `Ast.size + 1` is never exhausted, for EVERY
                                  file), C19_no_overflow_fuel;
                                  C19_cyclic_refused, C19_loaded_acyclic (a file with a component reaching itself is
                                  never loaded — by either builder, with any budget: `Ast.size + 1` is an adequate
                                  budget for `acyclicB`, C19_acyclic_budget_adequate);
                                  C19_refusal_reason, C19_cyclic_refused_cycle, C19_cycle_iff (unique names and no
                                  undefined reference: refused ⇔ `cycle` ⇔ some component reaches itself);
                                  C19_cycle_witness (the unchanged tree overflows where the fixed one says `cycle`)
-/
import Qfx.Lemmas.DictCycle
open Qfx.Dict

section
variable {ν : Type} [DecidableEq ν]

/-! ## group_order / group_required: the flattened members are the declared members, in order -/

theorem C19_group_order (a : Ast ν) (wf : WFNames a) (fuel : Nat) (d : Dict ν)
    (h : buildWith a fuel newMessageDef = .ok d) (mt : ν) (ms : List (Member ν)) (hm : MsgDef a mt ms) :
    ∃ m, d.msg? mt = some m ∧ Expands a ms m.flat := by
  obtain ⟨m, hd, hb⟩ := buildWith_msg wf h hm
  exact ⟨m, hd, (hb.spec wf h).1⟩

theorem C19_group_order_header (a : Ast ν) (wf : WFNames a) (fuel : Nat) (d : Dict ν)
    (h : buildWith a fuel newMessageDef = .ok d) (ms : List (Member ν)) (hm : a.header = some ms) :
    ∃ m, d.header = some m ∧ Expands a ms m.flat := by
  obtain ⟨m, hd, hb⟩ := buildWith_header h hm
  exact ⟨m, hd, (hb.spec wf h).1⟩

theorem C19_group_order_trailer (a : Ast ν) (wf : WFNames a) (fuel : Nat) (d : Dict ν)
    (h : buildWith a fuel newMessageDef = .ok d) (ms : List (Member ν)) (hm : a.trailer = some ms) :
    ∃ m, d.trailer = some m ∧ Expands a ms m.flat := by
  obtain ⟨m, hd, hb⟩ := buildWith_trailer h hm
  exact ⟨m, hd, (hb.spec wf h).1⟩

/-- the specification determines the expansion: order, tags, own flags, nesting -/
theorem C19_expands_functional (a : Ast ν) (wf : WFNames a) (ms : List (Member ν)) (fs fs' : List FDef)
    (h : Expands a ms fs) (h' : Expands a ms fs') : sameShapeL fs fs' = true :=
  (h.same wf fs' h').1

/-- … and the required-set of every group up to membership (clause group_required) -/
theorem C19_expands_functional_req (a : Ast ν) (wf : WFNames a) (ms : List (Member ν)) (fs fs' : List FDef)
    (h : Expands a ms fs) (h' : Expands a ms fs') : sameReqL fs fs' = true :=
  (h.same wf fs' h').2

/-! ## fields: `Tags` are exactly the reachable tags -/

theorem C19_fields (a : Ast ν) (wf : WFNames a) (fuel : Nat) (d : Dict ν)
    (h : buildWith a fuel newMessageDef = .ok d) (mt : ν) (ms : List (Member ν)) (hm : MsgDef a mt ms) :
    ∃ m, d.msg? mt = some m ∧ ∀ t, t ∈ m.tags ↔ Reach a mt t := by
  obtain ⟨m, hd, hb⟩ := buildWith_msg wf h hm
  exact ⟨m, hd, fun t => ((hb.spec wf h).2.1 t).trans (reach_iff wf hm t).symm⟩

theorem C19_fields_header (a : Ast ν) (wf : WFNames a) (fuel : Nat) (d : Dict ν)
    (h : buildWith a fuel newMessageDef = .ok d) (ms : List (Member ν)) (hm : a.header = some ms) :
    ∃ m, d.header = some m ∧ ∀ t, t ∈ m.tags ↔ ReachM a ms t := by
  obtain ⟨m, hd, hb⟩ := buildWith_header h hm
  exact ⟨m, hd, (hb.spec wf h).2.1⟩

theorem C19_fields_trailer (a : Ast ν) (wf : WFNames a) (fuel : Nat) (d : Dict ν)
    (h : buildWith a fuel newMessageDef = .ok d) (ms : List (Member ν)) (hm : a.trailer = some ms) :
    ∃ m, d.trailer = some m ∧ ∀ t, t ∈ m.tags ↔ ReachM a ms t := by
  obtain ⟨m, hd, hb⟩ := buildWith_trailer h hm
  exact ⟨m, hd, (hb.spec wf h).2.1⟩

/-! ## required: `RequiredTags` are exactly the required tags (after the `fix:`) -/

theorem C19_required (a : Ast ν) (wf : WFNames a) (fuel : Nat) (d : Dict ν)
    (h : buildWith a fuel newMessageDef = .ok d) (mt : ν) (ms : List (Member ν)) (hm : MsgDef a mt ms) :
    ∃ m, d.msg? mt = some m ∧ ∀ t, t ∈ m.reqTags ↔ Req a mt t := by
  obtain ⟨m, hd, hb⟩ := buildWith_msg wf h hm
  exact ⟨m, hd, fun t => ((hb.spec wf h).2.2 t).trans (req_iff wf hm t).symm⟩

theorem C19_required_header (a : Ast ν) (wf : WFNames a) (fuel : Nat) (d : Dict ν)
    (h : buildWith a fuel newMessageDef = .ok d) (ms : List (Member ν)) (hm : a.header = some ms) :
    ∃ m, d.header = some m ∧ ∀ t, t ∈ m.reqTags ↔ ReqM a ms t := by
  obtain ⟨m, hd, hb⟩ := buildWith_header h hm
  exact ⟨m, hd, (hb.spec wf h).2.2⟩

theorem C19_required_trailer (a : Ast ν) (wf : WFNames a) (fuel : Nat) (d : Dict ν)
    (h : buildWith a fuel newMessageDef = .ok d) (ms : List (Member ν)) (hm : a.trailer = some ms) :
    ∃ m, d.trailer = some m ∧ ∀ t, t ∈ m.reqTags ↔ ReqM a ms t := by
  obtain ⟨m, hd, hb⟩ := buildWith_trailer h hm
  exact ⟨m, hd, (hb.spec wf h).2.2⟩

/-! ## types_enums: both field tables return the declaration itself (name, type, enum values) -/

theorem C19_types_enums (a : Ast ν) (wf : WFNames a) (f : FieldDecl ν) (hf : f ∈ a.fields) :
    a.fieldByTag f.num = some f ∧ a.fieldByName f.name = some f :=
  ⟨fieldByTag_of_mem wf hf, fieldByName_of_mem wf hf⟩

/-! ## refuses_dangling: a file with an undefined reference is never loaded -/

theorem C19_refuses_dangling (a : Ast ν) (wf : WFNames a) (fuel : Nat) (mk : List Part → MDef)
    (hd : Dangling a) : ∀ d, buildWith a fuel mk ≠ .ok d := by
  intro d h
  obtain ⟨ms, hms, hn⟩ := hd
  exact hn (buildWith_refsOK wf h ms hms)

/-! ## loads_wellformed: unique names, no undefined reference, no component reaching itself ⇒ loaded
     (`Ast.size + 1` is enough recursion budget; the Go stack is "the budget") -/

theorem C19_loads_wellformed (a : Ast ν) (wf : WFNames a) (hd : ¬ Dangling a) (hac : acyclicB a = true) :
    ∃ d, build a = .ok d :=
  buildWith_ok a wf hd (a.size + 1) (Nat.lt_succ_self _) (List.all_eq_true.1 hac) newMessageDef

/-- the same for the unchanged tree (D10 does not affect whether a file loads) -/
theorem C19_loads_wellformed_orig (a : Ast ν) (wf : WFNames a) (hd : ¬ Dangling a) (hac : acyclicB a = true) :
    ∃ d, buildOrig a = .ok d :=
  buildWith_ok a wf hd (a.size + 1) (Nat.lt_succ_self _) (List.all_eq_true.1 hac) newMessageDefOrig

/-! ## the executable spec evaluated by the monitor is sound for the declarative relations -/

theorem C19_spec_exec_sound (a : Ast ν) (wf : WFNames a) (f : Nat) (ms : List (Member ν))
    (fs : List FDef) (rq : List Nat) (h : expandSpec a f ms = some (fs, rq)) :
    Expands a ms fs ∧ ∀ x, x ∈ rq ↔ ReqM a ms x :=
  expandSpec_sound a wf f ms fs rq h

/-- the first-match lookups of the executable spec are the declared tables -/
theorem C19_spec_lookup (a : Ast ν) (wf : WFNames a) :
    (∀ n t, specFieldNum a n = some t ↔ FieldNum a n t) ∧
    (∀ n cms, specComp a n = some cms ↔ CompDef a n cms) ∧
    (∀ mt ms, specMsg a mt = some ms ↔ MsgDef a mt ms) := by
  refine ⟨fun n t => ⟨specFieldNum_sound, fun h => ?_⟩,
    fun n cms => ⟨specComp_sound, specComp_of_def wf⟩,
    fun mt ms => ⟨specMsg_sound, specMsg_of_def wf⟩⟩
  obtain ⟨t', ht'⟩ := Option.isSome_iff_exists.1 (specFieldNum_isSome.2 ⟨t, h⟩)
  rw [ht', FieldNum.unique wf h (specFieldNum_sound ht')]

/-! ## the monitor's guards are the declarative predicates, and the monitor accepts the (fixed) model -/

theorem C19_monitor_guards (a : Ast ν) :
    (wfNamesB a = true ↔ WFNames a) ∧ (danglingB a = true ↔ Dangling a) :=
  ⟨wfNamesB_iff a, danglingB_iff a⟩

/-- clauses fields, required, group_order, group_required of `monMsg` are silent on what the model builds -/
theorem C19_monitor_msg_accepts (a : Ast ν) (wf : WFNames a) (fuel f : Nat) (d : Dict ν)
    (h : buildWith a fuel newMessageDef = .ok d) (mt : ν) (ms : List (Member ν)) (hm : MsgDef a mt ms) :
    ∃ m, d.msg? mt = some m ∧
      monMsg a f ms { tags := m.tags, req := m.reqTags, fmapOK := true, flat := m.flat } = [] := by
  obtain ⟨m, hd, hb⟩ := buildWith_msg wf h hm
  obtain ⟨he, ht, hr⟩ := hb.spec wf h
  exact ⟨m, hd, monMsg_silent wf f (d := { tags := _, req := _, fmapOK := true, flat := _ }) he ht hr rfl⟩

/-- clause messages: exactly the declared message types, header and trailer are loaded -/
theorem C19_messages (a : Ast ν) (fuel : Nat) (mk : List Part → MDef) (d : Dict ν)
    (h : buildWith a fuel mk = .ok d) :
    (∀ mt, mt ∈ d.msgs.map (·.1) ↔ ∃ ms, MsgDef a mt ms) ∧
    d.header.isSome = a.header.isSome ∧ d.trailer.isSome = a.trailer.isSome := by
  obtain ⟨hk, hh, ht⟩ := buildWith_loaded h
  refine ⟨fun mt => (hk mt).trans ⟨?_, ?_⟩, hh, ht⟩
  · rintro ⟨c, hc, rfl⟩; exact ⟨c.2, hc⟩
  · rintro ⟨ms, hm⟩; exact ⟨(mt, ms), hm, rfl⟩

/-- `monLoad` is silent when the model loads a file with unique names … -/
theorem C19_monitor_load_accepts (a : Ast ν) (wf : WFNames a) (fuel : Nat) (mk : List Part → MDef) (d : Dict ν)
    (h : buildWith a fuel mk = .ok d) :
    monLoad a (.loaded (d.msgs.map (·.1)) d.header.isSome d.trailer.isSome) = [] :=
  monLoad_loaded_silent wf h

/-- … and when the model refuses a file -/
theorem C19_monitor_refused_accepts (a : Ast ν) (e : BErr) (h : build a = .error e) :
    monLoad a .refused = [] :=
  monLoad_refused_silent fun wf hd hac => by
    obtain ⟨d, hd'⟩ := C19_loads_wellformed a wf hd hac
    rw [hd'] at h; cases h

end

/-! ## the unchanged tree computed `RequiredTags` wrongly (D10) -/

/-- message 1 = [required component 10]; component 10 = [OPTIONAL component 11]; component 11 = [required field 20 (tag 100)] -/
def C19_a0 : Ast Nat :=
  { fields := [{ name := 20, num := 100, type := 0, enums := [] }]
    comps := [(10, [.comp 11 false]), (11, [.field 20 true])]
    msgs := [(1, [.comp 10 true])]
    header := none
    trailer := none }

theorem C19_required_orig_witness :
    (∃ d m, buildWith C19_a0 10 newMessageDefOrig = .ok d ∧ d.msg? 1 = some m ∧ 100 ∈ m.reqTags) ∧
    (∃ d m, buildWith C19_a0 10 newMessageDef = .ok d ∧ d.msg? 1 = some m ∧ 100 ∉ m.reqTags) ∧
    ¬ Req C19_a0 1 100 := by
  refine ⟨?_, ?_, ?_⟩
  · obtain ⟨d, m, h1, h2, h3⟩ := obsReq_some (l := [100]) (r := buildWith C19_a0 10 newMessageDefOrig) (mt := 1) (by decide)
    exact ⟨d, m, h1, h2, by simp [h3]⟩
  · obtain ⟨d, m, h1, h2, h3⟩ := obsReq_some (l := []) (r := buildWith C19_a0 10 newMessageDef) (mt := 1) (by decide)
    exact ⟨d, m, h1, h2, by simp [h3]⟩
  rintro ⟨ms, hm, hr⟩
  have hms : ms = [.comp 10 true] := by
    simpa [MsgDef, C19_a0] using hm
  subst hms
  rw [reqM_comp] at hr
  rcases hr with ⟨_, cms, hc, hr⟩ | hr
  · have hcms : cms = [.comp 11 false] := by
      simpa [CompDef, C19_a0] using hc
    subst hcms
    rw [reqM_comp] at hr
    rcases hr with ⟨hf, _⟩ | hr
    · cases hf
    · exact reqM_nil hr
  · exact reqM_nil hr

/-! ## `refuses_dangling` needs unique component names: a second declaration of a name is never looked at -/

def C19_a3 : Ast Nat :=
  { fields := [], comps := [(1, []), (1, [.field 99 true])], msgs := [], header := none, trailer := none }

theorem C19_refuses_dangling_needs_wf : Dangling C19_a3 ∧ ∃ d, build C19_a3 = .ok d := by
  refine ⟨⟨[.field 99 true], by simp [Ast.bodies, C19_a3], fun h => ?_⟩, Except.isOkB_iff.1 (by decide)⟩
  cases h with
  | field hf _ =>
    obtain ⟨f, hf, _⟩ := hf
    simp [C19_a3] at hf

example : WFNames C19_a0 := by
  constructor <;> decide

example : ∃ d, build C19_a0 = .ok d := Except.isOkB_iff.1 (by decide)

/-- header, trailer, a message with a required component, nested components, a group -/
def C19_a1 : Ast Nat :=
  { fields := [{ name := 1, num := 8, type := 0, enums := [] }, { name := 2, num := 35, type := 0, enums := [7, 9] },
               { name := 3, num := 55, type := 0, enums := [] }, { name := 4, num := 453, type := 1, enums := [] },
               { name := 5, num := 448, type := 0, enums := [] }, { name := 6, num := 10, type := 0, enums := [] }]
    comps := [(100, [.field 3 true, .comp 101 false]), (101, [.group 4 false [.field 5 true]])]
    msgs := [(0, [.comp 100 true, .field 2 false]), (7, [.comp 101 true])]
    header := some [.field 1 true]
    trailer := some [.field 6 true] }

theorem C19_a1_wf : WFNames C19_a1 := by
  constructor <;> decide

theorem C19_a1_loads : ∃ d, build C19_a1 = .ok d := Except.isOkB_iff.1 (by decide)

/-- the hypotheses of `C19_loads_wellformed` hold together -/
example : WFNames C19_a1 ∧ ¬ Dangling C19_a1 ∧ acyclicB C19_a1 = true := by
  refine ⟨C19_a1_wf, fun hd => ?_, by decide⟩
  obtain ⟨d, h⟩ := C19_a1_loads
  exact C19_refuses_dangling C19_a1 C19_a1_wf _ _ hd d h

/-- the hypotheses of `C19_group_order` / `C19_fields` / `C19_required` hold together -/
example : ∃ d, buildWith C19_a1 (C19_a1.size + 1) newMessageDef = .ok d ∧
    MsgDef C19_a1 0 [.comp 100 true, .field 2 false] ∧ C19_a1.header = some [.field 1 true] :=
  let ⟨d, h⟩ := C19_a1_loads
  ⟨d, h, by simp [MsgDef, C19_a1], rfl⟩

/-- tag 55 is required in message 0 (through the required component 100), tag 448 is reachable but not required -/
example : Req C19_a1 0 55 ∧ Reach C19_a1 0 448 := by
  have f3 : FieldNum C19_a1 3 55 :=
    ⟨{ name := 3, num := 55, type := 0, enums := [] }, by simp [C19_a1], rfl, rfl⟩
  have f5 : FieldNum C19_a1 5 448 :=
    ⟨{ name := 5, num := 448, type := 0, enums := [] }, by simp [C19_a1], rfl, rfl⟩
  have c100 : CompDef C19_a1 100 [.field 3 true, .comp 101 false] := by simp [CompDef, C19_a1]
  have c101 : CompDef C19_a1 101 [.group 4 false [.field 5 true]] := by simp [CompDef, C19_a1]
  have m0 : MsgDef C19_a1 0 [.comp 100 true, .field 2 false] := by simp [MsgDef, C19_a1]
  exact ⟨⟨_, m0, .comp c100 (.field f3)⟩,
         ⟨_, m0, .comp c100 (.tail (.comp c101 (.inGroup (.field f5))))⟩⟩

/-- a file with an undefined field reference: the hypothesis of `C19_refuses_dangling` is satisfiable -/
def C19_a2 : Ast Nat :=
  { fields := [], comps := [], msgs := [(0, [.field 99 true])], header := none, trailer := none }

example : WFNames C19_a2 ∧ Dangling C19_a2 := by
  refine ⟨by constructor <;> decide, [.field 99 true], by simp [Ast.bodies, C19_a2], fun h => ?_⟩
  cases h with
  | field hf _ =>
    obtain ⟨f, hf, _⟩ := hf
    simp [C19_a2] at hf

section
variable {ν : Type} [DecidableEq ν]

/-- every dictionary built with the circular-reference check is built, identically, without it -/
theorem C19_checked_is_unchecked (a : Ast ν) (fuel : Nat) (mk : List Part → MDef) (d : Dict ν)
    (h : buildWithS a fuel mk = .ok d) : buildWith a fuel mk = .ok d :=
  buildWithS_ok h

theorem C19_checked_is_unchecked_build (a : Ast ν) (d : Dict ν) (h : buildS a = .ok d) : build a = .ok d :=
  buildWithS_ok h

/-! ## group_order / group_required, fields, required -/

theorem C19_group_order_checked (a : Ast ν) (wf : WFNames a) (fuel : Nat) (d : Dict ν)
    (h : buildWithS a fuel newMessageDef = .ok d) (mt : ν) (ms : List (Member ν)) (hm : MsgDef a mt ms) :
    ∃ m, d.msg? mt = some m ∧ Expands a ms m.flat :=
  C19_group_order a wf fuel d (buildWithS_ok h) mt ms hm

theorem C19_group_order_header_checked (a : Ast ν) (wf : WFNames a) (fuel : Nat) (d : Dict ν)
    (h : buildWithS a fuel newMessageDef = .ok d) (ms : List (Member ν)) (hm : a.header = some ms) :
    ∃ m, d.header = some m ∧ Expands a ms m.flat :=
  C19_group_order_header a wf fuel d (buildWithS_ok h) ms hm

theorem C19_group_order_trailer_checked (a : Ast ν) (wf : WFNames a) (fuel : Nat) (d : Dict ν)
    (h : buildWithS a fuel newMessageDef = .ok d) (ms : List (Member ν)) (hm : a.trailer = some ms) :
    ∃ m, d.trailer = some m ∧ Expands a ms m.flat :=
  C19_group_order_trailer a wf fuel d (buildWithS_ok h) ms hm

theorem C19_fields_checked (a : Ast ν) (wf : WFNames a) (fuel : Nat) (d : Dict ν)
    (h : buildWithS a fuel newMessageDef = .ok d) (mt : ν) (ms : List (Member ν)) (hm : MsgDef a mt ms) :
    ∃ m, d.msg? mt = some m ∧ ∀ t, t ∈ m.tags ↔ Reach a mt t :=
  C19_fields a wf fuel d (buildWithS_ok h) mt ms hm

theorem C19_fields_header_checked (a : Ast ν) (wf : WFNames a) (fuel : Nat) (d : Dict ν)
    (h : buildWithS a fuel newMessageDef = .ok d) (ms : List (Member ν)) (hm : a.header = some ms) :
    ∃ m, d.header = some m ∧ ∀ t, t ∈ m.tags ↔ ReachM a ms t :=
  C19_fields_header a wf fuel d (buildWithS_ok h) ms hm

theorem C19_fields_trailer_checked (a : Ast ν) (wf : WFNames a) (fuel : Nat) (d : Dict ν)
    (h : buildWithS a fuel newMessageDef = .ok d) (ms : List (Member ν)) (hm : a.trailer = some ms) :
    ∃ m, d.trailer = some m ∧ ∀ t, t ∈ m.tags ↔ ReachM a ms t :=
  C19_fields_trailer a wf fuel d (buildWithS_ok h) ms hm

theorem C19_required_checked (a : Ast ν) (wf : WFNames a) (fuel : Nat) (d : Dict ν)
    (h : buildWithS a fuel newMessageDef = .ok d) (mt : ν) (ms : List (Member ν)) (hm : MsgDef a mt ms) :
    ∃ m, d.msg? mt = some m ∧ ∀ t, t ∈ m.reqTags ↔ Req a mt t :=
  C19_required a wf fuel d (buildWithS_ok h) mt ms hm

theorem C19_required_header_checked (a : Ast ν) (wf : WFNames a) (fuel : Nat) (d : Dict ν)
    (h : buildWithS a fuel newMessageDef = .ok d) (ms : List (Member ν)) (hm : a.header = some ms) :
    ∃ m, d.header = some m ∧ ∀ t, t ∈ m.reqTags ↔ ReqM a ms t :=
  C19_required_header a wf fuel d (buildWithS_ok h) ms hm

theorem C19_required_trailer_checked (a : Ast ν) (wf : WFNames a) (fuel : Nat) (d : Dict ν)
    (h : buildWithS a fuel newMessageDef = .ok d) (ms : List (Member ν)) (hm : a.trailer = some ms) :
    ∃ m, d.trailer = some m ∧ ∀ t, t ∈ m.reqTags ↔ ReqM a ms t :=
  C19_required_trailer a wf fuel d (buildWithS_ok h) ms hm

/-! ## refuses_dangling, messages -/

theorem C19_refuses_dangling_checked (a : Ast ν) (wf : WFNames a) (fuel : Nat) (mk : List Part → MDef)
    (hd : Dangling a) : ∀ d, buildWithS a fuel mk ≠ .ok d :=
  fun d h => C19_refuses_dangling a wf fuel mk hd d (buildWithS_ok h)

theorem C19_messages_checked (a : Ast ν) (fuel : Nat) (mk : List Part → MDef) (d : Dict ν)
    (h : buildWithS a fuel mk = .ok d) :
    (∀ mt, mt ∈ d.msgs.map (·.1) ↔ ∃ ms, MsgDef a mt ms) ∧
    d.header.isSome = a.header.isSome ∧ d.trailer.isSome = a.trailer.isSome :=
  C19_messages a fuel mk d (buildWithS_ok h)

/-! ## loads_wellformed: on a file whose components expand, the circular-reference exit is never taken -/

theorem C19_loads_wellformed_checked (a : Ast ν) (wf : WFNames a) (hd : ¬ Dangling a) (hac : acyclicB a = true) :
    ∃ d, buildS a = .ok d :=
  buildWithS_loads a wf hd (a.size + 1) (Nat.lt_succ_self _) (List.all_eq_true.1 hac) newMessageDef

/-! ## a file with a component that reaches itself is refused — and no budget is exhausted on the way -/

/-- the budget `acyclicB` gives the naive expansion is adequate: a declared component that has a (finite) expansion
    at all expands within `Ast.size + 1` -/
theorem C19_acyclic_budget_adequate (a : Ast ν) (wf : WFNames a) (n : ν) (cms : List (Member ν))
    (hc : CompDef a n cms) (fs : List FDef) (he : Expands a cms fs) :
    (expandSpec a (a.size + 1) cms).isSome = true :=
  expandSpec_comp_adequate wf (c := (n, cms)) hc he

/-- whatever is loaded — by either builder, with any budget and either `NewMessageDef` — has no component
    reaching itself -/
theorem C19_loaded_acyclic (a : Ast ν) (wf : WFNames a) (fuel : Nat) (mk : List Part → MDef) (d : Dict ν)
    (h : buildWith a fuel mk = .ok d ∨ buildWithS a fuel mk = .ok d) : acyclicB a = true := by
  rcases h with h | h
  · exact buildWith_acyclic wf h
  · exact buildWith_acyclic wf (buildWithS_ok h)

/-- (`¬ Dangling a` is not used: it is there to match the monitor's guard of `c09_cyclic_components`) -/
theorem C19_cyclic_refused (a : Ast ν) (wf : WFNames a) (_hd : ¬ Dangling a) (hac : acyclicB a = false) :
    ∀ d, buildS a ≠ .ok d := by
  intro d h
  have := buildWith_acyclic wf (buildWithS_ok h)
  rw [hac] at this; cases this

/-- the `fix:` removes the unbounded recursion: for EVERY file (no hypothesis on names, references or cycles) the
    checked builder stays within the budget `Ast.size + 1` -/
theorem C19_no_overflow (a : Ast ν) : buildS a ≠ .error .overflow :=
  buildWithS_no_overflow a (a.size + 1) (Nat.le_succ _) newMessageDef

theorem C19_no_overflow_fuel (a : Ast ν) (fuel : Nat) (hfuel : a.size ≤ fuel) (mk : List Part → MDef) :
    buildWithS a fuel mk ≠ .error .overflow :=
  buildWithS_no_overflow a fuel hfuel mk

/-- a file with unique names and no undefined reference is refused only for a circular component reference -/
theorem C19_refusal_reason (a : Ast ν) (wf : WFNames a) (hd : ¬ Dangling a) (e : BErr)
    (h : buildS a = .error e) : e = .cycle := by
  rcases buildWithS_error wf hd h with rfl | ⟨rfl, _⟩
  · exact absurd h (C19_no_overflow a)
  · rfl

/-- a file (unique names, no undefined reference) with a component that reaches itself is refused as circular -/
theorem C19_cyclic_refused_cycle (a : Ast ν) (wf : WFNames a) (hd : ¬ Dangling a) (hac : acyclicB a = false) :
    buildS a = .error .cycle := by
  cases h : buildS a with
  | ok d => exact absurd h (C19_cyclic_refused a wf hd hac d)
  | error e => rw [C19_refusal_reason a wf hd e h]

theorem C19_cycle_iff (a : Ast ν) (wf : WFNames a) (hd : ¬ Dangling a) :
    buildS a = .error .cycle ↔ acyclicB a = false := by
  constructor
  · intro h
    cases hac : acyclicB a with
    | false => rfl
    | true =>
      obtain ⟨d, hd'⟩ := C19_loads_wellformed_checked a wf hd hac
      rw [hd'] at h; cases h
  · exact C19_cyclic_refused_cycle a wf hd

/-! ## the monitor accepts the checked model -/

theorem C19_monitor_msg_accepts_checked (a : Ast ν) (wf : WFNames a) (fuel f : Nat) (d : Dict ν)
    (h : buildWithS a fuel newMessageDef = .ok d) (mt : ν) (ms : List (Member ν)) (hm : MsgDef a mt ms) :
    ∃ m, d.msg? mt = some m ∧
      monMsg a f ms { tags := m.tags, req := m.reqTags, fmapOK := true, flat := m.flat } = [] :=
  C19_monitor_msg_accepts a wf fuel f d (buildWithS_ok h) mt ms hm

theorem C19_monitor_load_accepts_checked (a : Ast ν) (wf : WFNames a) (fuel : Nat) (mk : List Part → MDef)
    (d : Dict ν) (h : buildWithS a fuel mk = .ok d) :
    monLoad a (.loaded (d.msgs.map (·.1)) d.header.isSome d.trailer.isSome) = [] :=
  monLoad_loaded_silent wf (buildWithS_ok h)

theorem C19_monitor_refused_accepts_checked (a : Ast ν) (e : BErr) (h : buildS a = .error e) :
    monLoad a .refused = [] :=
  monLoad_refused_silent fun wf hd hac => by
    obtain ⟨d, hd'⟩ := C19_loads_wellformed_checked a wf hd hac
    rw [hd'] at h; cases h

end

/-- component 1 = [required component 2]; component 2 = [optional component 1]; one field, one message -/
def C19_a4 : Ast Nat :=
  { fields := [{ name := 20, num := 100, type := 0, enums := [] }]
    comps := [(1, [.comp 2 true]), (2, [.comp 1 false])]
    msgs := [(0, [.field 20 true])]
    header := none
    trailer := none }

/-- the fixed tree refuses the file as circular; the unchanged tree recursed until the stack was exhausted -/
theorem C19_cycle_witness :
    buildS C19_a4 = .error .cycle ∧ build C19_a4 = .error .overflow ∧
    WFNames C19_a4 ∧ ¬ Dangling C19_a4 ∧ acyclicB C19_a4 = false := by
  refine ⟨obsErrIs_iff.1 (by decide), obsErrIs_iff.1 (by decide), by constructor <;> decide, fun hd => ?_, by decide⟩
  have := (danglingB_iff C19_a4).2 hd
  revert this
  decide
