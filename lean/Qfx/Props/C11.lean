/-
  C11 — "Parsing exposes exactly what is on the wire and rejects mis-framed messages".
  Property theorems only.  Theorems quantify over every `Fixes` setting unless they name `Fixes.cur`.
-/
import Qfx.Lemmas.CodecParse
import Qfx.Lemmas.CodecParseMsg
import Qfx.Lemmas.CodecTotal
import Qfx.Lemmas.CodecBody
import Qfx.Lemmas.CodecXml
import Qfx.Lemmas.CodecDictSegs
import Qfx.Lemmas.CodecAnyDict
import Qfx.Lemmas.CodecTenWitness
import Qfx.Lemmas.CodecScanBridge
import Qfx.Lemmas.CodecScanWitness
import Qfx.Lemmas.CodecDictExample
open Qfx Qfx.Spec

/-- the field extracted from a buffer is exactly the bytes up to and including the first SOH; the rest is what follows -/
theorem C11_extractField_slices (b rem : Bytes) (tv : TagValue) (h : extractField b = (rem, .ok tv)) :
    ∃ e, indexByte b SOH = some e ∧ tv.bytes = b.take (e + 1) ∧ rem = b.drop (e + 1) := by
  revert h
  -- case2: an SOH at `e`, the only leaf that can return `.ok tv`
  fun_cases extractField b with
  | case2 e he raw hraw =>
    intro h
    obtain ⟨h1, h2⟩ := Prod.mk.inj h
    -- `parse` keeps the slice it is given as the field's bytes
    have hb : tv.bytes = raw := by
      revert h2
      fun_cases TagValue.parse raw <;> intro h2 <;> cases h2
      rfl
    refine ⟨e, he, ?_, h1.symm⟩
    revert hraw
    fun_cases sliceR b 0 (e + 1) with   -- case1: the bounds hold
    | case1 => intro hraw; cases hraw; simpa using hb
    | case2 => nofun
  | _ => simp

/-- `extractSpecificField`: success means the extracted field carries the expected tag -/
theorem C11_extractSpecific_tag (fx : Fixes) (t : Tag) (fields : List TagValue) (idx : Nat) (raw : Bytes) (hd : FieldMap)
    (r : List TagValue × Bytes × FieldMap) (h : extractSpecific fx t fields idx raw hd = .ok r) :
    ∃ tv, extractField raw = (r.2.1, .ok tv) ∧ tv.tag = t ∧ r.1 = fields.set idx tv := by
  revert h
  -- case4: a field was extracted and `hne : ¬ tv.tag ≠ t`
  fun_cases extractSpecific fx t fields idx raw hd with
  | case4 _ rem tv hex hne => intro h; cases h; exact ⟨tv, hex, by simpa using hne, rfl⟩
  | _ => nofun

/-- "A message whose first three fields are not 8, 9, 35 in that order … is rejected with an error":
    whenever parsing succeeds (any dictionaries, fixed or unchanged code), the first three extracted fields carry the
    tags 8, 9 and 35, and they are the first three entries of `Message.fields`. -/
theorem C11_rejects_order (fx : Fixes) (d : Dicts) (w : Bytes) (m : Message) (h : parseMessage fx d w = .ok m) :
    ∃ f1 f2 f3 r1 r2 r3, extractField w = (r1, .ok f1) ∧ f1.tag = 8 ∧ extractField r1 = (r2, .ok f2) ∧ f2.tag = 9 ∧
      extractField r2 = (r3, .ok f3) ∧ f3.tag = 35 := by
  obtain ⟨_, r1, _, _, r2, _, _, r3, _, _, _, _, e1, e2, e3, _, _⟩ := parseMessage_ok_inv h
  obtain ⟨t1, x1, y1, _⟩ := C11_extractSpecific_tag _ _ _ _ _ _ _ e1
  obtain ⟨t2, x2, y2, _⟩ := C11_extractSpecific_tag _ _ _ _ _ _ _ e2
  obtain ⟨t3, x3, y3, _⟩ := C11_extractSpecific_tag _ _ _ _ _ _ _ e3
  exact ⟨t1, t2, t3, r1, r2, r3, x1, y1, x2, y2, x3, y3⟩

/-- the length check at the end of `doParsing`: a result is only produced when BodyLength (read through the header
    map) equals the summed length of every field except 8, 9, 10 — or the message carried XMLData -/
theorem C11_finish_checks_length (fields : List TagValue) (c : PCore) (r : List TagValue × PCore)
    (h : finishParse fields c = .ok r) :
    r.1 = fields ∧ ∃ bl, r.2.header.getInt fields 9 = .ok bl ∧ (bl = (fieldsLength fields : Nat) ∨ c.xmlDataMsg = true) := by
  have hx : (finishAdjust c).xmlDataMsg = c.xmlDataMsg := by
    unfold finishAdjust; simp only []; split <;> split <;> rfl
  revert h
  -- case2: BodyLength was read and the refusing condition `hc` is false
  fun_cases finishParse fields c with
  | case2 _ bl hbl hc =>
    intro h; cases h
    refine ⟨rfl, bl, hbl, ?_⟩
    rw [hx] at hc
    rcases Decidable.not_and_iff_not_or_not.1 hc with h | h
    · exact Or.inl (Decidable.not_not.1 h).symm
    · exact Or.inr (by simpa using h)
  | _ => nofun

/-- running out of fields succeeds only through the final length check (in `parseGroup`, when the field parsed last is CheckSum) -/
theorem outOfFields_ends (fx : Fixes) (mode : Mode) (fields : List TagValue) (idx : Nat) (c : PCore) (r : List TagValue × PCore)
    (h : outOfFields fx mode fields idx c = .ok r) : ∃ fs c0, finishParse fs c0 = .ok r := by
  revert h
  -- case2: `parseGroup`, the field parsed last is CheckSum: the result IS `finishParse …`
  fun_cases outOfFields fx mode fields idx c with
  | case2 => exact fun h => ⟨_, _, h⟩
  | _ => nofun

/-- every successful run of the parse loop (main loop and `parseGroup`, any dictionaries) ends in the final length check -/
theorem C11_loop_ends_in_length_check (fx : Fixes) (d : Dicts) (mode : Mode) (fields : List TagValue) (idx : Nat) (c : PCore)
    (r : List TagValue × PCore) (h : parseLoop fx d mode fields idx c = .ok r) :
    ∃ fs c0, finishParse fs c0 = .ok r := by
  fun_induction parseLoop fx d mode fields idx c
  -- the leaves: error or fault, `finishParse`, `outOfFields`, a recursive call (hypothesis last or last but one)
  all_goals (first | (cases h; done) | (exact ⟨_, _, h⟩) | (exact outOfFields_ends _ _ _ _ _ _ h) | (rename_i ih; exact ih h) | (rename_i ih _; exact ih h))

/-- "… or whose BodyLength disagrees with its content, is rejected with an error": whenever parsing succeeds, the
    BodyLength read back from the parsed header equals the summed length of all fields except 8, 9, 10 — unless the
    parser saw XMLData (`xmlDataMsg`), for which the Go code skips the comparison. -/
theorem C11_rejects_length (fx : Fixes) (d : Dicts) (w : Bytes) (m : Message) (h : parseMessage fx d w = .ok m) :
    ∃ bl, m.header.getInt m.fields 9 = .ok bl ∧
      (bl = (fieldsLength m.fields : Nat) ∨ ∃ c0 : PCore, c0.xmlDataMsg = true ∧ (finishParse m.fields c0).isOk = true) := by
  obtain ⟨_, _, _, _, _, _, _, _, _, _, fields, c', _, _, _, hl, rfl⟩ := parseMessage_ok_inv h
  obtain ⟨fs, c0, hf⟩ := C11_loop_ends_in_length_check _ _ _ _ _ _ _ hl
  obtain ⟨hfs, bl, hbl, hor⟩ := C11_finish_checks_length fs c0 _ hf
  simp only at hfs hbl
  subst hfs
  exact ⟨bl, hbl, hor.imp id fun hor => ⟨c0, hor, by show (finishParse fields c0).isOk = true; rw [hf]; rfl⟩⟩

/-- FIDELITY (no dictionary).  "For every message that starts with BeginString, BodyLength, MsgType, ends with CheckSum and has a
    correct BodyLength, parsing succeeds, … the field order is preserved for validation, and the message's raw bytes are
    returned unchanged."  For every well-formed wire message `8, 9, 35, pre…, 10` — arbitrary tag texts that `atoi` reads
    (`IsWire`: non-empty, free of `=` and SOH), arbitrary SOH-free values, no further 9 / 10 and no XMLDataLen among `pre` —
    whose BodyLength value is the summed length of all fields but 8, 9, 10: the parse succeeds, `Message.fields` is exactly
    the wire's field list in order, `Bytes()` is the wire.  Holds for the unchanged and the fixed code (`fx` arbitrary). -/
theorem C11_faithful_nodict (fx : Fixes) (t8 t9 t35 : TagValue) (pre : List TagValue) (t10 : TagValue)
    (hw : WireMsg t8 t9 t35 pre t10)
    (hbl : atoi t9.value = .ok ((fieldsLength (t8 :: t9 :: t35 :: (pre ++ [t10])) : Nat) : Int)) :
    ∃ m, parseMessage fx Dicts.none (wireOf (t8 :: t9 :: t35 :: (pre ++ [t10]))) = .ok m ∧
      m.fields = t8 :: t9 :: t35 :: (pre ++ [t10]) ∧
      m.bytes fx = .ok (wireOf (t8 :: t9 :: t35 :: (pre ++ [t10])), m) :=
  ⟨_, parse_wire_nodict fx t8 t9 t35 pre t10 hw hbl, rfl, rfl⟩

/-- RETRIEVABILITY (no dictionary).  "every field is retrievable from the section its tag belongs to with exactly its wire
    value": in the message parsed from such a wire, every field whose tag occurs once on the wire is returned by `GetBytes`
    on the section of its tag (header for `IsHeader` tags, trailer for `IsTrailer` tags, body otherwise) with its wire value. -/
theorem C11_retrievable_nodict (fx : Fixes) (t8 t9 t35 : TagValue) (pre : List TagValue) (t10 : TagValue)
    (hw : WireMsg t8 t9 t35 pre t10)
    (hbl : atoi t9.value = .ok ((fieldsLength (t8 :: t9 :: t35 :: (pre ++ [t10])) : Nat) : Int))
    (j : Nat) (tv : TagValue) (hj : (t8 :: t9 :: t35 :: (pre ++ [t10]))[j]? = some tv)
    (huniq : ∀ j' tv', (t8 :: t9 :: t35 :: (pre ++ [t10]))[j']? = some tv' → j' ≠ j → tv'.tag ≠ tv.tag) :
    ∃ m, parseMessage fx Dicts.none (wireOf (t8 :: t9 :: t35 :: (pre ++ [t10]))) = .ok m ∧
      (m.sec (secOf Dicts.none tv.tag)).getBytes m.fields tv.tag = .ok tv.value := by
  refine ⟨_, parse_wire_nodict fx t8 t9 t35 pre t10 hw hbl, ?_⟩
  have hfind := ndFinal_find t8 t9 t35 pre t10 hw j tv hj huniq
  rw [secOf_none]
  have hsec : ∀ s, (ndMessage t8 t9 t35 pre t10).sec s = (ndFinal t8 t9 t35 pre t10).sec s := by
    intro s; cases s <;> rfl
  rw [hsec]
  exact getBytes_view _ _ _ j tv hfind hj

/-- FIDELITY AND RETRIEVABILITY WITH DICTIONARIES (application dictionary, or transport + application dictionaries), for
    messages none of whose fields starts a repeating group under the application dictionary (`NoGroupTag`: the dictionary
    lists no member fields under that tag, for any message type) — e.g. every message whose fields are plain fields of the
    dictionary or unknown to it.  Header / trailer membership then comes from `IsHeader` / `IsTrailer` AND the transport
    dictionary (`secOf d`); the transport dictionary must not list CheckSum in its header.  The parse succeeds, `Message.fields`
    is the wire's field list in order, `Bytes()` is the wire, and every field with a unique tag is returned by `GetBytes`
    from the section `secOf d` assigns to its tag. -/
theorem C11_faithful_dict_nogroups (fx : Fixes) (d : Dicts) (t8 t9 t35 : TagValue) (pre : List TagValue) (t10 : TagValue)
    (hw : WireMsg t8 t9 t35 pre t10)
    (hbl : atoi t9.value = .ok ((fieldsLength (t8 :: t9 :: t35 :: (pre ++ [t10])) : Nat) : Int))
    (hng : ∀ tv ∈ pre, NoGroupTag d tv.tag) (hng10 : NoGroupTag d 10) (hh10 : isHeaderField d 10 = false) :
    ∃ m, parseMessage fx d (wireOf (t8 :: t9 :: t35 :: (pre ++ [t10]))) = .ok m ∧
      m.fields = t8 :: t9 :: t35 :: (pre ++ [t10]) ∧
      m.bytes fx = .ok (wireOf (t8 :: t9 :: t35 :: (pre ++ [t10])), m) ∧
      ∀ (j : Nat) (tv : TagValue), (t8 :: t9 :: t35 :: (pre ++ [t10]))[j]? = some tv →
        (∀ j' tv', (t8 :: t9 :: t35 :: (pre ++ [t10]))[j']? = some tv' → j' ≠ j → tv'.tag ≠ tv.tag) →
        (m.sec (secOf d tv.tag)).getBytes m.fields tv.tag = .ok tv.value := by
  refine ⟨_, parse_wire_plain fx t8 t9 t35 pre t10 hw hbl hng hng10 hh10, rfl, rfl, ?_⟩
  intro j tv hj huniq
  have hfind := plainFinal_find (d := d) t8 t9 t35 pre t10 hw j tv hj huniq
  have hsec : ∀ s, (plainMessage d t8 t9 t35 pre t10).sec s = (plainFinal d t8 t9 t35 pre t10).sec s := by
    intro s; cases s <;> rfl
  rw [hsec]
  exact getBytes_view _ _ _ j tv hfind hj

/-- FIDELITY UNDER ANY DICTIONARIES WHATSOEVER, EVERY WELL-FORMED WIRE MESSAGE (fixed code; what `C11_faithful_full` says once its side condition is about numeric tags).
    `d` is arbitrary — no dictionary, an application dictionary, transport + application dictionaries, repeating groups of any depth,
    adjacent groups, groups followed by header or trailer fields, user-defined header/trailer tags, fields unknown to the dictionary,
    duplicated tags, a MsgType the dictionary does not know, even a dictionary that lists CheckSum inside a group.  For every wire message
    `8, 9, 35, pre…, 10` (`WireMsg`: tag texts that `atoi` reads, SOH-free values, no further field whose NUMERIC tag is 9 / 10 / 212,
    BodyLength = Σ field lengths) the parse succeeds, `Message.fields` is exactly the wire's field list in order and `Bytes()` returns
    the wire.  (A loop invariant that does not depend on what the dictionaries make of the fields: `wire_iter`, `wire_loop` in
    Lemmas/CodecAnyDict.lean.) -/
theorem C11_faithful_anydict (d : Dicts) (t8 t9 t35 : TagValue) (pre : List TagValue) (t10 : TagValue)
    (hw : WireMsg t8 t9 t35 pre t10)
    (hbl : atoi t9.value = .ok ((fieldsLength (t8 :: t9 :: t35 :: (pre ++ [t10])) : Nat) : Int)) :
    ∃ m, parseMessage Fixes.cur d (wireOf (t8 :: t9 :: t35 :: (pre ++ [t10]))) = .ok m ∧
      m.fields = t8 :: t9 :: t35 :: (pre ++ [t10]) ∧
      m.bytes Fixes.cur = .ok (wireOf (t8 :: t9 :: t35 :: (pre ++ [t10])), m) := by
  obtain ⟨c', h⟩ := parse_wire_anydict (d := d) t8 t9 t35 pre t10 hw hbl
  exact ⟨_, h, rfl, rfl⟩

/-- WHAT "THE SECTION ITS TAG BELONGS TO" CANNOT PROMISE UNDER AN ARBITRARY DICTIONARY: under the dictionary `tenD` — message type D with
    a repeating group 453 whose members are 448 and CheckSum (10) — the well-formed message `8=F 9=17 35=D 453=1 448=a 10=000` parses
    with all its fields, but `parseGroup` takes `10=` for a member of the group: the body's field for 453 covers `453=1 448=a 10=000` and
    the TRAILER HAS NO CheckSum.  (`parseGroup` runs out of fields, adds the group to the body and returns; `doParsing` ends its loop
    because the field parsed last is CheckSum; before the fix of D2 the same input indexed past the field array.)  The codec family
    replays this witness on the real parser (`junk.checksum-member`, dictionary `@TEN` loaded by `datadictionary.Parse`); the path is
    `outOfFields` in the model. -/
theorem C11_checksum_member_swallowed :
    ∃ (d : Dicts) (t8 t9 t35 : TagValue) (pre : List TagValue) (t10 : TagValue) (m : Message),
      WireMsg t8 t9 t35 pre t10 ∧ atoi t9.value = .ok ((fieldsLength (t8 :: t9 :: t35 :: (pre ++ [t10])) : Nat) : Int) ∧
      parseMessage Fixes.cur d (wireOf (t8 :: t9 :: t35 :: (pre ++ [t10]))) = .ok m ∧
      m.fields = t8 :: t9 :: t35 :: (pre ++ [t10]) ∧ alFind m.trailer.lookup 10 = none ∧
      alFind m.body.lookup 453 = some (.view 3 3) := by
  obtain ⟨m, h1, h2, h3, h4⟩ := ten_swallowed
  exact ⟨tenD, w8, w9, w35, [w453, w448], w10, m, ten_wireMsg, ten_bodyLength, h1, h2, h3, h4⟩

/-- WITH DICTIONARIES, MESSAGES WITH ANY NUMBER OF REPEATING GROUPS (fixed code): the wire
    `8, 9, 35, (plain…, G=<n>, <members>, z)…, plain…, 10` — every run `Seg` = plain fields, the count field of a group `G` of the
    message type, its member fields in any arrangement of two nesting levels (`Walk2`), a plain body field `z` behind it that belongs to
    no level of the group — parses; `Message.fields` is the wire's field list in order (members included), `Bytes()` is the wire, and every
    group whose tag is not set again later is found in the body as the field holding exactly its count field and member fields. -/
theorem C11_faithful_dict_groups (d : Dicts) (mt : Bytes) (t8 t9 t35 t10 : TagValue) (segs : List Seg) (post : List TagValue)
    (hw8 : IsWire t8) (hw9 : IsWire t9) (hw35 : IsWire t35) (hw10 : IsWire t10)
    (h8 : t8.tag = 8) (h9 : t9.tag = 9) (h35 : t35.tag = 35) (h10 : t10.tag = 10) (hv : t35.value = mt)
    (hsegs : ∀ s ∈ segs, SegOK d mt s) (hpost : PlainFields d post)
    (hng10 : NoGroupTag d 10) (hh10 : isHeaderField d 10 = false)
    (hbl : atoi t9.value = .ok ((fieldsLength (t8 :: t9 :: t35 :: (segs.flatMap Seg.flat ++ (post ++ [t10]))) : Nat) : Int)) :
    ∃ m, parseMessage Fixes.cur d (wireOf (t8 :: t9 :: t35 :: (segs.flatMap Seg.flat ++ (post ++ [t10])))) = .ok m ∧
      m.fields = t8 :: t9 :: t35 :: (segs.flatMap Seg.flat ++ (post ++ [t10])) ∧
      m.bytes Fixes.cur = .ok (wireOf (t8 :: t9 :: t35 :: (segs.flatMap Seg.flat ++ (post ++ [t10]))), m) ∧
      ∀ (A : List Seg) (s : Seg) (B : List Seg), segs = A ++ s :: B →
        (∀ tv ∈ s.z0 :: (B.flatMap Seg.adds ++ post), tv.tag ≠ s.g0.tag) →
        ∃ f, alFind m.body.lookup s.g0.tag = some f ∧ f.items m.fields = s.g0 :: s.M := by
  obtain ⟨m, hparse, hfields, hraw, hgrp⟩ := parse_dict_segs (d := d) t8 t9 t35 t10 segs post hw8 hw9 hw35 hw10 h8 h9 h35 h10 hv hsegs hpost
    hng10 hh10 hbl
  exact ⟨m, hparse, hfields, by simp [Message.bytes, hraw], hgrp⟩

/-- THE SAME FOR REPEATING GROUPS WITH NESTED GROUPS OF ANY DEPTH (fixed code): `fs` the application dictionary's field list of the
    message type (`AppMsg`); every run (`SegOKN`) = plain fields, the count field of a group of `fs`, member fields that move the
    parser's tag stack as `stepSpec` says — stay, push a nested group, pop to the enclosing level that lists the tag (any number of levels,
    the D6 pop), pop and push (`WalkN`) —, and a plain body field `z` that no level of the stack lists.  The parse succeeds,
    `Message.fields` = the wire's field list, `Bytes()` = the wire, every group whose tag is not set again later is in the body as exactly
    its count field and all its member fields, and every such `z` whose tag is not set again later is returned by `Body.GetBytes`. -/
theorem C11_faithful_dict_groups_anydepth (d : Dicts) (mt : Bytes) (fs : List DNode) (ha : AppMsg d mt fs)
    (t8 t9 t35 t10 : TagValue) (segs : List Seg) (post : List TagValue)
    (hw8 : IsWire t8) (hw9 : IsWire t9) (hw35 : IsWire t35) (hw10 : IsWire t10)
    (h8 : t8.tag = 8) (h9 : t9.tag = 9) (h35 : t35.tag = 35) (h10 : t10.tag = 10) (hv : t35.value = mt)
    (hsegs : ∀ s ∈ segs, SegOKN d mt fs s) (hpost : PlainFields d post)
    (hng10 : NoGroupTag d 10) (hh10 : isHeaderField d 10 = false)
    (hbl : atoi t9.value = .ok ((fieldsLength (t8 :: t9 :: t35 :: (segs.flatMap Seg.flat ++ (post ++ [t10]))) : Nat) : Int)) :
    ∃ m, parseMessage Fixes.cur d (wireOf (t8 :: t9 :: t35 :: (segs.flatMap Seg.flat ++ (post ++ [t10])))) = .ok m ∧
      m.fields = t8 :: t9 :: t35 :: (segs.flatMap Seg.flat ++ (post ++ [t10])) ∧
      m.bytes Fixes.cur = .ok (wireOf (t8 :: t9 :: t35 :: (segs.flatMap Seg.flat ++ (post ++ [t10]))), m) ∧
      (∀ (A : List Seg) (s : Seg) (B : List Seg), segs = A ++ s :: B →
        (∀ tv ∈ s.z0 :: (B.flatMap Seg.adds ++ post), tv.tag ≠ s.g0.tag) →
        ∃ f, alFind m.body.lookup s.g0.tag = some f ∧ f.items m.fields = s.g0 :: s.M) ∧
      (∀ (A : List Seg) (s : Seg) (B : List Seg), segs = A ++ s :: B →
        (∀ tv ∈ B.flatMap Seg.adds ++ post, tv.tag ≠ s.z0.tag) → m.body.getBytes m.fields s.z0.tag = .ok s.z0.value) := by
  obtain ⟨m, hparse, hfields, hraw, hgrp, hzf⟩ := parse_dict_segsN (d := d) ha t8 t9 t35 t10 segs post hw8 hw9 hw35 hw10 h8 h9 h35 h10 hv
    hsegs hpost hh10 hbl
  exact ⟨m, hparse, hfields, by simp [Message.bytes, hraw], hgrp, hzf⟩

/-- THE SAME WITH THE RUNS DESCRIBED FROM THE DICTIONARY ALONE (`SegNested`): the member fields of every group are WELL NESTED w.r.t. the
    dictionary (`GroupWalk`: leaf members of the level, count fields of groups nested in it each followed by a well-nested sequence for
    that group — entries, delimiters and member order are free), the dictionary tree under the group lists no tag at two levels of one
    branch and none that is a header / trailer field or a top-level group (`TreeOK`), and the field behind the group is listed nowhere in
    that tree.  No reference to the parser's stack moves: `groupWalk_walkN` shows the fixed `parseGroup` walks such a sequence along
    its nesting. -/
theorem C11_faithful_dict_wellnested (d : Dicts) (mt : Bytes) (fs : List DNode) (ha : AppMsg d mt fs)
    (t8 t9 t35 t10 : TagValue) (segs : List Seg) (post : List TagValue)
    (hw8 : IsWire t8) (hw9 : IsWire t9) (hw35 : IsWire t35) (hw10 : IsWire t10)
    (h8 : t8.tag = 8) (h9 : t9.tag = 9) (h35 : t35.tag = 35) (h10 : t10.tag = 10) (hv : t35.value = mt)
    (hsegs : ∀ s ∈ segs, SegNested d fs s) (hpost : PlainFields d post)
    (hng10 : NoGroupTag d 10) (hh10 : isHeaderField d 10 = false)
    (hbl : atoi t9.value = .ok ((fieldsLength (t8 :: t9 :: t35 :: (segs.flatMap Seg.flat ++ (post ++ [t10]))) : Nat) : Int)) :
    ∃ m, parseMessage Fixes.cur d (wireOf (t8 :: t9 :: t35 :: (segs.flatMap Seg.flat ++ (post ++ [t10])))) = .ok m ∧
      m.fields = t8 :: t9 :: t35 :: (segs.flatMap Seg.flat ++ (post ++ [t10])) ∧
      m.bytes Fixes.cur = .ok (wireOf (t8 :: t9 :: t35 :: (segs.flatMap Seg.flat ++ (post ++ [t10]))), m) ∧
      (∀ (A : List Seg) (s : Seg) (B : List Seg), segs = A ++ s :: B →
        (∀ tv ∈ s.z0 :: (B.flatMap Seg.adds ++ post), tv.tag ≠ s.g0.tag) →
        ∃ f, alFind m.body.lookup s.g0.tag = some f ∧ f.items m.fields = s.g0 :: s.M) ∧
      (∀ (A : List Seg) (s : Seg) (B : List Seg), segs = A ++ s :: B →
        (∀ tv ∈ B.flatMap Seg.adds ++ post, tv.tag ≠ s.z0.tag) → m.body.getBytes m.fields s.z0.tag = .ok s.z0.value) :=
  C11_faithful_dict_groups_anydepth d mt fs ha t8 t9 t35 t10 segs post hw8 hw9 hw35 hw10 h8 h9 h35 h10 hv
    (fun s hs => (hsegs s hs).ok) hpost hng10 hh10 hbl

/-- THE SECTION MAPS UNDER DICTIONARIES, ANY ARRANGEMENT OF PLAIN FIELDS AND REPEATING GROUPS (`C11_retrievable_full` with numeric tags and
    dictionaries; fixed code).  `fs` = the application dictionary's field list of the message type; the message is `8, 9, 35, items…, 10`
    where `items` is ANY sequence (`ItemsN`, described from the dictionaries alone) of
      * plain fields (tag ≠ 9, 10, 35, 212; not the count field of a group), and
      * repeating groups of `fs`: count field + member fields that are well nested w.r.t. the dictionary (`GroupWalk`, any depth) over a
        tag-disjoint tree (`TreeOK`),
    a group being followed by ANYTHING whose tag its dictionary tree does not list: a plain body field, a HEADER or TRAILER field — built-in
    or defined by the TRANSPORT dictionary only (user-defined tags; this is where the seeded change C11-m1 lives) —, DIRECTLY the count
    field of another group, or CheckSum.  Then the parse succeeds, `Message.fields` = the wire's fields, `Bytes()` = the wire, and the three
    section maps are EXACTLY the additions in wire order (`itmAdds`): every plain field added to the section `secOf d` assigns its tag
    (transport dictionary ∪ built-in lists) as a one-field view, every group added to the body as ONE view over its count field and all its
    member fields, CheckSum to the trailer; the member fields add nothing. -/
theorem C11_sections_dict_items (d : Dicts) (mt : Bytes) (fs : List DNode) (ha : AppMsg d mt fs)
    (t8 t9 t35 t10 : TagValue) (items : List Itm) (s' : Option (List DNode))
    (hw8 : IsWire t8) (hw9 : IsWire t9) (hw35 : IsWire t35) (hw10 : IsWire t10)
    (h8 : t8.tag = 8) (h9 : t9.tag = 9) (h35 : t35.tag = 35) (h10 : t10.tag = 10) (hv : t35.value = mt)
    (hok : ItemsN d fs none items s') (hclose : ClosesN s') (hh10 : isHeaderField d 10 = false)
    (hbl : atoi t9.value = .ok ((fieldsLength (t8 :: t9 :: t35 :: (flatItms items ++ [t10])) : Nat) : Int)) :
    ∃ m, parseMessage Fixes.cur d (wireOf (t8 :: t9 :: t35 :: (flatItms items ++ [t10]))) = .ok m ∧
      m.fields = t8 :: t9 :: t35 :: (flatItms items ++ [t10]) ∧
      m.bytes Fixes.cur = .ok (wireOf (t8 :: t9 :: t35 :: (flatItms items ++ [t10])), m) ∧
      ∀ s, m.sec s = applyAdds s (itmAdds d 3 items ++ [(Sec.t, 10, Field.view (3 + (flatItms items).length) 1)]) (initSec t8 t9 t35 s) := by
  -- `ItemsN` (dictionaries alone) to `ItemsOK` (the parser's tag stack)
  obtain ⟨so', hok', hso'⟩ := itemsN_ok hok none trivial
  obtain ⟨m, h1, h2, h3, h4⟩ := parse_dict_items (d := d) ha t8 t9 t35 t10 items so' hw8 hw9 hw35 hw10 h8 h9 h35 h10 hv hok'
    (closesN_ok hclose hso') hh10 hbl
  exact ⟨m, h1, h2, by simp [Message.bytes, h3], h4⟩

/-- RETRIEVABILITY, from the above: (a) a plain field at wire position `3 + |A|` is returned by `GetBytes` from the section of its tag with its
    wire value, provided nothing later is added under the same tag to the same section (a later plain field with that tag in that
    section, or — for body tags — a later group with that tag); (b) a group is found in the body as the field holding exactly its count
    field and all its member fields, under the same proviso. -/
theorem C11_retrievable_dict_items (d : Dicts) (mt : Bytes) (fs : List DNode) (ha : AppMsg d mt fs)
    (t8 t9 t35 t10 : TagValue) (items : List Itm) (s' : Option (List DNode))
    (hw8 : IsWire t8) (hw9 : IsWire t9) (hw35 : IsWire t35) (hw10 : IsWire t10)
    (h8 : t8.tag = 8) (h9 : t9.tag = 9) (h35 : t35.tag = 35) (h10 : t10.tag = 10) (hv : t35.value = mt)
    (hok : ItemsN d fs none items s') (hclose : ClosesN s') (hh10 : isHeaderField d 10 = false)
    (hbl : atoi t9.value = .ok ((fieldsLength (t8 :: t9 :: t35 :: (flatItms items ++ [t10])) : Nat) : Int)) :
    ∃ m, parseMessage Fixes.cur d (wireOf (t8 :: t9 :: t35 :: (flatItms items ++ [t10]))) = .ok m ∧
      (∀ (A B : List Itm) (tv : TagValue), items = A ++ .plain tv :: B → tv.tag ≠ 10 →
        (∀ a ∈ itmAdds d (3 + (flatItms A).length + 1) B, ¬ (a.1 = secOf d tv.tag ∧ a.2.1 = tv.tag)) →
        (m.sec (secOf d tv.tag)).getBytes m.fields tv.tag = .ok tv.value) ∧
      (∀ (A B : List Itm) (g0 : TagValue) (M : List TagValue), items = A ++ .group g0 M :: B → g0.tag ≠ 10 →
        (∀ a ∈ itmAdds d (3 + (flatItms A).length + 1 + M.length) B, ¬ (a.1 = Sec.b ∧ a.2.1 = g0.tag)) →
        ∃ f, alFind m.body.lookup g0.tag = some f ∧ f.items m.fields = g0 :: M) := by
  obtain ⟨so', hok', hso'⟩ := itemsN_ok hok none trivial
  obtain ⟨m, h1, _, _, hp, hg⟩ := parse_dict_found (d := d) ha t8 t9 t35 t10 items so' hw8 hw9 hw35 hw10 h8 h9 h35 h10 hv hok'
    (closesN_ok hclose hso') hh10 hbl
  exact ⟨m, h1, hp, fun A B g0 M hsplit _ hlater => ⟨_, (hg A B g0 M hsplit hlater).1, (hg A B g0 M hsplit hlater).2.1⟩⟩

/-! non-vacuity of `SegOKN` (three nesting levels, a pop over two levels): Qfx/Lemmas/CodecDictExample.lean -/
example := @exSegOKN
example := @exSegNested
/-! non-vacuity of `ItemsN`: a three-level group, DIRECTLY another group, DIRECTLY a user-defined trailer tag of the transport dictionary -/
example := @exItemsN

/-! non-vacuity of `SegOK` (a run with a two-entry NoPartyIDs group, nested NoPartySubIDs): Qfx/Lemmas/CodecDictExample.lean -/
example := @exSegOK

/-- `bodyBytes` (what the resend rebuild `buildWithBodyBytes` re-emits; byte layer of C03): for a wire message whose fields come as
    8, 9, 35, further header fields (at least one), body fields (at least one), trailer fields, 10 — parsed without dictionary —
    `Message.bodyBytes` is exactly the bytes of the body fields: it starts behind the last header field and ends in front of
    the first trailer field / CheckSum. -/
theorem C11_bodyBytes_nodict (fx : Fixes) (t8 t9 t35 t10 : TagValue) (H B T : List TagValue)
    (hw : WireMsg t8 t9 t35 (H ++ (B ++ T)) t10)
    (hbl : atoi t9.value = .ok ((fieldsLength (t8 :: t9 :: t35 :: ((H ++ (B ++ T)) ++ [t10])) : Nat) : Int))
    (hH : ∀ tv ∈ H, secOf Dicts.none tv.tag = .h) (hHne : H ≠ []) (hB : ∀ tv ∈ B, secOf Dicts.none tv.tag = .b) (hBne : B ≠ [])
    (hT : ∀ tv ∈ T, secOf Dicts.none tv.tag = .t) :
    ∃ m, parseMessage fx Dicts.none (wireOf (t8 :: t9 :: t35 :: ((H ++ (B ++ T)) ++ [t10]))) = .ok m ∧ m.bodyBytes = wireOf B := by
  refine ⟨_, parse_wire_nodict fx t8 t9 t35 _ t10 hw hbl, ?_⟩
  apply ndMessage_bodyBytes t8 t9 t35 t10 H B T hw.tag10
  · intro tv h; rw [← secOf_none]; exact hH tv h
  · exact hHne
  · intro tv h; rw [← secOf_none]; exact hB tv h
  · exact hBne
  · intro tv h
    obtain ⟨tt, hne, _, _, hb, _⟩ := (hw.wpre tv (by simp [h])).1
    rw [hb]; simp
  · intro tv h; rw [← secOf_none]; exact hT tv h

/-- XMLData CARRIED WITH ITS LENGTH ("including XMLData carried with its length").  For every wire message
    `8, 9, 35, plain…, 212=<n>, 213=<data>, plain…, 10` in which `data` is ANY `n > 0` bytes (SOH, `=`, anything), with any
    dictionaries under which the plain fields start no group: the parse succeeds, `Message.fields` is the wire's field list in
    order — the 213 field with exactly the `n` data bytes as its value — followed by one unused (zero) entry per SOH byte inside
    the data (Go sizes the array by counting SOH), and `Bytes()` is the wire.  (For such messages Go skips the BodyLength
    comparison; BodyLength only has to be an integer.) -/
theorem C11_faithful_xml (fx : Fixes) (d : Dicts) (t8 t9 t35 x212 x213 t10 : TagValue) (preA postB : List TagValue) (bl : Int)
    (hw8 : IsWire t8) (hw9 : IsWire t9) (hw35 : IsWire t35) (hw10 : IsWire t10)
    (h8 : t8.tag = 8) (h9 : t9.tag = 9) (h35 : t35.tag = 35) (h10 : t10.tag = 10)
    (hpre : PlainFields d preA) (hpost : PlainFields d postB)
    (hw212 : IsWire x212) (h212 : x212.tag = 212) (hlen : atoi x212.value = .ok (x213.value.length : Int)) (hpos : 0 < x213.value.length)
    (hw213 : IsXmlWire x213) (h213 : x213.tag = 213)
    (hng10 : NoGroupTag d 10) (hh10 : isHeaderField d 10 = false) (hbl : atoi t9.value = .ok bl) :
    ∃ m, parseMessage fx d (wireOf (t8 :: t9 :: t35 :: (preA ++ x212 :: x213 :: (postB ++ [t10])))) = .ok m ∧
      m.fields = t8 :: t9 :: t35 :: (preA ++ x212 :: x213 :: (postB ++ [t10])) ++ List.replicate (countByte x213.value SOH) TagValue.zero ∧
      m.raw = some (wireOf (t8 :: t9 :: t35 :: (preA ++ x212 :: x213 :: (postB ++ [t10])))) :=
  parse_xml fx t8 t9 t35 x212 x213 t10 preA postB bl hw8 hw9 hw35 hw10 h8 h9 h35 h10 hpre hpost hw212 h212 hlen hpos hw213 h213 hh10 hbl

/-- PANIC FREEDOM OF THE PARSER (codec part of C09; `C09_parse_total` of DESIGN §5).  After the fixes of D2 and D3, for EVERY
    byte string and EVERY dictionaries (transport and application, any content), `ParseMessageWithDataDictionary` into a
    fresh message returns a message or an error: none of the Go index / slice expressions of `doParsing`, `parseGroup`,
    `extractField`, `extractXMLDataField`, `TagValue.parse`, `atoi`, the header lookups (`getIntNoLock` of 9 / 212,
    `msgTypeNoLock`) is ever out of range.  On the unchanged code the statement is false (C11_orig_no_checksum_faults,
    C11_orig_xml_len_faults). -/
theorem C11_parse_total (d : Dicts) (w : Bytes) : ∀ x, parseMessage Fixes.cur d w ≠ .fault x :=
  parseMessage_nofault d w

/-- GETTERS ON A PARSED MESSAGE NEVER PANIC (`C09_getters_total`, codec part).  In every message the fixed parser returns —
    any input, any dictionaries — each section map holds only non-empty views inside `Message.fields`; hence `GetBytes`,
    `GetInt` and `GetGroup` (any template, any nesting) on any section and any tag return a value or an error, never an
    index / slice fault. -/
theorem C11_getters_total (d : Dicts) (w : Bytes) (m : Message) (hm : parseMessage Fixes.cur d w = .ok m) (s : Sec) (t : Tag) :
    (∀ x, (m.sec s).getBytes m.fields t ≠ .fault x) ∧ (∀ x, (m.sec s).getInt m.fields t ≠ .fault x) ∧
    ∀ (f : Field) (tmpl : List Item), alFind (m.sec s).lookup t = some f → ∀ x, getGroup tmpl (f.full m.fields) ≠ .fault x := by
  obtain ⟨vh, vb, vt⟩ := parseMessage_views d w m hm
  have hv : ViewsOK m.fields (m.sec s) := by cases s <;> assumption
  exact ⟨getBytes_nofault hv t, getInt_nofault hv t, fun f tmpl hf => getGroup_nofault hv t f hf tmpl⟩

/-! ## the statements in the vocabulary of the independent scanner (`Qfx.Spec.scanFields` / `wfScanned` / `tagNum`) -/

/-- fidelity stated with a scanner that compares tag TEXTS against `8`, `9`, `10` (any dictionaries) -/
def C11_faithful_full : Prop :=
  ∀ (d : Dicts) (w : Bytes) (fs : List WField), scanFields w = some fs → wfScanned fs = true →
    (fs.all fun f => (tagNum f.tagText).isSome && tagNum f.tagText != some 212) →
    ∃ m, parseMessage Fixes.cur d w = .ok m ∧ m.raw = some w ∧
      m.fields = fs.map (fun f => { tag := (tagNum f.tagText).getD 0, value := f.val, bytes := f.raw })

/-- … IS FALSE AS WRITTEN: `8=F 9=11 35=D 010=x 10=198` is well-formed for the scanner (the tag text `010` is not `10`, BodyLength and CheckSum
    are right), all tag texts are numeric and none reads 212 — but the parser reads `010` as CheckSum, ends its loop there, leaves the
    last slot of the field array empty and rejects the message with "incorrect message length" (`z_rejected`; replayed on the real parser
    by the codec family, `junk.leadzero-checksum`: implementation and model both answer err).  The same happens with `09`, `08`, `0212`:
    the side condition must be about NUMERIC tags (`C11_faithful_scanned`). -/
theorem C11_faithful_full_false : ¬ C11_faithful_full := by
  intro h
  obtain ⟨m, hm, _, _⟩ := h Dicts.none zWire zScanned z_scan z_wf z_tags
  rw [z_rejected Dicts.none rfl] at hm
  cases hm

/-- THE STATEMENT WITH NUMERIC TAGS, ANY DICTIONARIES (fixed code): every byte string that the independent scanner splits into fields
    (`scanFields`) and finds well-formed (`wfScanned`: 8, 9, 35 first, 10 last, BodyLength = bytes between the BodyLength field and the
    CheckSum field, CheckSum right), all tag texts numeric (`tagNum`: optional '-', 1–18 digits), and NO FIELD BETWEEN MsgType AND CheckSum
    WHOSE NUMERIC TAG IS 8, 9, 10 OR 212, of less than 2^63 bytes — parses under ANY dictionaries `d`; `Message.fields` is exactly the
    scanned field list (tag = the number, value, raw bytes) in order, and the raw bytes are kept.  (`scanLoop_wire`: what the scanner
    accepts is a concatenation of wire-form fields; `atoi_of_tagNum`: the scanner's number is `atoi`'s; `parse_wire_anydict`.) -/
theorem C11_faithful_scanned (d : Dicts) (w : Bytes) (fs : List WField) (hscan : scanFields w = some fs) (hwf : wfScanned fs = true)
    (hnum : ∀ f ∈ fs, (tagNum f.tagText).isSome)
    (hmid : ∀ f ∈ (fs.drop 3).dropLast, ∀ t, tagNum f.tagText = some t → t ≠ 8 ∧ t ≠ 9 ∧ t ≠ 10 ∧ t ≠ 212)
    (hsmall : w.length < 9223372036854775808) :
    ∃ m, parseMessage Fixes.cur d w = .ok m ∧ m.raw = some w ∧
      m.fields = fs.map (fun f => { tag := (tagNum f.tagText).getD 0, value := f.val, bytes := f.raw }) :=
  faithful_scanned d w fs hscan hwf hnum hmid hsmall

/-- RETRIEVABILITY IN THE SCANNER'S VOCABULARY (no dictionary; any `Fixes`): under the same conditions, the field at position `j` of the
    scan whose numeric tag `t` no other field of the scan carries is returned by `GetBytes` from the section of `t` with its scanned value. -/
theorem C11_retrievable_scanned (fx : Fixes) (w : Bytes) (fs : List WField) (hscan : scanFields w = some fs) (hwf : wfScanned fs = true)
    (hnum : ∀ f ∈ fs, (tagNum f.tagText).isSome)
    (hmid : ∀ f ∈ (fs.drop 3).dropLast, ∀ t, tagNum f.tagText = some t → t ≠ 8 ∧ t ≠ 9 ∧ t ≠ 10 ∧ t ≠ 212)
    (hsmall : w.length < 9223372036854775808)
    (j : Nat) (f : WField) (t : Int) (hj : fs[j]? = some f) (ht : tagNum f.tagText = some t)
    (huniq : ∀ j' g, fs[j']? = some g → j' ≠ j → tagNum g.tagText ≠ some t) :
    ∃ m, parseMessage fx Dicts.none w = .ok m ∧ (m.sec (secOf Dicts.none t)).getBytes m.fields t = .ok f.val := by
  obtain ⟨f8, f9, f35, mid, f10, hfs, hwm, hwire, hbl, htag⟩ := scanned_wireMsg w fs hscan hwf hnum hmid hsmall
  have hL : tvOf f8 :: tvOf f9 :: tvOf f35 :: (mid.map tvOf ++ [tvOf f10]) = fs.map tvOf := by rw [hfs]; simp
  have hjL : (tvOf f8 :: tvOf f9 :: tvOf f35 :: (mid.map tvOf ++ [tvOf f10]))[j]? = some (tvOf f) := by
    rw [hL, List.getElem?_map, hj]; rfl
  have hft : (tvOf f).tag = t := htag f (List.mem_of_getElem? hj) t ht
  obtain ⟨m, hm, hget⟩ := C11_retrievable_nodict fx _ _ _ _ _ hwm hbl j (tvOf f) hjL (by
    intro j' tv' hj' hne
    rw [hL, List.getElem?_map] at hj'
    obtain ⟨g, hg, rfl⟩ := Option.map_eq_some_iff.1 hj'
    obtain ⟨tg, htg⟩ := Option.isSome_iff_exists.1 (hnum g (List.mem_of_getElem? hg))
    rw [htag g (List.mem_of_getElem? hg) tg htg, hft]
    rintro rfl
    exact huniq j' g hg hne htg)
  rw [← hwire] at hm
  rw [hft] at hget
  exact ⟨m, hm, hget⟩

/-- retrievability stated with tag TEXTS.  It differs from `C11_retrievable_scanned` only on scans that contain, between
    MsgType and CheckSum, a field whose tag text reads 8, 9, 10 or 212 without being the text `8` / `9` / `10` (leading zeros), or real
    XMLData (`212=<n>` followed by data with SOH inside): for those the parser usually rejects the message (then the statement holds
    vacuously — its hypothesis is a successful parse), but e.g. `… 09=<the right length> …` is accepted with the later BodyLength in force.
    Whether the statement holds for ALL such inputs is not decided here; it stays a `def`.  The monitor (`Spec.monParse`, `expectGet`)
    uses numeric tags like the theorem. -/
def C11_retrievable_full : Prop :=
  ∀ (w : Bytes) (fs : List WField) (m : Message), scanFields w = some fs → wfScanned fs = true →
    parseMessage Fixes.cur Dicts.none w = .ok m →
    ∀ f ∈ fs, ∀ t, tagNum f.tagText = some t → (fs.filter (fun g => tagNum g.tagText = some t)).length = 1 →
      (m.sec (secOf Dicts.none t)).getBytes m.fields t = .ok f.val

/-- D2 on the unchanged code: a message without CheckSum runs past the field array (`Fixes.orig`), and is a parse error in the fixed code -/
theorem C11_orig_no_checksum_faults (fields : List TagValue) (c : PCore) (d : Dicts) :
    parseLoop Fixes.orig d .main fields fields.length c = .fault "index out of range (fields[fieldIndex])" ∧
    parseLoop Fixes.cur d .main fields fields.length c = .err "message ends without CheckSum" := by
  constructor <;> (unfold parseLoop; simp [Fixes.orig, Fixes.cur, outOfFields])

/-- D3 on the unchanged code: an XMLDataLen beyond the buffer is a slice panic (`Fixes.orig`), a parse error in the fixed code -/
theorem C11_orig_xml_len_faults (b : Bytes) (e : Nat) (n : Int) (he : indexByte b cEq = some e) (hn : (e : Int) + n + 2 > b.length) :
    (extractXMLDataField Fixes.orig b n).2 = .fault "slice bounds out of range" ∧
    (extractXMLDataField Fixes.cur b n).2 = .err "xml data length beyond the message" := by
  have hc : (e : Int) + n + 1 + 1 > (b.length : Int) ∨ (e : Int) + n + 1 < 0 := Or.inl (by omega)
  constructor <;> simp [extractXMLDataField, he, hc, Fixes.orig, Fixes.cur]

/-! non-vacuity -/
example : NoGroupTag { transport := some ([1128], []), app := some [([68], [DNode.mk 55 [], DNode.mk 453 [DNode.mk 448 []]])] } 55 := by
  intro msgs h p hp
  injection h with h; subst h
  simp only [List.mem_singleton] at hp; subst hp
  rfl
example : ¬ NoGroupTag { transport := none, app := some [([68], [DNode.mk 55 [], DNode.mk 453 [DNode.mk 448 []]])] } 453 := by
  intro h
  have := h _ rfl ([68], [DNode.mk 55 [], DNode.mk 453 [DNode.mk 448 []]]) (by simp)
  simp [pathWalk, dfind, DNode.tag, DNode.children] at this
example : (extractField [56, 61, 70, 1, 57, 61, 53, 1]).1 = [57, 61, 53, 1] := by decide

/- Clause checklist (properties.jsonl C11):
   "parsing succeeds … every field retrievable … order preserved … raw bytes unchanged"   no dictionary: C11_faithful_nodict,
        C11_retrievable_nodict; app / transport+app dictionaries, messages without dictionary groups: C11_faithful_dict_nogroups;
        XMLData with its length (any dictionaries without groups): C11_faithful_xml; any number of dictionary groups with up to two
        nesting levels, plain fields between: C11_faithful_dict_groups (one group: C13_dict_flat_group_*, C13_dict_depth2_group_*);
        ANY dictionaries, every well-formed wire message (fields, raw): C11_faithful_anydict (C11_checksum_member_swallowed: what an
        absurd dictionary does); section maps = additions in wire order for any arrangement of plain fields and groups, incl. adjacent groups
        and header/trailer fields (also user-defined transport tags) directly behind a group: C11_sections_dict_items, C11_retrievable_dict_items;
        any nesting depth: C11_faithful_dict_wellnested (runs described from the dictionary alone), C11_faithful_dict_groups_anydepth; groups directly adjacent / directly followed by a header or trailer
        field: C11_faithful_full, C11_retrievable_full (monitor)
        (monitor clauses accepts_wf, fields_faithful, parsed_sections, retrievable, raw_unchanged); field slicing: C11_extractField_slices
   "first three fields are not 8, 9, 35 … rejected"                                          C11_rejects_order
   (byte layer of C03: bodyBytes)                                                             C11_bodyBytes_nodict
   "BodyLength disagrees with its content … rejected"                                        C11_rejects_length, C11_finish_checks_length,
                                                                                              C11_loop_ends_in_length_check (+ monitor rejects_length)
   "rejected with an error" = never a panic (C09 codec part)                                 C11_parse_total, C11_getters_total (all inputs, all dictionaries, fixed code);
                                                                                              unchanged code: C11_orig_no_checksum_faults, C11_orig_xml_len_faults -/
