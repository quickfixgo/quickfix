/-
  C08 — "Application traffic flows only inside a completed logon".
  Property theorems only (the automaton: Qfx/Spec/SessionTypedC08.lean; the lemmas: Qfx/Lemmas/SessC08*.lean).

  properties.jsonl: "On every connection the first message the engine transmits is a Logon or a Logout; no application
  message is transmitted for the first time before the logon handshake has completed or after the engine has sent its
  Logout (replays answering a ResendRequest remain possible until the connection ends), and none is delivered to the
  application outside the interval between the logon notification and the logout notification. Every logged-on period
  ends with exactly one logout notification when the connection ends, and after a disconnect nothing more is written to
  that connection."
-/
import Qfx.Lemmas.SessC08Conn
import Qfx.Props.C01
open Qfx Qfx.Sess

/-- the automaton state agrees with the session between two events: nothing violated so far; "connection open" is the
    session's connection; the notification flag is up exactly in the logged-on states and the logout state; no second
    logout notification is possible; an unwritten connection is an acceptor's in the logon state; what is queued may be
    written; no Logout has been written while the session is (or is about to be) logged on -/
def C08Good (g : G8) (s : Sess) : Prop := S g s ∧ s.log = []

theorem C08Good_init (cfg : Cfg) (s0 t0 : Int) : C08Good G8.init (initSess cfg s0 t0) := by
  refine ⟨⟨{ ok := rfl, conn := rfl, cb := rfl, hs := (fun h => by cases h), notif := (fun h => by cases h),
             fresh := (fun h => by cases h), queue := (fun h => by cases h), noconn := fun _ => rfl }, fun h => by cases h⟩, rfl⟩

/-- one event, any state, any event (the application sends application messages): the automaton accepts the event's
    marked observations and stays in agreement with the session -/
theorem C08_step (s : Sess) (e : Ev) (g : G8) (happ : appSend e = true) (h : C08Good g s) :
    C08Good ((obs8Of e (step s e)).foldl c8Step g) (step s e).1 := by
  obtain ⟨hS, hlog⟩ := h
  have hS' : S g s.clearLog := hS.congr rfl rfl rfl rfl rfl rfl
  have key := SK_stepCore g s.clearLog e rfl happ hS'
  have hfold : (obs8Of e (step s e)).foldl c8Step g = g8Of (g8Start g s.clearLog e) (stepCore s.clearLog e).1 := by
    unfold obs8Of step g8Of
    simp only [List.foldl_append, List.foldl_map]
    cases e <;> first
      | rfl
      | (show List.foldl _ (List.foldl c8Step g (if ((stepCore s.clearLog Ev.connect).2 == "ok") = true then [Obs8.connected] else [])) _ = _
         unfold g8Start
         have : (stepCore s.clearLog Ev.connect).2 = (connect s.clearLog).2 := rfl
         rw [this]
         split <;> rfl)
  rw [hfold]
  exact ⟨S.congr (s := (stepCore s.clearLog e).1) key rfl rfl rfl rfl rfl rfl, rfl⟩

theorem C08_run (s : Sess) (evs : List Ev) (g : G8) (happ : evs.all appSend = true) (h : C08Good g s) :
    C08Good ((traceOf8 s evs).foldl c8Step g) (runEvents s evs) := by
  induction evs generalizing s g with
  | nil => exact h
  | cons e es ih =>
    simp only [List.all_cons, Bool.and_eq_true] at happ
    simp only [traceOf8, runEvents, List.foldl_append]
    exact ih _ _ happ.2 (C08_step s e g happ.1 h)

/-- **C08**, every configuration (both roles, every BeginString, reset options, persistence …), every initial pair of
    counters, every finite history of connects, inbound messages (direct or buffered), application sends (also while
    disconnected), flushes, timer events of all four kinds, stop requests, disconnects and session-time checks, the
    application sending application messages: the automaton accepts the whole marked trace — on every connection the
    first write is a Logon or a Logout, a first-time application message is written only after the logon notification
    of that connection and not after a Logout was written on it, nothing is delivered to the application outside the
    interval between the logon and the logout notification, a connection is closed only with the notification flag
    down, at most one logout notification is given per connection, nothing is written without an open connection,
    and a connection starts only when none is open and the notification flag is down. -/
theorem C08_trace_shape (cfg : Cfg) (s0 t0 : Int) (evs : List Ev) (happ : evs.all appSend = true) :
    c08Accepts (traceOf8 (initSess cfg s0 t0) evs) = true :=
  (C08_run (initSess cfg s0 t0) evs G8.init happ (C08Good_init cfg s0 t0)).1.1.ok

/-- after every history the automaton state mirrors the session: the notification flag is up exactly in the
    logged-on states and the logout state — so a session that is not connected has had its logout notification —
    and the automaton's connection is the session's -/
theorem C08_flags_track_session (cfg : Cfg) (s0 t0 : Int) (evs : List Ev) (happ : evs.all appSend = true) :
    let g := (traceOf8 (initSess cfg s0 t0) evs).foldl c8Step G8.init
    let s := runEvents (initSess cfg s0 t0) evs
    g.cb = (s.st.loggedOn || s.st.isLogout) ∧ g.conn = s.out ∧ (s.st.connected = false → g.cb = false ∧ g.conn = false) := by
  intro g s
  have h := (C08_run (initSess cfg s0 t0) evs G8.init happ (C08Good_init cfg s0 t0)).1.1
  refine ⟨h.cb, h.conn, fun hc => ?_⟩
  have hd := h.disconnected hc
  exact ⟨hd.2.1, hd.2.2.1⟩

/-- the fuel of the model's mutual recursion is sufficient: the first drain of a disconnect leaves nothing pending, so
    the second one (what is left of the original code's single drain) never processes a message after the logout
    notification -/
theorem C08_first_drain_complete (fuel : Nat) (s : Sess) (h : pend s < fuel) :
    pend (drainIn fuel s) = 0 ∧ drainIn fuel (discMid (drainIn fuel s)) = discMid (drainIn fuel s) := by
  have h1 := drainIn_complete fuel s h
  exact ⟨h1, drainIn_idle fuel _ (by rw [pend_discMid]; exact h1)⟩

/-! ### the automaton is not vacuous: each clause rejects a trace that violates exactly it -/
private def wD : Obs8 := .obs (.wire { kind := "D", seq := 2, f := [] })
private def wDdup : Obs8 := .obs (.wire { kind := "D", seq := 2, f := [(43, "Y")] })
private def wA : Obs8 := .obs (.wire { kind := "A", seq := 1, f := [] })
private def w5 : Obs8 := .obs (.wire { kind := "5", seq := 3, f := [] })
#guard c08Accepts [.connected, wA, .obs .onLogon, wD, .obs (.fromApp "2" 2), w5, wDdup, .obs .onLogout, .obs .closed]
#guard !c08Accepts [.connected, wD]                                             -- first write not Logon / Logout
#guard !c08Accepts [.connected, wA, wD]                                         -- application message before the handshake
#guard !c08Accepts [.connected, wA, .obs .onLogon, w5, wD]                      -- … after the Logout
#guard !c08Accepts [.connected, wA, .obs (.fromApp "2" 2)]                      -- delivery before the logon notification
#guard !c08Accepts [.connected, wA, .obs .onLogon, .obs .onLogout, .obs (.fromApp "2" 2)]   -- … after the logout notification
#guard !c08Accepts [.connected, wA, .obs .onLogon, .obs .closed]                -- closed without logout notification
#guard !c08Accepts [.connected, wA, .obs .onLogon, .obs .onLogout, .obs .onLogout]          -- two logout notifications
#guard !c08Accepts [.connected, wA, .obs .onLogon, .obs .onLogout, .obs .closed, w5]        -- write after close
#guard !c08Accepts [wA]                                                         -- write without a connection
#guard !c08Accepts [.connected, wA, .obs .onLogon, .connected]                  -- new connection inside a logged-on period

/-! ### the theorem is not vacuous: a concrete history with traffic in both directions -/
private def lg : InMsg :=
  { f := [(8, "FIX.4.2"), (35, "A"), (49, "TGT"), (56, "SND"), (34, "1"), (52, "@0"), (98, "0"), (108, "30")] }
private def app (seq : Nat) : InMsg :=
  { f := [(8, "FIX.4.2"), (35, "D"), (49, "TGT"), (56, "SND"), (34, toString seq), (52, "@0")] }
private def ord : OutMsg := { kind := "D", seq := 0, f := [] }
private def demo : List Ev :=
  [.send ord, .connect, .send ord, .incomingMsg (some lg), .incomingMsg (some (app 2)), .send ord, .flush,
   .arrive (app 3), .timeout .peerTimeout, .timeout .peerTimeout, .send ord, .connect]
#guard demo.all appSend
#guard c08Accepts (traceOf8 (initSess {} 1 1) demo)
-- what the history shows: the messages queued before the logon are dropped, one application message goes out after it,
-- two are delivered (the second one from the buffer, during the disconnect, before the logout notification)
#guard ((traceOf8 (initSess {} 1 1) demo).filter fun o => match o with
          | .connected | .obs (.fromApp _ _) | .obs .onLogon | .obs .onLogout | .obs .closed => true
          | .obs (.wire m) => appFirst m
          | _ => false)
        == [.connected, .obs .onLogon, .obs (.fromApp "2" 2), .obs (.wire { kind := "D", seq := 4, f := [] }),
            .obs (.fromApp "3" 3), .obs .onLogout, .obs .closed, .connected]
-- the hypothesis on application sends is needed: an application that sends a Logout itself and then an order gets the
-- order transmitted after that Logout (outside the property's reading of "the engine has sent its Logout")
#guard !c08Accepts (traceOf8 (initSess {} 1 1)
          [.connect, .incomingMsg (some lg), .send { kind := "5", seq := 0, f := [] }, .flush, .send ord, .flush])

/-!
Clause checklist (properties.jsonl C08 → theorems)
* on every connection the first message transmitted is a Logon or a Logout  : C08_trace_shape (clause `fresh` of `c8Step`)
* no first-time application message before the handshake has completed     : C08_trace_shape (`handshake`)
* … nor after the engine has sent its Logout; replays remain possible       : C08_trace_shape (`sentLogout`; `appFirst` excludes 43 = Y)
* none delivered outside [logon notification, logout notification]          : C08_trace_shape (`cb` on `fromApp`) — this includes the
                                                                              messages still buffered at a disconnect (C08_first_drain_complete)
* every logged-on period ends with exactly one logout notification when the connection ends
                                                                            : C08_trace_shape (`closed` needs the flag down; `notified`: at most
                                                                              one per connection) + C08_flags_track_session (not connected ⇒ flag down)
* after a disconnect nothing more is written to that connection             : C08_trace_shape (`conn` on `wire`)
* an `onLogout` without a preceding `onLogon` (initiator whose logon attempt ended) is allowed by the automaton, as by the property
* quantifier: connects, inbound messages, application sends (also while disconnected), timer events, stops,
  disconnects, both roles                                                   : `∀ cfg s0 t0 evs` with `evs.all appSend`
* hypothesis `appSend`: the application hands `SendToTarget` application messages (kind not administrative); the
  correspondence drives kind "D" only; counterexample without it: last `#guard`
* not modelled: send failures / store failures; EnableLastMsgSeqNumProcessed; the byte layer
-/
