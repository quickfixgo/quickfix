/-
  C20 — "Keep-alive: heartbeats, test requests and dead-peer disconnect".
  Property theorems only (helper lemmas: Qfx/Lemmas/SessC20.lean, Qfx/Lemmas/SessC04.lean).

  properties.jsonl: "While logged on, a TestRequest received in sequence is answered by one Heartbeat carrying the same
  TestReqID; when nothing has been sent for the heartbeat interval a Heartbeat is sent (unless a test request is
  pending), and when nothing has been received for 1.2 heartbeat intervals a TestRequest is sent. If nothing arrives for
  another 1.2 intervals the session is disconnected and the application notified, whereas any inbound message in between
  cancels the pending disconnect without disturbing a gap recovery in progress. An acceptor uses the interval announced
  in the peer's Logon unless configured to override it."
-/
import Qfx.Lemmas.SessC20
open Qfx Qfx.Sess

/-! ### the timer events (`C20_events`) -/

/-- NeedHeartbeat (nothing sent for the heartbeat interval) outside a pending TestRequest: exactly one Heartbeat (no
    TestReqID) is sent, the state does not change -/
theorem C20_heartbeat (s : Sess) (h : C20Active s.st) :
    timeoutCore s .needHeartbeat = (sendInReplyTo s (mkOut "0" []), s.st) := by
  rcases h with h | ⟨a, b, c, h⟩ <;> simp [timeoutCore, inSessionTimeout, h]

/-- … unless a TestRequest is pending: nothing at all happens -/
theorem C20_no_heartbeat_while_pending (s : Sess) (h : C20Pending s.st) :
    timeoutCore s .needHeartbeat = (s, s.st) := by
  rcases h with h | ⟨a, b, c, h⟩ <;> simp [timeoutCore, h]

/-- PeerTimeout (nothing received for 1.2 heartbeat intervals) with no TestRequest outstanding: exactly one TestRequest
    `112=TEST` is sent, the peer timer is re-armed to 1.2 × HeartBtInt, the next state is the pending wrapper of the
    same state (a recovery keeps its stash and ranges) -/
theorem C20_test_request (s : Sess) (h : C20Active s.st) :
    timeoutCore s .peerTimeout =
      ((sendInReplyTo s (mkOut "1" [(112, "TEST")])).emit (.armPeer (1200 * s.hb)), pendingOf s.st) := by
  have hb : (sendInReplyTo s (mkOut "1" [(112, "TEST")])).hb = s.hb := (adminSent s _ rfl rfl h.loggedOn).hb
  rcases h with h | ⟨a, b, c, h⟩ <;> simp [timeoutCore, inSessionTimeout, h, hb, pendingOf]

/-- PeerTimeout while the TestRequest is still unanswered: nothing is sent; the session leaves for `latent` … -/
theorem C20_dead_peer (s : Sess) (h : C20Pending s.st) : timeoutCore s .peerTimeout = (s, .latent) := by
  rcases h with h | ⟨a, b, c, h⟩ <;> simp [timeoutCore, h]

/-- what "sent" means for the Heartbeat / TestRequest: numbered, stored, written after whatever was queued -/
theorem C20_sent (s : Sess) (k : String) (f : Fields) (hk : isAdminKind k = true) (hA : (k == "A") = false)
    (hl : s.st.loggedOn = true) : AdminSent s (mkOut k f) (sendInReplyTo s (mkOut k f)) := adminSent s _ hk hA hl

/-! the same on whole events -/

theorem C20_heartbeat_step (s : Sess) (h : C20Active s.st) :
    (step s (.timeout .needHeartbeat)).1.st = s.st ∧
    (step s (.timeout .needHeartbeat)).2.1 =
      persistObs s.cfg (numbered s (mkOut "0" [])) ::
        (if s.out then (s.toSend ++ [numbered s (mkOut "0" [])]).map Obs.wire else []) := by
  have hl := h.loggedOn
  have hs : AdminSent s.clearLog (mkOut "0" []) (sendInReplyTo s.clearLog (mkOut "0" [])) := adminSent _ _ rfl rfl hl
  rw [step_timeout_eq s _ (connected_sessionTime _ (loggedOn_connected _ hl)) _ (C20_heartbeat s.clearLog h)
    (loggedOn_connected _ hl)]
  exact ⟨rfl, hs.observed⟩

theorem C20_no_heartbeat_while_pending_step (s : Sess) (h : C20Pending s.st) :
    (step s (.timeout .needHeartbeat)).1.st = s.st ∧ (step s (.timeout .needHeartbeat)).2.1 = [] ∧
    (step s (.timeout .needHeartbeat)).1.toSend = s.toSend := by
  have hl := h.loggedOn
  rw [step_timeout_eq s _ (connected_sessionTime _ (loggedOn_connected _ hl)) _ (C20_no_heartbeat_while_pending s.clearLog h)
    (loggedOn_connected _ hl)]
  dsimp only [Sess.clearLog, Sess.setSt]
  exact ⟨rfl, rfl, rfl⟩

theorem C20_test_request_step (s : Sess) (h : C20Active s.st) :
    (step s (.timeout .peerTimeout)).1.st = pendingOf s.st ∧
    (step s (.timeout .peerTimeout)).2.1 =
      persistObs s.cfg (numbered s (mkOut "1" [(112, "TEST")])) ::
        (if s.out then (s.toSend ++ [numbered s (mkOut "1" [(112, "TEST")])]).map Obs.wire else [])
        ++ [.armPeer (1200 * s.hb)] := by
  have hl := h.loggedOn
  have hs : AdminSent s.clearLog (mkOut "1" [(112, "TEST")]) (sendInReplyTo s.clearLog (mkOut "1" [(112, "TEST")])) :=
    adminSent _ _ rfl rfl hl
  rw [step_timeout_eq s _ (connected_sessionTime _ (loggedOn_connected _ hl)) _ (C20_test_request s.clearLog h)
    (pendingOf_connected _ h)]
  refine ⟨rfl, ?_⟩
  simp only [Sess.emit, List.reverse_cons, hs.observed, hs.hb]
  rfl

/-- … and on the whole event (nothing buffered in the inbound channel — "nothing arrives"): the application is notified
    (`onLogout`), the store is reset if so configured, the connection is closed; no TestRequest, nothing else -/
theorem C20_dead_peer_step (s : Sess) (h : C20Pending s.st) (hi : s.inbox = []) :
    (step s (.timeout .peerTimeout)).1.st = .latent ∧ (step s (.timeout .peerTimeout)).1.out = false ∧
    (step s (.timeout .peerTimeout)).2.1 = Obs.onLogout ::
        ((if s.cfg.resetOnDisconnect then [Obs.reset] else []) ++ (if s.out then [Obs.closed] else [])) :=
  step_timeout_latent s _ h.loggedOn hi (C20_dead_peer s.clearLog h)

/-! ### an inbound message while the TestRequest is pending (`C20_cancel`) -/

/-- the next state chosen by the handler of an inbound message is never a pending one: whatever arrives cancels the
    pending disconnect -/
theorem C20_cancel_not_pending (s : Sess) (m : InMsg) : ¬ C20Pending (fixMsgInCore s m).2 := by
  have := np_fixMsgInCore s m
  rintro (h | ⟨a, b, c, h⟩) <;> rw [h] at this <;> cases this

/-- **C20 (cancel)**, normal operation: with a TestRequest pending an inbound message is processed exactly as in
    `inSession` — same next state, same session record (same observations, counters, queue) up to the state tag,
    which no handler touches -/
theorem C20_cancel_inSession (s : Sess) (m : InMsg) (h : s.st = .pendingIn) :
    fixMsgInCore (s.setSt .inSession) m = ((fixMsgInCore s m).1.setSt .inSession, (fixMsgInCore s m).2) := by
  have hs : Same .inSession s := ⟨by rw [h]; rfl, by simp [curResend, h, Sess.setSt]⟩
  rw [fixMsgInCore_inSession s m (.inr h), fixMsgInCore_inSession _ m (.inl rfl), c_inSessionFixMsgIn _ s m hs]; rfl

/-- **C20 (cancel)**, gap recovery in progress: with a TestRequest pending an inbound message is processed exactly as in
    the recovery state with the same stash, chunk end and gap end (the code after the `fix:` — the type switches look
    through the pending wrapper; `lookThroughPending` is the model's switch for that, on by default) -/
theorem C20_cancel_resend (s : Sess) (m : InMsg) (stash : List (Int × InMsg)) (cur fin : Int)
    (h : s.st = .pendingResend stash cur fin) (hfix : s.cfg.lookThroughPending = true) :
    fixMsgInCore (s.setSt (.resend stash cur fin)) m =
      ((fixMsgInCore s m).1.setSt (.resend stash cur fin), (fixMsgInCore s m).2) := by
  have hs : Same (.resend stash cur fin) s := ⟨by rw [h]; rfl, by simp [curResend, h, hfix, Sess.setSt]⟩
  have e1 : fixMsgInCore s m = resendFixMsgIn s stash cur fin m := by simp [fixMsgInCore, h]
  have e2 : fixMsgInCore (s.setSt (.resend stash cur fin)) m = resendFixMsgIn (s.setSt (.resend stash cur fin)) stash cur fin m := by
    simp [fixMsgInCore, Sess.setSt]
  rw [e1, e2, c_resendFixMsgIn _ s stash cur fin m hs]; rfl

/-- consequently the whole event `Incoming(m)` is the same in a pending state and in the state it wraps — observations,
    final record and status are equal — whenever the handler leaves the session connected, and also when it ends the
    session (logout notification, reset, close) provided nothing is buffered in the inbound channel -/
theorem C20_cancel_step (s : Sess) (m : InMsg) (b : SState)
    (h : (s.st = .pendingIn ∧ b = .inSession) ∨
         (∃ stash cur fin, s.st = .pendingResend stash cur fin ∧ b = .resend stash cur fin ∧ s.cfg.lookThroughPending = true))
    (hnx : (fixMsgInCore s.clearLog m).2.connected = true ∨ s.inbox = []) :
    step (s.setSt b) (.incomingMsg (some m)) = step s (.incomingMsg (some m)) := by
  have hl : s.st.loggedOn = true := by
    rcases h with ⟨h, _⟩ | ⟨_, _, _, h, _, _⟩ <;> rw [h] <;> rfl
  have hb : b.loggedOn = true := by
    rcases h with ⟨_, h⟩ | ⟨_, _, _, _, h, _⟩ <;> rw [h] <;> rfl
  have key : fixMsgInCore (s.clearLog.setSt b) m = ((fixMsgInCore s.clearLog m).1.setSt b, (fixMsgInCore s.clearLog m).2) := by
    rcases h with ⟨h, rfl⟩ | ⟨st, c, f, h, rfl, hf⟩
    · exact C20_cancel_inSession s.clearLog m h
    · exact C20_cancel_resend s.clearLog m st c f h hf
  exact step_incoming_retag s m b hl hb key ⟨(fr_fixMsgInCore s.clearLog m).st, (fr_fixMsgInCore s.clearLog m).inbox⟩ hnx

/-! ### a TestRequest received in sequence (`C20_testrequest_echo`) -/

/-- **C20 (echo)**, any logged-on state: a TestRequest with the expected number that passes the identity gates (and
    the SendingTime check where it applies — it is skipped during gap recovery), has no empty field and is not refused by
    the application, carrying `112 = x`: the in-session handler does exactly this — FromAdmin, ONE Heartbeat `112 = x`
    sent in reply, the expected number advanced by one; next state `inSession`. -/
theorem C20_testrequest_echo (s : Sess) (m : InMsg) (x : String) (hk : kindOf m = "1")
    (hb : checkBeginString s m = none) (hc : checkCompID s m = none)
    (ht : (curResend s).isSome = true ∨ checkSendingTime s m = none)
    (hn : getInt m 34 = .val s.store.target) (hv : validate s.cfg m = none) (hcb : callbackVerdict m = none)
    (hx : m.f.get? 112 = some x) :
    inSessionFixMsgIn s m =
      (incrTarget (sendInReplyTo (s.emit (.fromAdmin "1" (seqText m))) ((mkOut "0" [(112, x)]).inReplyTo m)), .inSession) :=
  inSessionFixMsgIn_testRequest s m x hk hb hc ht hn hv hcb hx

/-- in normal operation (also with a TestRequest of our own pending) that is the whole reaction … -/
theorem C20_testrequest_echo_inSession (s : Sess) (m : InMsg) (x : String) (hst : s.st = .inSession ∨ s.st = .pendingIn)
    (hk : kindOf m = "1") (hb : checkBeginString s m = none) (hc : checkCompID s m = none)
    (ht : checkSendingTime s m = none)
    (hn : getInt m 34 = .val s.store.target) (hv : validate s.cfg m = none) (hcb : callbackVerdict m = none)
    (hx : m.f.get? 112 = some x) :
    fixMsgInCore s m =
      (incrTarget (sendInReplyTo (s.emit (.fromAdmin "1" (seqText m))) ((mkOut "0" [(112, x)]).inReplyTo m)), .inSession) := by
  rw [fixMsgInCore_inSession s m hst]; exact C20_testrequest_echo s m x hk hb hc (Or.inr ht) hn hv hcb hx

/-- … and during gap recovery (also pending) it is the first thing that happens; what follows is the recovery
    bookkeeping on the unchanged stash (next chunk / stay / drain — C04) -/
theorem C20_testrequest_echo_recovery (s : Sess) (m : InMsg) (x : String) (stash : List (Int × InMsg)) (cur fin : Int)
    (h : curResend s = some (stash, cur, fin))
    (hk : kindOf m = "1") (hb : checkBeginString s m = none) (hc : checkCompID s m = none)
    (hn : getInt m 34 = .val s.store.target) (hv : validate s.cfg m = none) (hcb : callbackVerdict m = none)
    (hx : m.f.get? 112 = some x) :
    fixMsgInCore s m =
      resendBook (incrTarget (sendInReplyTo (s.emit (.fromAdmin "1" (seqText m))) ((mkOut "0" [(112, x)]).inReplyTo m))) .inSession
        stash cur fin m := by
  rw [fixMsgInCore_rec s m stash cur fin h, resendFixMsgIn_eq,
    C20_testrequest_echo s m x hk hb hc (Or.inl (by rw [h]; rfl)) hn hv hcb hx]
  rfl

/-- the Heartbeat is numbered, stored and written after whatever was queued; the expected number is `T + 1` afterwards -/
theorem C20_testrequest_echo_sent (s : Sess) (m : InMsg) (x : String) (hl : s.st.loggedOn = true) :
    AdminSent (s.emit (.fromAdmin "1" (seqText m))) ((mkOut "0" [(112, x)]).inReplyTo m)
      (sendInReplyTo (s.emit (.fromAdmin "1" (seqText m))) ((mkOut "0" [(112, x)]).inReplyTo m)) ∧
    (incrTarget (sendInReplyTo (s.emit (.fromAdmin "1" (seqText m))) ((mkOut "0" [(112, x)]).inReplyTo m))).store.target
      = s.store.target + 1 := by
  have hs := adminSent (s.emit (.fromAdmin "1" (seqText m))) ((mkOut "0" [(112, x)]).inReplyTo m) rfl rfl hl
  refine ⟨hs, ?_⟩
  show (sendInReplyTo (s.emit (.fromAdmin "1" (seqText m))) ((mkOut "0" [(112, x)]).inReplyTo m)).store.target + 1 = _
  rw [hs.target]; rfl

/-! ### arming the peer timer; the interval in force (`C20_arming`) -/

/-- every `Incoming` on a connected session — a message of any kind, or bytes that do not parse — ends by re-arming the
    peer timer to 1.2 × the heartbeat interval in force after processing; it is the LAST observation of the event -/
theorem C20_arming (s : Sess) (m : Option InMsg) (hc : s.st.connected = true) :
    ∃ pre, (step s (.incomingMsg m)).2.1 = pre ++ [.armPeer (1200 * (step s (.incomingMsg m)).1.hb)] :=
  step_incoming_arm s m hc

/-- the interval in force after a Logon has been answered: for an acceptor the peer's HeartBtInt (108) unless
    `HeartBtIntOverride` is configured; for an initiator the configured one (`hbAfterLogon`); this holds whenever the
    Logon is accepted, with or without a sequence gap -/
theorem C20_interval (s s' : Sess) (m : InMsg) (r : Option LogonErr) (h : handleLogon s m = (s', r))
    (hok : r = none ∨ ∃ n t, r = some (.rej (.tooHigh n t))) :
    s'.hb = (if s.cfg.initiator then s.hb else if s.cfg.hbOverride then s.hb
             else match getInt m 108 with | .val v => v | _ => s.hb) :=
  hb_handleLogon s s' m r h hok

/-- a session starts with the configured interval when it is an initiator or overrides, so for those it is the
    configured interval throughout -/
theorem C20_interval_configured (cfg : Cfg) (s0 t0 : Int) (h : cfg.initiator = true ∨ cfg.hbOverride = true) :
    (initSess cfg s0 t0).hb = cfg.hb := by
  rcases h with h | h <;> simp [initSess, h]

/-- the timers armed by the accepted Logon itself use the new interval: `logonFinish` re-arms the peer timer with the
    value just adopted -/
theorem C20_logon_arms (s : Sess) (m : InMsg) (ns : Int) :
    ∃ pre, (logonFinish s m ns).1.log = pre ++ Obs.armPeer (1200 * s.hb) :: s.log :=
  logonFinish_arms s m ns

/-! ### non-vacuity (evaluated by the interpreter at build time) -/

-- idle: Heartbeat; silent peer: TestRequest 112=TEST + re-arm, pending; no Heartbeat while pending; then disconnect
#guard obsOf (demoUp {}) [.timeout .needHeartbeat, .timeout .peerTimeout, .timeout .needHeartbeat, .timeout .peerTimeout]
        == [.saved 2 "0" true, .wire { kind := "0", seq := 2, f := [] },
            .saved 3 "1" true, .wire { kind := "1", seq := 3, f := [(112, "TEST")] }, .armPeer 36000,
            .onLogout, .closed]
#guard (runEvs (demoUp {}) [.timeout .peerTimeout]).st.name == "Pending:InSession"
#guard (runEvs (demoUp {}) [.timeout .peerTimeout, .timeout .peerTimeout]).st.name == "Latent"
-- recovery keeps its stash and ranges under the pending wrapper
#guard (match (runEvs (demoUp {}) [.incomingMsg (some (demoIn {} "D" 5)), .timeout .peerTimeout]).st with
        | .pendingResend st c f => st.map (·.1) == [5] && c == 0 && f == 4 | _ => false)
-- an inbound message cancels the pending disconnect; an in-sequence TestRequest is echoed with its TestReqID
#guard obsOf (demoUp {}) [.timeout .peerTimeout, .incomingMsg (some (demoIn {} "1" 2 [(112, "abc")]))]
        == [.saved 2 "1" true, .wire { kind := "1", seq := 2, f := [(112, "TEST")] }, .armPeer 36000,
            .fromAdmin "1" "2", .saved 3 "0" true, .wire { kind := "0", seq := 3, f := [(112, "abc")] }, .incT, .armPeer 36000]
#guard (runEvs (demoUp {}) [.timeout .peerTimeout, .incomingMsg (some (demoIn {} "1" 2 [(112, "abc")]))]).st.name == "InSession"
-- the hypotheses of the echo theorem hold for that message
#guard (checkBeginString (demoUp {}) (demoIn {} "1" 2 [(112, "abc")])).isNone && (checkCompID (demoUp {}) (demoIn {} "1" 2 [(112, "abc")])).isNone
        && (checkSendingTime (demoUp {}) (demoIn {} "1" 2 [(112, "abc")])).isNone && gotIs (getInt (demoIn {} "1" 2 [(112, "abc")]) 34) 2
        && (validate {} (demoIn {} "1" 2 [(112, "abc")])).isNone && (callbackVerdict (demoIn {} "1" 2 [(112, "abc")])).isNone
-- the acceptor adopts the peer's 108 unless overridden
#guard (demoUp {} "45").hb == 45 && (demoUp { hbOverride := true, hb := 20 } "45").hb == 20
#guard (step (demoUp {} "45") (.incomingMsg (some (demoIn {} "0" 2)))).2.1 == [.fromAdmin "0" "2", .incT, .armPeer 54000]

/-! `C20_cancel_resend` needs the fixed code (`lookThroughPending`): with the switch off — the code before the `fix:` — a
    too-high message in `pending(resend)` sends a second ResendRequest and the recovery state would not have -/
#guard (fixMsgInCore { cfg := { lookThroughPending := false }, st := .pendingResend [] 0 4, store := { sender := 2, target := 3 },
                       out := true, inboxOpen := true, hb := 30 } (demoIn {} "D" 9)).1.store.sender == 3
#guard (fixMsgInCore { cfg := { lookThroughPending := false }, st := .resend [] 0 4, store := { sender := 2, target := 3 },
                       out := true, inboxOpen := true, hb := 30 } (demoIn {} "D" 9)).1.store.sender == 2
#guard (fixMsgInCore { cfg := {}, st := .pendingResend [] 0 4, store := { sender := 2, target := 3 },
                       out := true, inboxOpen := true, hb := 30 } (demoIn {} "D" 9)).1.store.sender == 2

/-! remark (D19 of the design notes): `C20_interval` holds for every value of 108, including 0 and negative ones — the
    acceptor then arms the peer timer with a non-positive duration -/
#guard (step (demoUp {} "0") (.incomingMsg (some (demoIn {} "0" 2)))).2.1 == [.fromAdmin "0" "2", .incT, .armPeer 0]

-- EnableLastMsgSeqNumProcessed: the Heartbeat answering TestRequest number 2 carries 369 = 2 (the message replied to), the
-- TestRequest sent on the peer timer carries 369 = 1 (last inbound number consumed: the Logon); off ⇒ no tag
#guard ((obsOf (demoUp { lastSeqProcessed := true }) [.timeout .peerTimeout, .incomingMsg (some (demoIn {} "1" 2 [(112, "abc")]))]).filterMap
          fun o => match o with | .wire m => some (m.kind, m.seq, m.last) | _ => none)
       == [("1", 2, some 1), ("0", 3, some 2)]
#guard ((obsOf (demoUp {}) [.timeout .peerTimeout, .incomingMsg (some (demoIn {} "1" 2 [(112, "abc")]))]).filterMap
          fun o => match o with | .wire m => some (m.kind, m.seq, m.last) | _ => none)
       == [("1", 2, none), ("0", 3, none)]

/-!
Clause checklist (properties.jsonl C20 → theorems)
* while logged on, a TestRequest received in sequence → one Heartbeat with the same TestReqID : C20_testrequest_echo (every logged-on state), _inSession, _recovery, _sent
* nothing sent for the heartbeat interval → a Heartbeat                                      : C20_heartbeat, C20_heartbeat_step
* … unless a test request is pending                                                         : C20_no_heartbeat_while_pending, _step
* nothing received for 1.2 intervals → a TestRequest (timer re-armed to 1.2 × hb, state pending) : C20_test_request, C20_test_request_step
* nothing for another 1.2 intervals → disconnected, application notified                     : C20_dead_peer, C20_dead_peer_step (onLogout, closed, Latent)
* any inbound message in between cancels the pending disconnect                              : C20_cancel_not_pending (no handler ever returns a pending state)
* … without disturbing a gap recovery in progress                                            : C20_cancel_resend, C20_cancel_inSession (equal results), C20_cancel_step (equal events);
                                                                                               C20_test_request (`pendingOf` keeps stash / cur / fin)
* an acceptor uses the interval of the peer's Logon unless configured to override            : C20_interval, C20_interval_configured, C20_logon_arms
* every receive re-arms the peer timer with 1.2 × the interval in force                      : C20_arming
* quantifier: every logged-on state (normal, recovering, pending, both), both roles, every cfg : ∀ s with `C20Active` / `C20Pending` / `curResend`; ∀ cfg in `s.cfg`
* timers: the model observes `armPeer d`; the heartbeat timer is re-armed by every wire write in the implementation
  (tied by the correspondence check, not an observation of the model); real run loop: family `loop` (Drv/Loop.lean: `step` of this file's model
  run on the round's script = the allowed outcomes; Drv/LoopMon.lean) checks that an expiry of either timer of `session.run()` REACHES the loop
  (busy in a callback / in the send to a stalled writer / idle) and has the consequences of `timeoutCore`; durations: arming theorems above only
* `C20_timed` (DESIGN §5: timed semantics, gaps between outbound messages ≤ hb) is not stated: the model has no clock
-/
