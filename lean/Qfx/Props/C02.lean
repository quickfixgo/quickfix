/-
  C02 — "Outbound messages are numbered consecutively and persisted before sending".
  Models: Qfx/Model/Conc.lean, Qfx/Model/Session.lean; monitors: Qfx/Spec/Conc.lean, Qfx/Spec/SessionTypedC02.lean.

  properties.jsonl: "Every message accepted for sending is assigned the next unused outbound MsgSeqNum, so the numbers
  handed out in one epoch are n, n+1, n+2 and so on with no gap and no repeat whichever goroutines submit them;
  first-time transmissions appear on the wire in increasing number order, and while the session stays logged on every
  assigned number is transmitted. With persistence enabled the exact bytes sent under number n are retrievable from
  the message store under n no later than they reach the wire, and the store's next outbound number is one past the
  highest number handed out. While a ResendRequest is being answered no first-time message is transmitted between the
  replayed ones."   Quantifier: every interleaving of concurrent application sends with engine traffic and replays.

  Two layers.
  (A) CONCURRENT: the lock-level model `Qfx.Conc` (threads = session goroutine + any number of application goroutines,
      entry points as programs of atomic steps, mutex/rwmutex enabledness, ANY schedule).  The programs are pinned to
      the source by the regenerated lock skeletons `Qfx.Gen.skel_*` (obligations `C02_skel_*` below).
  (B) SEQUENTIAL: the session model `Qfx.Sess` (which the correspondence check compares with the real session event
      by event): numbering and persist-before-wire over ALL event histories.
-/
import Qfx.Lemmas.ConcInv
import Qfx.Lemmas.SessC02
import Qfx.Lemmas.SessC02Epoch
import Qfx.Gen.Facts
open Qfx Qfx.Conc

/-! ## (A) the concurrent layer -/

/-- programs built from the entry points are well-formed: thread 0 any list of session calls, every other thread any
    sequence of `SendToTarget` (`queueForSend`) and `ResetSession` calls (ShutdownNow's Logout through either branch of
    `sendInReplyTo`, or nothing, then `dropAndReset`) -/
theorem C02_compile_wf (p : Bool) (sess : List SCall) (apps : Nat → List ACall) (t : Nat) :
    wf (t == 0) p ⟨.free, .none⟩ (compile p sess apps t) = true := by
  cases t with
  | zero => simp [wf, compile, wfTo_flatMap (wfTo_scall p)]
  | succ i => simp [wf, compile, wfTo_flatMap (wfTo_acall p)]

/-- **C02, all schedules, any well-formed thread programs.**  Whatever the programs of the threads are, as long as each
    respects the lock discipline `wf` (numbering, queue and store are touched only inside `sendMutex`; a foreign
    goroutine enqueues a first-time message only inside `resendMutex.RLock`; only the session goroutine replays or sends
    without `resendMutex`; a store reset leaves `sendMutex` only after the queue has been dropped), the monitor accepts
    the trace of EVERY schedule. -/
theorem C02_all_schedules_wf (p : Bool) (n0 : Nat) (hn : 0 < n0) (progs : Nat → List Step)
    (hwf : ∀ t, wf (t == 0) p ⟨.free, .none⟩ (progs t) = true) (sched : List Nat) :
    MonitorC02 p n0 (run (initRaw n0 progs) sched).trace = true :=
  (inv_run sched (inv_init hn hwf)).monitor

/-- **C02, all schedules of the real entry points.**  Thread 0 runs any sequence of session-side calls (with any flush
    outcomes, logged-on flags, replay contents), thread i+1 runs the calls `apps i` — `SendToTarget` and the operator's
    `ResetSession` (whose Logout is a first-time message sent from a FOREIGN goroutine, and whose reset is an epoch
    boundary for the monitor) in any number and order, any number of threads; `sched` is any interleaving of any length (a scheduled thread that is blocked on a mutex or has
    finished does nothing).  Then: (i) the numbers handed out are consecutive without gap or repeat and the store's
    next number is one past the last; (ii) first-time messages reach the wire in increasing order (per epoch);
    (iii) with persistence every first-time write of n comes after the store saved n; (iv) between the first replayed
    message of a replay and the release of `resendMutex` no first-time message is written. -/
theorem C02_all_schedules (persist : Bool) (n0 : Nat) (hn : 0 < n0) (sess : List SCall) (apps : Nat → List ACall)
    (sched : List Nat) :
    MonitorC02 persist n0 (run (init persist n0 sess apps) sched).trace = true :=
  C02_all_schedules_wf persist n0 hn _ (C02_compile_wf persist sess apps) sched

/-- at the end of every schedule the store is what the monitor computed from the trace: next outbound number one past
    the numbers handed out, saved numbers exactly the ones the trace saved in this epoch -/
theorem C02_final_store (persist : Bool) (n0 : Nat) (hn : 0 < n0) (sess : List SCall) (apps : Nat → List ACall)
    (sched : List Nat) :
    monitorFinal persist n0 (run (init persist n0 sess apps) sched).trace
      = some ((run (init persist n0 sess apps) sched).sender, (run (init persist n0 sess apps) sched).persisted) := by
  unfold init
  obtain ⟨m, hI⟩ := inv_run sched (inv_init hn (C02_compile_wf persist sess apps))
  simp [monitorFinal, hI.run, hI.glob.cur, hI.glob.saved]

/-- mutual exclusion, as a state fact: after any schedule at most the session goroutine writes `resendMutex`, and then
    nobody reads it -/
theorem C02_resend_lock_exclusive (persist : Bool) (n0 : Nat) (hn : 0 < n0) (sess : List SCall) (apps : Nat → List ACall)
    (sched : List Nat) (w : Nat) (h : (run (init persist n0 sess apps) sched).writerR = some w) :
    w = 0 ∧ (run (init persist n0 sess apps) sched).readersR = [] := by
  obtain ⟨m, hI⟩ := inv_run sched (inv_init hn (C02_compile_wf persist sess apps))
  exact hI.glob.wr w h

/-! ### the theorem is not vacuous, and it is false without the locks -/

/-- two application goroutines, two sends each, a session goroutine that logs on, flushes, answers a ResendRequest
    and sends a heartbeat; under this interleaving the first EnqueueBytesAndSend of the replay still flushes three
    queued first-time messages (allowed: they precede the first replayed one), then the two replayed ones follow
    without interruption -/
def demoSess : List SCall :=
  [.dropAndSendInReplyTo false none, .sendAppMessages true none,
   .resendMessages [⟨true, 2, none⟩, ⟨true, 3, none⟩], .sendInReplyTo none]
def demoSched : List Nat := (List.replicate 24 [1, 2, 0, 2, 1, 0, 0]).flatten

-- 168 scheduled steps: `decide +kernel` has the kernel run the model; unfolding `run` through the `Decidable` instance
-- in the elaborator first is several times slower.  The shorter runs below are left to plain `decide`.
set_option maxRecDepth 100000 in
example : (run (init true 1 demoSess (fun _ => sends 2)) demoSched).trace =
    [.assign 1 2 true, .wire 1 .first, .assign 2 3 true, .wire 2 .first, .assign 3 4 true, .assign 4 5 true,
     .assign 5 6 true, .lockR, .wire 3 .first, .wire 4 .first, .wire 5 .first, .wire 2 (.dup 1), .wire 3 (.dup 1),
     .unlockR, .assign 6 7 true, .wire 6 .first] := by decide +kernel

/-- `queueForSend` WITHOUT `sendMutex` (the skeleton one gets by deleting the Lock/Unlock pair) -/
def prog_queueForSend_noS : List Step :=
  [.rlockR, .readSeq, .persistIncr, .enqueue, .notify, .runlockR]

/-- … two application goroutines read the same number: the monitor REJECTS this schedule (clause `consecutive`).
    So `C02_all_schedules` really depends on the lock. -/
theorem C02_false_without_sendMutex :
    monitorVerdict true 1
      (run (initRaw 1 (fun t => if t = 0 then [] else prog_queueForSend_noS)) [1, 1, 2, 2, 1, 2]).trace
      = some "C02.consecutive" := by decide

/-- `queueForSend` WITHOUT `resendMutex.RLock` -/
def prog_queueForSend_noR : List Step :=
  [.lockS, .readSeq, .persistIncr, .enqueue, .notify, .unlockS]

/-- … an application message queued in the middle of a replay is flushed between two replayed messages -/
theorem C02_false_without_resendMutex :
    monitorVerdict true 1
      (run (initRaw 1 (fun t => if t = 0 then
              (SCall.resendMessages [⟨true, 1, none⟩, ⟨true, 2, none⟩]).prog true else prog_queueForSend_noR))
        [0, 0, 0, 0, 0, 1, 1, 1, 1, 1, 1, 0, 0, 0]).trace
      = some "C02.replay_exclusive" := by decide

/-- `sendInReplyTo` with `persist` moved AFTER the enqueue and flush -/
def prog_sendInReplyTo_persistLate : List Step :=
  [.rlockR, .lockS, .readSeq, .enqueue, .flush none, .persistIncr, .unlockS, .runlockR]

theorem C02_false_with_late_persist :
    monitorVerdict true 1
      (run (initRaw 1 (fun t => if t = 0 then prog_sendInReplyTo_persistLate else [])) [0, 0, 0, 0, 0]).trace
      = some "C02.persist_before_wire" := by decide

/-- `ResetSession` whose `sendInReplyTo` (logged-on branch) takes `sendMutex` but NOT `resendMutex.RLock` -/
def prog_resetSession_noR : List Step :=
  [.lockS, .readSeq, .persistIncr, .enqueue, .flush none, .unlockS] ++ prog_dropAndReset

/-- … an operator calling ResetSession in the middle of a replay puts the Logout between two replayed messages -/
theorem C02_false_without_RLock_in_sendInReplyTo :
    monitorVerdict true 1
      (run (initRaw 1 (fun t => if t = 0 then
              (SCall.resendMessages [⟨true, 1, none⟩, ⟨true, 2, none⟩]).prog true else
              if t = 1 then prog_resetSession_noR else []))
        [0, 0, 0, 0, 0, 1, 1, 1, 1, 1]).trace
      = some "C02.replay_exclusive" := by decide

/-- with the RLock the same operator waits for the replay to end: the Logout (number 5) follows the two replayed
    messages, then the reset starts a new epoch and the next application message is number 1 again (5 was queued by
    thread 2 before the replay and is flushed by its first EnqueueBytesAndSend, ahead of the replayed messages) -/
def demoResetSched : List Nat :=
  [2,2,2,2,2,2,2,2, 0,0,0,0,0, 1,1,1, 0,0,0,0,0,0,0,0,0, 1,1,1,1,1,1,1,1,1,1,1,1, 2,2,2,2,2,2,2,2, 0,0,0]
set_option maxRecDepth 100000 in
example : (run (init true 5 [.resendMessages [⟨true, 1, none⟩, ⟨true, 2, none⟩], .sendAppMessages true none]
              (fun i => if i = 0 then [.resetSession (.logout true none)] else if i = 1 then sends 2 else [])) demoResetSched).trace =
    [.assign 5 6 true, .lockR, .wire 5 .first, .wire 1 (.dup 1), .wire 2 (.dup 1), .unlockR, .assign 6 7 true,
     .wire 6 .first, .reset, .assign 1 2 true] := by decide

example : wf false true ⟨.free, .none⟩ prog_resetSession_noR = false := by decide
/-- the three broken programs are rejected by the discipline, as they must be -/
example : wf false true ⟨.free, .none⟩ prog_queueForSend_noS = false := by decide
example : wf false true ⟨.free, .none⟩ prog_queueForSend_noR = false := by decide
example : wf true true ⟨.free, .none⟩ prog_sendInReplyTo_persistLate = false := by decide

/-! ### tie to the source: the regenerated lock skeletons are the programs of the model

`Qfx.Gen.skel_*` is rewritten from session.go / session_state.go / in_session.go by `qfxh extract` on every run of
`./check`.  Removing, adding or reordering a lock operation or a protected action changes a skeleton and breaks the
obligation of that name. -/

theorem C02_skel_queueForSend (o : Opts) :
    expand .queueForSend { o with reset := false } Gen.skel_queueForSend
      = some ((prog_queueForSend o.persist).filter (· != Step.notify)) := by
  obtain ⟨p, r, l, lim, n⟩ := o; cases p <;> rfl

/-- both branches: `if !IsLoggedOn { return queueForSend }`, then RLock, Lock, prep, enqueue, flush -/
theorem C02_skel_sendInReplyTo (o : Opts) :
    expandSendInReplyTo { o with reset := false } Gen.skel_sendInReplyTo
      = some (prog_sendInReplyToFull o.persist o.loggedOn o.lim) := by
  obtain ⟨p, r, l, lim, n⟩ := o; cases p <;> cases l <;> rfl

/-- `quickfix.ResetSession` = ShutdownNow; dropAndReset — and ShutdownNow is either empty or sendLogout →
    sendLogoutInReplyTo → sendInReplyTo; no other implementation of ShutdownNow exists -/
theorem C02_skel_resetSession :
    resetSessionShapeOK Gen.skel_resetSession Gen.skel_shutdownNow_loggedOn Gen.skel_shutdownNow_notLoggedOn
      Gen.skel_shutdownNow_latent Gen.skel_sendLogout Gen.skel_sendLogoutInReplyTo Gen.shutdownNowImpls = true := by decide +kernel

theorem C02_skel_dropAndSendInReplyTo (o : Opts) :
    expand .dropAndSendInReplyTo o Gen.skel_dropAndSendInReplyTo
      = some (prog_dropAndSendInReplyTo o.persist o.reset o.lim) := by
  obtain ⟨p, r, l, lim, n⟩ := o; cases p <;> cases r <;> rfl

theorem C02_skel_dropAndReset (o : Opts) :
    expand .dropAndReset o Gen.skel_dropAndReset = some prog_dropAndReset := by
  obtain ⟨p, r, l, lim, n⟩ := o; rfl

theorem C02_skel_enqueueBytesAndSend (o : Opts) :
    expand .enqueueBytesAndSend o Gen.skel_enqueueBytesAndSend
      = some (prog_enqueueBytesAndSend o.loggedOn o.num o.lim) := by
  obtain ⟨p, r, l, lim, n⟩ := o; cases l <;> rfl

theorem C02_skel_sendAppMessages (o : Opts) :
    expand .sendAppMessages o Gen.skel_sendAppMessages = some (prog_sendAppMessages o.loggedOn o.lim) := by
  obtain ⟨p, r, l, lim, n⟩ := o; cases l <;> rfl

/-- prepMessageForSend (with `persist` inlined): read, [reset, read again], save-and-increment or increment -/
theorem C02_skel_prepMessageForSend (o : Opts) :
    expandPrep Gen.skel_persist o Gen.skel_prepMessageForSend = some (prog_prep o.persist o.reset) := by
  obtain ⟨p, r, l, lim, n⟩ := o; cases p <;> cases r <;> rfl

/-- resendMessages: everything between `resendMutex.Lock` and its deferred `Unlock` is EnqueueBytesAndSend traffic
    (directly or through generateSequenceReset) -/
theorem C02_skel_resendMessages :
    resendShapeOK Gen.skel_generateSequenceReset Gen.skel_resendMessages = true := by decide +kernel

/-- sendQueued / dropQueued only read and rewrite the queue and call sendBytes: no lock, no store access.
    `notifyMessageOut` (Step.notify: no effect on the model state, `Conc.act`) is not part of the skeletons — its
    position inside a critical section is not observable; WHO calls it is pinned instead. -/
theorem C02_skel_sendQueued :
    Gen.skel_sendQueued = ["queueRead", "sendBytes", "queueWrite", "dropQ"] ∧
    Gen.skel_dropQueued = ["queueWrite"] ∧
    Gen.notifyCallers = ["queueForSend", "sendQueued"] := ⟨rfl, rfl, rfl⟩

/-- the functions of session.go, in_session.go, session_state.go, registry.go and the state files that touch the send
    queue, the numbering or persistence are exactly the modelled ones: a new function doing so changes this list -/
theorem C02_send_path_functions :
    Gen.sendPathFunctions =
      ["EnqueueBytesAndSend", "SendAppMessages", "dropAndReset", "dropAndSendInReplyTo", "dropQueued", "persist",
       "prepMessageForSend", "queueForSend", "sendInReplyTo", "sendQueued"] := rfl

/-! ## (B) the sequential layer: the session model `Qfx.Sess`, all event histories -/

namespace C02seq
open Qfx.Sess Qfx.Sess.C02

/-- the monitor state agrees with the session: nothing violated, same next outbound number, persistence as configured,
    every queued message is a replay or has been saved -/
def Good (p : Bool) (g : G2) (s : Sess) : Prop :=
  g.ok = true ∧ g.S = s.store.sender ∧ s.cfg.persist = p ∧ (p = true → ∀ m ∈ s.toSend, covered g m = true)

/-- the concatenated observations of a history -/
def traceOf (s : Sess) : List Sess.Ev → List Obs
  | [] => []
  | e :: es => (step s e).2.1 ++ traceOf (step s e).1 es

def runEvents (s : Sess) : List Sess.Ev → Sess
  | [] => s
  | e :: es => runEvents (step s e).1 es

end C02seq
open C02seq Qfx.Sess Qfx.Sess.C02 in
/-- one event, any state, any event: the monitor accepts the event's observations and stays in agreement -/
theorem C02_seq_step (p : Bool) (s : Sess) (e : Sess.Ev) (g : G2) (h : Good p g s) :
    Good p ((step s e).2.1.foldl (g2Step p) g) (step s e).1 :=
  -- `K p g s'` is `Good` of the monitor folded over the log of `s'`; the log of `s.clearLog` is empty, and `step` hands
  -- out the log of the result as the event's observations
  K_stepCore p g s.clearLog e h

open C02seq Qfx.Sess Qfx.Sess.C02 in
theorem C02_seq_run (p : Bool) (s : Sess) (evs : List Sess.Ev) (g : G2) (h : Good p g s) :
    Good p ((traceOf s evs).foldl (g2Step p) g) (runEvents s evs) :=
  run_fold (ok := fun _ => True) ⟨fun _ => rfl, fun _ _ _ => rfl, fun _ => rfl, fun _ _ _ => rfl⟩
    (fun g s e _ h => C02_seq_step p s e g h) evs s g (fun _ _ => trivial) h

open C02seq Qfx.Sess Qfx.Sess.C02 in
/-- **C02, sequential layer**: every configuration (role, BeginString, reset options, persistence on or off, …), every
    initial pair of counters, every finite history of events (connects, inbound messages of any kind — Logon with or
    without ResetSeqNumFlag, ResendRequests, TestRequests, garbage —, timeouts, application sends, flushes, disconnects,
    stops, session-time changes): every `saved n` happens at exactly the tracked next outbound number, which then
    becomes n+1 (`incS` likewise without storing, `reset` ⇒ 1); with persistence every first-time write to the
    connection (PossDupFlag ≠ Y, administrative or application) of number n, MsgType k comes after the store saved
    (n, k); and the tracked number at the end is the store's next outbound number. -/
theorem C02_seq (cfg : Cfg) (s0 t0 : Int) (evs : List Sess.Ev) :
    c02SeqAccepts cfg.persist s0 (traceOf (initSess cfg s0 t0) evs) = true ∧
    c02SeqSender cfg.persist s0 (traceOf (initSess cfg s0 t0) evs) = (runEvents (initSess cfg s0 t0) evs).store.sender := by
  have hg : Good cfg.persist (G2.init s0) (initSess cfg s0 t0) :=
    ⟨rfl, rfl, rfl, fun _ m hm => by simp [initSess] at hm⟩
  obtain ⟨a, b, _, _⟩ := C02_seq_run cfg.persist (initSess cfg s0 t0) evs (G2.init s0) hg
  exact ⟨a, b⟩

open C02seq Qfx.Sess Qfx.Sess.C02 in
/-- … and what is still queued after any history is covered too: nothing unsaved can ever be flushed later -/
theorem C02_seq_queue_saved (cfg : Cfg) (s0 t0 : Int) (evs : List Sess.Ev) (hp : cfg.persist = true) :
    ∀ m ∈ (runEvents (initSess cfg s0 t0) evs).toSend,
      covered ((traceOf (initSess cfg s0 t0) evs).foldl (g2Step cfg.persist) (G2.init s0)) m = true := by
  have hg : Good cfg.persist (G2.init s0) (initSess cfg s0 t0) :=
    ⟨rfl, rfl, rfl, fun _ m hm => by simp [initSess] at hm⟩
  obtain ⟨_, _, _, d⟩ := C02_seq_run cfg.persist (initSess cfg s0 t0) evs (G2.init s0) hg
  exact d hp

/-! ### per-epoch clauses of the sequential layer: wire order, and "saved since the last reset" -/

namespace C02seq
open Qfx.Sess Qfx.Sess.C02 Qfx.Sess.C02b
def GoodE (p : Bool) (g : G3) (s : Sess) : Prop :=
  g.ok = true ∧ s.cfg.persist = p ∧ QSeq g.lastFirst s.toSend s.store.sender ∧
  (p = true → ∀ m ∈ s.toSend, firstTime m = true → triple m ∈ g.savedE)
end C02seq

open C02seq Qfx.Sess Qfx.Sess.C02 Qfx.Sess.C02b in
theorem C02_seq_epoch_step (p : Bool) (s : Sess) (e : Sess.Ev) (hb : benign e = true) (g : G3) (h : GoodE p g s) :
    GoodE p ((step s e).2.1.foldl (g3Step p) g) (step s e).1 :=
  E_stepCore p g s.clearLog e hb h

open C02seq Qfx.Sess Qfx.Sess.C02 Qfx.Sess.C02b in
theorem C02_seq_epoch_run (p : Bool) (s : Sess) (evs : List Sess.Ev) (hb : ∀ e ∈ evs, benign e = true) (g : G3)
    (h : GoodE p g s) : GoodE p ((traceOf s evs).foldl (g3Step p) g) (runEvents s evs) :=
  run_fold (ok := fun e => benign e = true) ⟨fun _ => rfl, fun _ _ _ => rfl, fun _ => rfl, fun _ _ _ => rfl⟩
    (fun g s e hb h => C02_seq_epoch_step p s e hb g h) evs s g hb h

open C02seq Qfx.Sess Qfx.Sess.C02 Qfx.Sess.C02b in
/-- **C02, sequential layer, per epoch**: every configuration, every initial outbound number ≥ 1, every history in which
    the application does not itself submit a Logon carrying ResetSeqNumFlag=Y (`benign`; the engine's own Logons go
    through `dropAndSendInReplyTo`): first-time messages are written to the connection in strictly increasing number
    order within an epoch (a reset starts a new epoch), and with persistence a first-time write of (n, MsgType,
    resend verdict) happens only after the store saved exactly that SINCE THE LAST RESET — what is written is still in
    the store.  (After the `fix:` every reset either drops the queue first or replaces it.) -/
theorem C02_seq_epoch (cfg : Cfg) (s0 t0 : Int) (hs : 0 < s0) (evs : List Sess.Ev) (hb : ∀ e ∈ evs, benign e = true) :
    c02SeqEpochAccepts cfg.persist (traceOf (initSess cfg s0 t0) evs) = true := by
  have hg : GoodE cfg.persist G3.init (initSess cfg s0 t0) :=
    ⟨rfl, rfl, by simpa [initSess, G3.init, QSeq] using hs, fun _ m hm => by simp [initSess] at hm⟩
  exact (C02_seq_epoch_run cfg.persist (initSess cfg s0 t0) evs hb G3.init hg).1

open Qfx.Sess Qfx.Sess.C02b in
/-- liveness of one wake-up, sequential model: a flush (`SendAppMessages`) of a logged-on session that has a
    connection writes everything that is queued, in queue order, and leaves nothing queued -/
theorem C02_seq_flush_transmits_all (s : Sess) (hl : s.st.loggedOn = true) (ho : s.out = true) :
    (step s .flush).1.toSend = [] ∧ (step s .flush).2.1 = s.toSend.map Obs.wire := by
  unfold step stepCore
  have hf : fuelOf s.clearLog = (4 * s.inbox.length + 7) + 1 := by simp [fuelOf, Sess.clearLog]
  simp only [hf]
  rw [checkSessionTime_noop _ _ (connected_sessionTime _ (loggedOn_connected _ (by simpa [Sess.clearLog] using hl)))]
  simp [Sess.clearLog, hl, sendQueued, ho]

/- the hypotheses of the flush theorem are satisfiable (interpreter-checked): after connect + Logon an acceptor is
   logged on and has a connection -/
#guard (let s := C02seq.runEvents (Sess.initSess {} 1 1) [.connect, .incomingMsg (some
    { f := [(8, "FIX.4.2"), (35, "A"), (49, "TGT"), (56, "SND"), (34, "1"), (52, "@0"), (98, "0"), (108, "30")] })]
  s.out && s.st.loggedOn)

/-! ### the sequential monitor is not vacuous -/
section
open Qfx.Sess Qfx.Sess.C02
def c02m (k : String) (n : Int) (dup : Bool) : OutMsg := { kind := k, seq := n, f := if dup then [(43, "Y")] else [] }
#guard c02SeqAccepts true 5 [.saved 5 "D" true, .wire (c02m "D" 5 false), .saved 6 "0" true, .wire (c02m "0" 6 false)] == true
#guard c02SeqAccepts true 5 [.saved 6 "D" true] == false                                   -- a gap
#guard c02SeqAccepts true 5 [.saved 5 "D" true, .saved 5 "D" true] == false                -- a repeat
#guard c02SeqAccepts true 5 [.wire (c02m "D" 5 false)] == false                            -- written before saved
#guard c02SeqAccepts true 5 [.saved 5 "D" true, .wire (c02m "8" 5 false)] == false         -- saved as another message
#guard c02SeqAccepts true 5 [.wire (c02m "D" 2 true)] == true                              -- replays are exempt
#guard c02SeqAccepts false 5 [.incS, .wire (c02m "D" 5 false)] == true                     -- persistence off
#guard c02SeqAccepts true 5 [.saved 5 "D" true, .reset, .saved 1 "A" true] == true         -- a reset starts at 1
#guard c02SeqAccepts true 5 [.saved 5 "D" true, .reset, .saved 6 "A" true] == false
#guard c02SeqEpochAccepts true [.saved 5 "D" true, .saved 6 "D" true, .wire (c02m "D" 5 false), .wire (c02m "D" 6 false)] == true
#guard c02SeqEpochAccepts true [.saved 5 "D" true, .saved 6 "D" true, .wire (c02m "D" 6 false), .wire (c02m "D" 5 false)] == false  -- out of order
#guard c02SeqEpochAccepts true [.saved 5 "D" true, .reset, .wire (c02m "D" 5 false)] == false                   -- no longer in the store
#guard c02SeqEpochAccepts true [.saved 5 "D" true, .wire (c02m "D" 5 false), .reset, .saved 1 "A" true, .wire (c02m "A" 1 false)] == true
#guard c02SeqEpochAccepts false [.incS, .incS, .wire (c02m "D" 6 false), .wire (c02m "D" 5 false)] == false      -- order also without persistence

/-- non-vacuity of the theorem: an acceptor logs on, the application sends twice, a flush writes both -/
def c02Logon : InMsg :=
  { f := [(8, "FIX.4.2"), (35, "A"), (49, "TGT"), (56, "SND"), (34, "1"), (52, "@0"), (98, "0"), (108, "30")] }
#guard ((C02seq.traceOf (initSess {} 1 1) [.connect, .incomingMsg (some c02Logon), .send (mkOut "D" []), .send (mkOut "D" []),
            .flush]).filterMap (fun o => match o with
              | .saved n k _ => some (s!"saved {n} {k}") | .wire m => some (s!"wire {m.seq} {m.kind}") | _ => none))
          == ["saved 1 A", "wire 1 A", "saved 2 D", "saved 3 D", "wire 2 D", "wire 3 D"]
end

/-- The Logon-triggered reset (`handleLogon`: ResetOnLogon or a received ResetSeqNumFlag; `Connect`: initiator with
    ResetOnLogon).  On the unchanged tree it called `store.Reset()` directly: outside `sendMutex` (an application
    goroutine between reading the number and saving got a pre-reset number saved after the reset — reproduced by the
    stress harness, signature C02/consecutive) and without dropping the queue (sequentially: initiator, a message
    queued while the Logon is outstanding, the peer's Logon carries 141=Y ⇒ the old model trace was
    `saved 1 A, wire 1 A, saved 2 D, reset, wire 2 D, saved 1 D, saved 2 D, wire 1 D, wire 2 D`: message 2 written
    although the store no longer held it, and number 2 handed out twice).  After the `fix:` both sites go through
    `dropAndReset` like every other reset; the model follows, and the same history now gives: -/
def c02ResetLogon : Sess.InMsg :=
  { f := [(8, "FIX.4.2"), (35, "A"), (49, "TGT"), (56, "SND"), (34, "1"), (52, "@0"), (98, "0"), (108, "30"), (141, "Y")] }
#guard ((C02seq.traceOf (Sess.initSess { initiator := true } 1 1)
          [.connect, .send (Sess.mkOut "D" []), .incomingMsg (some c02ResetLogon), .flush,
           .send (Sess.mkOut "D" []), .send (Sess.mkOut "D" []), .flush]).filterMap (fun o => match o with
              | .saved n k _ => some (s!"saved {n} {k}") | .wire m => some (s!"wire {m.seq} {m.kind}")
              | .reset => some "reset" | _ => none))
        == ["saved 1 A", "wire 1 A", "saved 2 D", "reset", "saved 1 D", "saved 2 D", "wire 1 D", "wire 2 D"]

/-! Remark on readings.  "Retrievable from the store no later than it reaches the wire" is stated on the observation
trace (`C02_seq_epoch`: a `saved (n, kind, resendable)` since the last `reset` precedes the first-time `wire`), not on
the store AFTER the event: an event may write and then legitimately reset (a Logout answered under ResetOnLogout
flushes the Logout and then calls dropAndReset), so "the store after the step still holds n" is false for correct
behaviour.  Resets are the only way the model's store forgets, hence the observation-level statement is the exact one. -/

/-!
Clause checklist (properties.jsonl C02 → theorems)
* next unused number, n, n+1, … no gap no repeat, whichever goroutines : C02_all_schedules (clauses consecutive, sender_next), for ALL schedules
                                                                          of the lock-level model; C02_seq (sequential model, all histories)
* first-time transmissions on the wire in increasing order             : C02_all_schedules (clause wire_order, per epoch); C02_seq_epoch (sequential model)
* while logged on every assigned number is transmitted                 : C02_seq_flush_transmits_all (one flush of a logged-on, connected session writes the whole
                                                                          queue, sequential model); that the wake-up happens (messageEvent) is NOT proved — sampled by
                                                                          the stress harness (every number handed out after logon is read from the connection).
* bytes under n retrievable from the store no later than the wire      : C02_all_schedules (clause persist_before_wire) + C02_final_store;
                                                                          C02_seq / C02_seq_queue_saved / C02_seq_epoch (number, MsgType, resend verdict of the saved
                                                                          message; saved since the last reset);
                                                                          byte identity is the codec family's business (C10/C11)
* store's next outbound number one past the highest handed out         : C02_final_store, C02_seq (second conjunct)
* no first-time message between the replayed ones                      : C02_all_schedules (clauses replay_exclusive, replay_lock), C02_resend_lock_exclusive
* the theorem is false without the locks                               : C02_false_without_sendMutex, C02_false_without_resendMutex, C02_false_with_late_persist
* tie of the programs to the source                                    : C02_skel_* (10 obligations on regenerated skeletons), C02_send_path_functions
* assumed, not proved: Go memory model; sync.Mutex / sync.RWMutex semantics as modelled (a superset of Go's schedules); atomicity at the granularity
  of lock operations and protected actions; store operations succeed; schedules of the real engine are only sampled (stress harness `conc`)
-/
