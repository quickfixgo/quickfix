/-
  C16 — "Every message store behaves like the same abstract store, durably."
  Statement (properties.jsonl): the memory, file and SQL stores return the same answers as one abstract store — two
  counters, a creation time and a map from sequence number to bytes — for any sequence of operations; for the persistent
  stores the same answers are given after a refresh and by a fresh store opened on the same backing files or database.

  Proved here: the text formats of the file store round-trip (counter files, index lines — the obligations the byte-exact
  file model adds over the abstract store), counters written through to the counter file are what a fresh store loads,
  the SQL model's counter write-through, isolation of sessions sharing one backing, the append-only shape of the abstract map under
  ascending saves, and the whole-history refinements `C16_memory_full`, `C16_file_full`, `C16_sql_full` (step simulations in
  Qfx/Lemmas/StoreRefine.lean and Qfx/Lemmas/StoreFile.lean).  Clause checklist at the end.
-/
import Qfx.Lemmas.StoreFile
open Qfx Qfx.Store

/-- under ascending saves the abstract map is an append-only log (what the header file and the messages table are) -/
theorem C16_ainsert_ascending (n : Nat) (m : Bytes) (l : MsgMap) (h : ∀ p ∈ l, p.1 < n) :
    ainsert n m l = l ++ [(n, m)] :=
  ainsert_asc n m l h

/-- counter files: `strconv.Atoi(strings.Trim(fmt.Sprintf("%019d", n), "\r\n")) = n` for every non-negative Go int -/
theorem C16_counter_file_roundtrip (n : Nat) (hn : n ≤ 9223372036854775807) :
    atoiGo (trimCRLF (fmt019 n)) = some (n : Int) := counter_roundtrip n hn

/-- index lines: `Fscanf("%d,%d,%d\n")` reads back exactly what `Fprintf("%d,%d,%d\n")` wrote and leaves the rest of the
    header file for the next round of the loop -/
theorem C16_index_line_roundtrip (seq off size : Nat) (rest : Bytes)
    (h1 : seq ≤ 9223372036854775807) (h2 : off ≤ 9223372036854775807) (h3 : size ≤ 9223372036854775807) :
    scanf3 (headerLine (seq : Int) off size ++ rest) = .item seq off size rest :=
  scanf3_headerLine seq off size rest h1 h2 h3

/-- a whole-file rewrite at offset 0 that is at least as long as the old contents leaves exactly the new bytes -/
theorem C16_writeAt_cover (old data : Bytes) (h : old.length ≤ data.length) : writeAt old 0 data = data :=
  writeAt_cover old data h

/-- durability of the sender counter in the file store: after `SetNextSenderMsgSeqNum(n)` a fresh store (populateCache on
    the files left behind) loads `n` — for every store state whose counter file holds at most 19 bytes -/
theorem C16_file_sender_durable (w : FileW) (n : Nat) (hn : n ≤ 9223372036854775807) (old : Bytes)
    (hf : w.fs.sender = some old) (hl : old.length ≤ 19) (c : MemStore) :
    (populateCache c (w.step (.setS n)).1.fs).2.nextS = (n : Int) := by
  have h19 : old.length ≤ (fmt019 (n : Int)).length := by rw [fmt019_length n hn]; exact hl
  have hw : (w.step (.setS n)).1.fs.sender = some (fmt019 (n : Int)) := by
    cases hs : w.st.sync <;>
      simp [FileW.step, fileOpPrims, setSeqNumPrims, syncIf, hs, applyPrims, applyPrim, FS.get, FS.set, hf, C16_writeAt_cover old _ h19]
  rw [populate_eq, hw]
  simp [MemStore.nextS, readCtr, counter_roundtrip n hn]

/-- isolation: the stores of several sessions share one directory / one database, keyed by the session id (file-name
    prefix, id columns); an operation on session `i` rewrites entry `i` of the backing and leaves the entry of every other
    session `j` unchanged.  The KEY of a file-store session is its file-name prefix (`Drv.filePrefixKey`, mirroring
    `createFilenamePrefix`), which is NOT injective on session ids: besides ids containing `_`/`-` (DESIGN §9 D14), a SenderSubID
    and a SenderLocationID with the same value (likewise on the target side) give the same key — two such sessions are one store
    on disk.  That is the recorded finding `C16/sessions_share_files`; the theorem speaks about distinct KEYS. -/
theorem C16_isolation {α} (l : List (String × α)) (i j : String) (v : α) (h : i ≠ j) :
    (bset l i v).lookup j = l.lookup j := by
  rw [lookup_eq_find?, lookup_eq_find?]
  exact (find?_upsert l i v j).trans (if_neg (Ne.symm h))

/-- … and the rewritten entry is what the next operation on session `i` finds -/
theorem C16_backing_own_entry {α} (l : List (String × α)) (i : String) (v : α) :
    (bset l i v).lookup i = some v := by
  rw [lookup_eq_find?]
  exact (find?_upsert l i v i).trans (if_pos rfl)

/-- SQL store: counters are written through to the session row, so a fresh store (populateCache on the tables left
    behind) loads them -/
theorem C16_sql_counters_durable (w : SqlW) (n : Nat) (r : SessRow) (hr : w.db.sess = some r) (c : MemStore) :
    (sqlPopulate c (w.step (.setS n)).1.db).1.nextS = (n : Int)
    ∧ (sqlPopulate c (w.step (.setT n)).1.db).1.nextT = (n : Int) := by
  constructor <;>
    simp [SqlW.step, SqlW.stepF, fails, sqlPopulate, Tables.updOutgoing, Tables.updIncoming, hr, MemStore.setS, MemStore.setT,
          MemStore.nextS, MemStore.nextT]

/-- memory store: the counters-minus-one representation is invisible -/
theorem C16_memory_counters (w : MemW) (n : Nat) :
    (w.step (.setS n)).2.sender = (n : Int) ∧ ((w.step (.setS n)).1.step .incS).2.sender = (n : Int) + 1
    ∧ (w.step .reset).2.sender = 1 ∧ (w.step .reset).2.target = 1 ∧ (w.step .reset).1.st.map = [] := by
  simp [MemW.step, MemStore.setS, MemStore.nextS, MemStore.incS, MemStore.reset, MemStore.nextT]

/-- the quantifier of C16, "ascending save numbers per epoch": every save uses a number above all numbers saved since the
    last reset (`hi` = highest so far) -/
def C16_ascending : Option Nat → List Op → Prop := Asc

/-- every number that occurs fits a Go `int`: counters, sequence numbers, total bytes saved (the file store prints them with
    `%019d` / `%d` and reads them back with `Atoi` / `Fscanf`, which fail beyond 2^63 − 1) -/
def C16_fitsGoInt : AStore → List Op → Prop := FitsRun

/-- memory store: for EVERY history (no hypothesis on save numbers) the observations are those of the abstract store.
    (A memory store is not persistent, so close-and-reopen is not an operation on it.) -/
theorem C16_memory_full (ops : List Op) (h : ∀ o ∈ ops, o ≠ .reopen) :
    ((MemW.create 0).run ops).2 = (({} : AStore).run ops).2 :=
  memR_run ops {} _ (memR_init 0) h

/-- file store (syncing on or off), byte-exact model: for every history with ascending saves per epoch — including refresh and
    close-and-reopen on the same files — every return value, counter, creation-time relation and retrieved message list
    equals that of the abstract store. -/
theorem C16_file_full (sync : Bool) (ops : List Op) (ha : C16_ascending none ops) (hf : C16_fitsGoInt {} ops) :
    ((FileW.open sync {} 0).run ops).2 = (({} : AStore).run ops).2 :=
  (fileR_run ops [] {} _ (by rw [List.append_nil]; exact ⟨none, [], [], fileR_init sync, ha, hf⟩)).2

/-- SQL store over the two-table model: likewise, including refresh and a fresh store on the same database. -/
theorem C16_sql_full (ops : List Op) (ha : C16_ascending none ops) :
    ((SqlW.open {} 0).run ops).2 = (({} : AStore).run ops).2 :=
  sqlR_run ops {} _ none sqlR_init ha

/-- non-vacuity: a history with saves, reopen, refresh, reset and a second epoch meets both hypotheses -/
example : C16_ascending none [.setS 7, .saveIncr 7 [65], .reopen, .save 9 [66, 67], .get 1 9, .reset, .save 1 [68], .refresh] := by
  simp [C16_ascending, Asc, Qfx.Spec.Store.ascendingOk, Qfx.Spec.Store.hiAfter]
example : C16_fitsGoInt {} [.setS 7, .saveIncr 7 [65], .reopen, .save 9 [66, 67], .get 1 9, .reset, .save 1 [68], .refresh] := by
  simp [C16_fitsGoInt, FitsRun, Fits, AStore.step, ainsert, totalLen, maxInt]
-- a closed run of both models: the kernel evaluates it directly; evaluating it in the elaborator first is the dear part
example : ((SqlW.open {} 0).run [.setS 7, .saveIncr 7 [65], .reopen, .get 1 9]).2
        = (({} : AStore).run [.setS 7, .saveIncr 7 [65], .reopen, .get 1 9]).2 := by decide +kernel

/-! ## the event loop and a sending goroutine on one SQL store

The engine's event loop updates the INBOUND counter outside the send lock while a sending goroutine saves a message and
advances the OUTBOUND counter under it: the only pair of store operations that can overlap in a running session.  In the
SQL store the two touch different columns of the session row and different fields of the cache, so the order in which
they take effect does not matter — which is what the `sqlinter` operation of the store family demands of the real store at
statement granularity (the outcome of the interleaving must be the sequential one). -/

/-- the operations the event loop applies to the inbound side of its store (not under the send lock) -/
def Qfx.Store.Op.targetSide : Op → Bool
  | .setT _ | .incT => true
  | _ => false
/-- the operations a sending goroutine applies to the outbound side (under the send lock) -/
def Qfx.Store.Op.senderSide : Op → Bool
  | .setS _ | .incS | .save _ _ | .saveIncr _ _ => true
  | _ => false

theorem C16_sql_sides_commute (w : SqlW) (a b : Op) (ha : a.targetSide = true) (hb : b.senderSide = true) :
    ((w.step a).1.step b).1 = ((w.step b).1.step a).1 := by
  cases a <;> cases ha <;> cases b <;> cases hb <;>
    simp only [SqlW.step, SqlW.stepF, fails_none, Bool.false_eq_true, ↓reduceIte, insertMsg_updIncoming,
      MemStore.nextS_setT, MemStore.nextT_setS]
  -- the pairs {setT, incT} × {setS, incS, save, saveIncr}; those with a save split on the insert
  case setT.refl.save.refl n k m | incT.refl.save.refl k m => cases w.db.insertMsg k m <;> rfl
  case setT.refl.saveIncr.refl n k m | incT.refl.saveIncr.refl k m =>
    cases w.db.insertMsg k m <;> simp [updIncoming_updOutgoing, MemStore.setS, MemStore.setT, MemStore.nextS, MemStore.nextT]
  all_goals simp [updIncoming_updOutgoing, MemStore.setS, MemStore.setT]

/-- non-vacuity: on a store that holds a session row and a message the two orders give one (non-initial) state -/
example : (((SqlW.open {} 0).step (.saveIncr 1 [65])).1.step .incT).1.db.sess.map (fun r => (r.incoming, r.outgoing)) = some (2, 2) := by decide

/-!
Clause checklist (properties.jsonl C16 → here)
* "counters reflect the last set/increment": C16_memory_counters, C16_file_sender_durable, C16_sql_counters_durable (single steps);
  whole histories: C16_memory_full, C16_file_full, C16_sql_full (refinement theorems).
* "saved messages come back byte-identical, in ascending order and only within the requested range": C16_index_line_roundtrip
  (one loop round of IterateMessages on a well-formed header), C16_ainsert_ascending; whole histories: the three `_full` theorems
  (memory: integer-range loop = range selection of the sorted map; file: header = rendering of the log, Fscanf loop = range selection;
  SQL: ORDER BY of a sorted table is the identity).
* "reset returns counters to 1, forgets all messages and renews the creation time": C16_memory_counters (reset part); monitor `creation_time_differs`.
* "the same answers after a refresh and by a fresh store": C16_counter_file_roundtrip, C16_file_sender_durable, C16_sql_counters_durable.
* "several sessions sharing one backing directory or database": C16_isolation, C16_backing_own_entry.
-/
