/-
  C18 — "Session schedules classify instants by the configured windows" (fixed-offset zones).
  Instants are judged away from the one-second window edges, as the property says: `offEdge`.
-/
import Qfx.Lemmas.TimeRange
open Qfx.TR

theorem awo_prev (d : Int) : addWeekdayOffset (wdOfDay d) (-1) = wdOfDay (d - 1) := by
  have := wdOfDay_bounds d
  unfold addWeekdayOffset
  rw [Int.tmod_eq_emod_of_nonneg (by omega)]
  unfold wdOfDay; omega

def offEdge (r : Range) (t : Int) : Prop := todOf t ≠ r.startS ∧ todOf t ≠ r.endS

/-- daily configurations (plain, overnight, weekday-restricted by the opening day):
    the code's answer is membership in one of the configured windows -/
theorem C18_in_range_daily (r : Range) (hwf : r.wf) (hd : r.startDay = none) (t : Int) (he : offEdge r t) :
    r.isInRange t = true ↔ InRange r t := by
  obtain ⟨he1, he2⟩ := he
  -- the window is today's or, when it runs overnight, yesterday's
  rw [inRange_iff r hwf t, exists_upto_one (by simp only [Range.span, hd]; split <;> simp)]
  simp only [Range.isInRange, Range.isInRangeWith, Range.isInTimeRangeWith, Range.opens, Range.span, hd, weekday,
    awo_prev, Int.sub_zero]
  by_cases hlt : r.startS < r.endS
  · simp [hlt]
  · by_cases hle : todOf t ≤ r.endS
    · -- off the edges an instant before the close of an overnight window is not after its opening
      have : ¬ r.startS ≤ todOf t := by omega
      simp [hlt, hle, this]
    · simp [hlt, hle, and_comm]

/-- weekly configurations (StartDay/StartTime – EndDay/EndTime, any wrap, same-day both ways) -/
theorem C18_in_range_weekly (r : Range) (hwf : r.wf) (sd ed : Int) (hs : r.startDay = some sd) (hed : r.endDay = some ed)
    (t : Int) (he : offEdge r t) :
    r.isInRange t = true ↔ InRange r t := by
  obtain ⟨he1, he2⟩ := he
  -- `Range.wf` by position: 6 / 7 the days' ranges, 9 no Weekdays beside them
  have hsd := hwf.2.2.2.2.2.1 sd hs
  have hedd := hwf.2.2.2.2.2.2.1 ed hed
  have hw := wdOfDay_bounds (dayOf t)
  have hwds : ∀ x, r.isInWeekdays x = true := by simp [Range.isInWeekdays, hwf.2.2.2.2.2.2.2.2 (by simp [hs])]
  -- the window opens `k0 = (weekday − sd) % 7` days back, or a whole week back when that is 0
  rw [inRange_iff r hwf t]
  simp only [Range.opens, hs, hed, decide_eq_true_eq, wdOfDay_sub_eq_iff hsd]
  rw [exists_mod7_iff (by omega) (span_bounds r).2]
  simp only [Range.isInRange, Range.isInRangeWith, hs, hed, Range.isInWeekRangeWith, Range.isInTimeRangeWith, weekday,
    hwds, if_true, Range.span]
  obtain ⟨w, hwd⟩ : ∃ w, wdOfDay (dayOf t) = w := ⟨_, rfl⟩
  simp only [hwd] at hw ⊢
  have hk0 : 0 ≤ (w - sd) % 7 ∧ (w - sd) % 7 < 7 := by omega
  have h0 : w = sd ↔ (w - sd) % 7 = 0 := by omega
  by_cases hse : sd = ed
  · subst hse
    simp only [h0, if_true]
    generalize (w - sd) % 7 = k0 at hk0
    by_cases hk : k0 = 0
    · by_cases hlt : r.startS < r.endS
      · simp [hk, hlt]
      · simp [hk, hlt]; omega
    · have : ¬ k0 ≤ 0 := by omega
      by_cases hlt : r.startS < r.endS
      · simp [hk, hlt, this]
      · simp [hk, hlt]; omega
  · have h7 : (ed - sd) % 7 ≠ 7 ∧ (ed - sd) % 7 ≠ 0 := by omega
    have hn : w = ed ↔ (w - sd) % 7 = (ed - sd) % 7 := by omega
    have hout := outside_iff hw hsd hedd hse
    simp only [hse, if_false, hout, h0, hn]
    generalize (w - sd) % 7 = k0
    generalize (ed - sd) % 7 = n at h7
    by_cases hk : n < k0
    · have : ¬ k0 ≤ n := by omega
      simp [hk, this, h7.1]
    · have : k0 ≤ n := by omega
      by_cases hk0 : k0 = 0
      · have : ¬ 0 = n := by omega
        simp [h7.1, *]
      · by_cases hkn : k0 = n
        · simp [*]
        · simp [h7.1, *]

/-- in-range, every configuration the factory can build -/
theorem C18_in_range (r : Range) (hwf : r.wf) (t : Int) (he : offEdge r t) :
    r.isInRange t = true ↔ InRange r t := by
  rcases hs : r.startDay with _ | sd
  · exact C18_in_range_daily r hwf hs t he
  · rcases hed : r.endDay with _ | ed
    · have := hwf.2.2.2.2.2.2.2.1; simp [hs, hed] at this
    · exact C18_in_range_weekly r hwf sd ed hs hed t he

theorem sessionEnd_eq_hi (r : Range) (hwf : r.wf) (t D lo hi : Int) (hwin : r.window D = some (lo, hi))
    (hlo : lo ≤ t) (hhi : t ≤ hi) (he : offEdge r t) : r.sessionEnd t = hi := by
  obtain ⟨ho, rfl, rfl⟩ := (window_eq_some_iff r D lo hi).1 hwin
  obtain ⟨h0, hn, hs, hc⟩ := (mem_window_iff ⟨hwf.1, hwf.2.1⟩ ⟨hwf.2.2.1, hwf.2.2.2.1⟩ D r.span t).1 ⟨hlo, hhi⟩
  rw [sessionEnd_eq r hwf t (dayOf t - D) he.2 h0 hn (by rwa [Int.sub_sub_self]) hs hc, Int.sub_sub_self]

theorem C18_same_range_ordered (r : Range) (hwf : r.wf) (t1 t2 : Int) (hle : t1 ≤ t2)
    (he1 : offEdge r t1) (he2 : offEdge r t2) :
    (r.isInRange t1 = true ∧ r.isInRange t2 = true ∧ t2 < r.sessionEnd t1) ↔ Same r t1 t2 := by
  constructor
  · rintro ⟨h1, h2, h3⟩
    obtain ⟨D, lo, hi, hwin, hlo, hhi⟩ := (C18_in_range r hwf t1 he1).1 h1
    have := sessionEnd_eq_hi r hwf t1 D lo hi hwin hlo hhi he1
    exact ⟨D, lo, hi, hwin, hlo, hhi, by omega, by omega⟩
  · rintro ⟨D, lo, hi, hwin, hlo1, hhi1, hlo2, hhi2⟩
    have hs := sessionEnd_eq_hi r hwf t1 D lo hi hwin hlo1 hhi1 he1
    refine ⟨(C18_in_range r hwf t1 he1).2 ⟨D, lo, hi, hwin, hlo1, hhi1⟩,
            (C18_in_range r hwf t2 he2).2 ⟨D, lo, hi, hwin, hlo2, hhi2⟩, ?_⟩
    -- t2 ≤ hi, and t2 is not the closing second: the time of day of `hi` is `endS`
    have hne : t2 ≠ hi := fun h => he2.2 (by rw [h, ← hs]; exact todOf_sessionEnd r hwf t1)
    omega

theorem same_symm (r : Range) (a b : Int) : Same r a b ↔ Same r b a := by
  constructor <;> rintro ⟨D, lo, hi, hw, h1, h2, h3, h4⟩ <;> exact ⟨D, lo, hi, hw, h3, h4, h1, h2⟩

/-- "two instants are reported to be in the same session exactly when they fall in the same window" -/
theorem C18_same_range (r : Range) (hwf : r.wf) (a b : Int) (hea : offEdge r a) (heb : offEdge r b) :
    r.isInSameRange a b = true ↔ Same r a b := by
  rw [isInSameRange_iff]
  by_cases hba : b < a
  · simp only [hba, if_true]
    rw [same_symm, ← C18_same_range_ordered r hwf b a (by omega) heb hea]
    exact and_left_comm
  · simp only [hba, if_false]
    exact C18_same_range_ordered r hwf a b (by omega) hea heb

/-- corollaries the property lists: symmetric, implies both in range -/
theorem C18_same_symmetric (r : Range) (hwf : r.wf) (a b : Int) (hea : offEdge r a) (heb : offEdge r b) :
    r.isInSameRange a b = r.isInSameRange b a :=
  isInSameRange_comm r a b

theorem C18_same_implies_in_range (r : Range) (a b : Int) (h : r.isInSameRange a b = true) :
    r.isInRange a = true ∧ r.isInRange b = true :=
  have h := (isInSameRange_iff r a b).1 h
  ⟨h.1, h.2.1⟩

theorem window_hi_inj (r : Range) (D1 D2 lo1 lo2 hi : Int)
    (h1 : r.window D1 = some (lo1, hi)) (h2 : r.window D2 = some (lo2, hi)) : D1 = D2 ∧ lo1 = lo2 := by
  obtain ⟨-, rfl, e1⟩ := (window_eq_some_iff r D1 lo1 hi).1 h1
  obtain ⟨-, rfl, e2⟩ := (window_eq_some_iff r D2 lo2 hi).1 h2
  omega

/-- "the relation is transitive" (away from the edges an instant lies in at most one window) -/
theorem C18_same_transitive (r : Range) (hwf : r.wf) (a b c : Int)
    (hea : offEdge r a) (heb : offEdge r b) (hec : offEdge r c)
    (hab : r.isInSameRange a b = true) (hbc : r.isInSameRange b c = true) : r.isInSameRange a c = true := by
  obtain ⟨D1, lo1, hi1, hw1, ha1, ha2, hb1, hb2⟩ := (C18_same_range r hwf a b hea heb).1 hab
  obtain ⟨D2, lo2, hi2, hw2, hb3, hb4, hc1, hc2⟩ := (C18_same_range r hwf b c heb hec).1 hbc
  -- both windows hold `b`, so both end at `sessionEnd b`
  have e1 := sessionEnd_eq_hi r hwf b D1 lo1 hi1 hw1 hb1 hb2 heb
  have e2 := sessionEnd_eq_hi r hwf b D2 lo2 hi2 hw2 hb3 hb4 heb
  obtain rfl : hi1 = hi2 := e1.symm.trans e2
  obtain ⟨rfl, rfl⟩ := window_hi_inj r D1 D2 lo1 lo2 hi1 hw1 hw2
  exact (C18_same_range r hwf a c hea hec).2 ⟨D1, lo1, hi1, hw1, ha1, ha2, hc1, hc2⟩

/-- the code before the `fix:` (`(day + offset) % 7` with Go's truncating `%`) misclassified Sunday mornings of an
    overnight window that opens on Saturday (D9): concrete witness, replayed by the sched family -/
def satNight : Range := { startS := 79200, endS := 21600, weekdays := [6], startDay := none, endDay := none }
theorem C18_original_sunday_witness :
    satNight.isInRangeWith addWeekdayOffsetOrig (3 * 86400 + 10800) = false ∧
    satNight.isInRange (3 * 86400 + 10800) = true ∧ InRange satNight (3 * 86400 + 10800) := by
  refine ⟨by decide, by decide, ⟨2, 2 * 86400 + 79200, 3 * 86400 + 21600, by decide, by decide, by decide⟩⟩

/-- non-vacuity: a factory-buildable configuration and an off-edge instant -/
example : satNight.wf ∧ offEdge satNight (3 * 86400 + 10800) := by
  refine ⟨⟨by decide, by decide, by decide, by decide, by decide, by simp [satNight], by simp [satNight], by decide, by simp [satNight]⟩, by decide, by decide⟩

/-!
Clause checklist (properties.jsonl C18 → theorems)
* in range ⇔ in one of the configured windows (daily / overnight / weekdays by opening day / weekly): C18_in_range (C18_in_range_daily, C18_in_range_weekly)
* same session ⇔ same window: C18_same_range;  symmetric: C18_same_symmetric;  transitive: C18_same_transitive;
  implies both in range: C18_same_implies_in_range;  false across a window boundary: C18_same_range (←, contrapositive)
* "evaluated in the configured time zone": fixed-offset zones only (instants are civil seconds); DST zones: Go-side oracle (partial)
* original defect: C18_original_sunday_witness (D9, fixed by 6b77fc1)
-/
