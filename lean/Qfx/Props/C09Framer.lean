/-
  Framer part of C09 ("no bytes from the wire … can crash the engine"), imported by Qfx/Props/C09.lean.  Proofs are the C12 ones.
-/
import Qfx.Props.C12
open Qfx Qfx.Framer Qfx.Spec

/-- DESIGN §5 C09 `C09_framer_total`: for every reader (chunks, EOF convention, final error) `readLoop` over the stream
    parser never panics / never issues a zero-length read; it ends with an error value of `ReadMessage`.
    Termination for every finite chunk list is the totality of `framesRead` (well-founded recursion, no fuel). -/
theorem C09_framer_total (rd : Reader) : ∃ c, (framesRead rd).end_ = .err c := C12_ends_with_error rd

/-- a zero-length read is a fault of the model (Model/Framer.lean), so its absence is part of this -/
theorem C09_framer_no_fault (rd : Reader) (w : String) : (framesRead rd).end_ ≠ .fault w := C12_no_fault_reader rd w

/-- the tree before `fix: jumpLength rejects a BodyLength whose end offset overflows int` did panic:
    the end offset of `9=9223372036854775807` wraps negative and a negative offset faults in `p.buffer[offset:]` -/
theorem C09_framer_orig_witness :
    wrap64 ((15 : Int) + 9223372036854775807) < 0 ∧
    ∀ (d : Bytes) (p : P), findIndexAfterOffset (wrap64 ((15 : Int) + 9223372036854775807)) d p = .fault "slice bounds out of range" :=
  ⟨C12_orig_overflow_witness, fun d p => C12_orig_negative_offset_faults _ C12_orig_overflow_witness d p⟩
