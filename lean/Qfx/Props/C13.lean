/-
  C13 — "Repeating groups survive the trip through the wire".
  Property theorems only: structural facts of `RepeatingGroup.Write` / `Read` that the round trip rests on, and the round trip
  end to end (build + parse + GetGroup; conclusion: as many entries as were written): `C13_roundtrip_nodict`, `C13_roundtrip_dict`.
  The monitor clauses `group_roundtrip` / `followers_found` and the correspondence check the same on every run.
-/
import Qfx.Lemmas.CodecRound
import Qfx.Lemmas.CodecDictSegs
import Qfx.Lemmas.CodecDictExample
import Qfx.Lemmas.CodecWriteNest
import Qfx.Lemmas.CodecRoundDict
import Qfx.Lemmas.CodecGroupNested
open Qfx Qfx.Spec

/-- `Write` starts with `<tag>=<number of entries>` -/
theorem C13_write_starts_with_count (tag : Tag) (tmpl : List Item) (es : List (List GFld)) (tvs : List TagValue)
    (h : writeGroup tag tmpl es = .ok tvs) : tvs.head? = some (TagValue.init tag (fmtNat es.length)) := by
  revert h
  fun_cases writeGroup tag tmpl es with   -- case1: `writeEntries` succeeded
  | case1 => intro h; cases h; rfl
  | _ => nofun

/-- "yields the same number of entries": a successful `Read` returns exactly as many entries as the NumInGroup field
    announces (0 entries for a count of 0) — for every template, nesting and input -/
theorem C13_read_count (fuel : Nat) (tmpl : List Item) (t0 : TagValue) (rest : List TagValue)
    (r : List TagValue × List GEntry) (h : readGroup fuel tmpl (t0 :: rest) = .ok r) :
    ∃ n, atoi t0.value = .ok n ∧ (r.2.length : Int) = n := by
  generalize hl : t0 :: rest = l at h
  revert h
  -- the two `.ok` leaves: case5 count 0, case7 the loop succeeded and `hc`: the number of entries is the count
  fun_cases readGroup fuel tmpl l with
  | case5 _ _ _ _ hn => intro h; cases h; cases hl; exact ⟨0, hn, rfl⟩
  | case7 _ _ _ _ n hn _ _ _ _ hc => intro h; cases h; cases hl; exact ⟨n, hn, by simpa using hc⟩
  | _ => nofun

/-- a count of zero consumes just the NumInGroup field -/
theorem C13_read_zero (fuel : Nat) (tmpl : List Item) (t0 : TagValue) (rest : List TagValue) (h0 : atoi t0.value = .ok 0) :
    readGroup (fuel + 1) tmpl (t0 :: rest) = .ok (rest, []) :=
  readGroup_zero fuel tmpl t0 rest h0

/-- "the fields following the group are still found": the read loop stops at the first field whose tag is not in the
    template and hands back everything from that field on, untouched -/
theorem C13_read_stops_at_follower (fuel : Nat) (tmpl : List Item) (f : TagValue) (rest : List TagValue)
    (done : List GEntry) (cur : Option GEntry) (hf : findItem tmpl f.tag = none) :
    readLoop (fuel + 1) tmpl (f :: rest) done cur = .ok (f :: rest, finishGroups done cur) :=
  step_stop fuel tmpl f rest done cur hf

/-- one element of an entry: a template element that is not the delimiter is recorded in the current entry under its
    tag, with the rest of the array as its range, and the loop continues behind it -/
theorem C13_read_member (fuel : Nat) (d : Item) (tmpl : List Item) (f : TagValue) (rest : List TagValue)
    (done : List GEntry) (g : GEntry) (t : Tag) (hf : findItem (d :: tmpl) f.tag = some (.elem t)) (hd : f.tag ≠ d.tag) :
    readLoop (fuel + 1) (d :: tmpl) (f :: rest) done (some g) =
      readLoop fuel (d :: tmpl) rest done (some (g.put f.tag (f :: rest))) :=
  step_member fuel d tmpl f rest done g t hf hd

/-- the delimiter closes the current entry and opens a new one -/
theorem C13_read_delimiter (fuel : Nat) (d : Tag) (tmpl : List Item) (f : TagValue) (rest : List TagValue)
    (done : List GEntry) (cur : Option GEntry) (hd : f.tag = d) :
    readLoop (fuel + 1) (.elem d :: tmpl) (f :: rest) done cur =
      readLoop fuel (.elem d :: tmpl) rest (finishGroups done cur) (some (GEntry.empty.put f.tag (f :: rest))) :=
  step_delim fuel d tmpl f rest done cur hd

/-- with a dictionary (after the fix of D6): a field that follows a nested group is attributed to the innermost
    enclosing group that lists it; `popToMember` returns a proper prefix of the tag stack, or `none` (the group ends) -/
theorem C13_pop_returns_shorter_stack (d : Dicts) (fields : List TagValue) (hd : FieldMap) (t : Tag) (rev : List Tag)
    (tags' : List Tag) (gf : List DNode) (h : popToMember d fields hd t rev = some (tags', gf)) :
    tags'.length < rev.length ∧ isGroupMember t gf = true := by
  induction rev with
  | nil => simp [popToMember] at h
  | cons x r ih =>
    unfold popToMember at h
    -- first split: no enclosing level left; second: the enclosing level lists `t`, or the search goes on
    split at h
    · cases h
    · simp only [] at h
      split at h
      · rename_i hm
        injection h with h
        simp only [Prod.mk.injEq] at h
        obtain ⟨h1, h2⟩ := h
        subst h1; subst h2
        exact ⟨by simp, hm⟩
      · have := ih h
        exact ⟨by simp only [List.length_cons]; omega, this.2⟩

/-- READ INVERTS THE WIRE FORM (templates without nested groups, any number of entries, any number of members per entry,
    members in any order after the delimiter, arbitrary values, anything behind the group that does not carry a template tag).
    `GetGroup` on `<tag>=<n>` followed by the `n` entries and then `rest` returns exactly `n` entries; entry `i` lists the
    tags of the i-th wire entry in wire order and maps each of them (tags distinct inside an entry) to a range that starts
    with that very field — so `GetBytes` on the entry returns the wire value; and the fields behind the group are left
    untouched ("the fields following the group are still found"). -/
theorem C13_read_inverts_wire_flat (gtag d : Tag) (ts : List Tag) (rest : List TagValue) (es : List (List (Tag × Bytes)))
    (hrest : FollowerOK (d :: ts) rest) (hes : ∀ e ∈ es, EntryOK d (d :: ts) e) (hn : es.length < 9223372036854775808) :
    ∃ gs, readGroup (readFuel (countTV gtag es.length :: (es.flatMap serEntry ++ rest))) (flatTmpl (d :: ts))
            (countTV gtag es.length :: (es.flatMap serEntry ++ rest)) = .ok (rest, gs) ∧
      gs.length = es.length ∧
      ∀ (i : Nat) (e : List (Tag × Bytes)), es[i]? = some e → ∃ g : GEntry, gs[i]? = some g ∧ g.tags = e.map (·.1) ∧
        ((e.map (·.1)).Nodup → ∀ t v, (t, v) ∈ e → ∃ tail, alFind g.lookup t = some (TagValue.init t v :: tail)) := by
  exact ⟨readSpec rest es, readGroup_flat gtag d ts rest hrest es hes hn _ (readFuel_cons_append _ _ _), readSpec_length rest es,
    readSpec_entry rest es⟩

/-- ROUND TRIP AT THE FIELD LEVEL (templates without nested groups).  "A repeating group written … and read back through the
    same template yields the same number of entries with the same fields and values in the same order … the fields
    following the group are still found."  For every template `d :: ts` of distinct element tags, every number of entries,
    every entry built by ANY sequence of setter calls on template tags (any order, overwrites allowed) that sets the
    delimiter, and anything behind the group that does not start with a template tag:
    `Write` followed by `Read` returns one entry per entry written, in which every tag that was set maps to a range
    starting with a field that carries the LATEST value set, and hands back `rest` untouched. -/
theorem C13_roundtrip_flat (gtag d : Tag) (ts : List Tag) (hts : (d :: ts).Nodup) (rest : List TagValue)
    (hrest : FollowerOK (d :: ts) rest) (es : List (List (Tag × Bytes)))
    (hes : ∀ e ∈ es, (∀ p ∈ e, p.1 ∈ d :: ts) ∧ (latest e d).isSome = true) (hn : es.length < 9223372036854775808) :
    ∃ tvs gs, writeGroup gtag (flatTmpl (d :: ts)) (es.map fldsOf) = .ok tvs ∧
      readGroup (readFuel (tvs ++ rest)) (flatTmpl (d :: ts)) (tvs ++ rest) = .ok (rest, gs) ∧
      gs.length = es.length ∧
      ∀ (i : Nat) (e : List (Tag × Bytes)), es[i]? = some e → ∃ g : GEntry, gs[i]? = some g ∧
        ∀ t v, latest e t = some v → ∃ tail, alFind g.lookup t = some (TagValue.init t v :: tail) := by
  obtain ⟨gs, hread, hlen, hent⟩ := read_canon_flat gtag d ts hts rest hrest es hes hn
  refine ⟨countTV gtag es.length :: es.flatMap (fun e => serEntry (canon (d :: ts) e)), gs, ?_, by simpa [List.append_assoc] using hread, hlen, hent⟩
  simp only [writeGroup, writeEntries_flat (d :: ts) hts es (fun e he => (hes e he).1), List.length_map]

/-- THE TRIP THROUGH THE WIRE, WITHOUT DICTIONARY (templates without nested groups).  "A repeating group written into a message
    and read back from the parsed bytes through the same template yields the same number of entries with the same fields
    and values …".  For EVERY sequence of Message API operations (tags in their proper section, int64 tags other than
    XMLDataLen, SOH-free values) that leaves BeginString and MsgType set and a body group `gtag` holding what `SetGroup`
    stored for entries built by arbitrary setter calls on the template tags (`GroupIn`: template tags distinct, every entry
    sets the delimiter, no other TagValue of the message carries the group tag or a template tag — whatever else is in
    header, body before and after the group, and trailer):
    `build`, then `ParseMessage` (no dictionary), then `GetGroup(template)` on the parsed body succeeds with one entry per
    entry written, and in entry `i` every tag that was set maps to a field carrying the latest value set. -/
theorem C13_roundtrip_nodict_flat (fx : Fixes) (ops : List MOp) (hp : ∀ op ∈ ops, op.proper ∧ op.wire) (m : Message)
    (hrun : runMOps ops Message.new = .ok m)
    (h8 : (alFind m.header.lookup 8).isSome = true) (h35 : (alFind m.header.lookup 35).isSome = true)
    (gtag d : Tag) (ts : List Tag) (es : List (List (Tag × Bytes))) (hG : GroupIn m gtag d ts es)
    (bytes : Bytes) (m' : Message) (hbuild : m.build Fixes.cur = .ok (bytes, m')) (hsmall : bytes.length < 9223372036854775808) :
    ∃ (p : Message) (f : Field) (gs : List GEntry),
      parseMessage fx Dicts.none bytes = .ok p ∧ alFind p.body.lookup gtag = some f ∧
      getGroup (flatTmpl (d :: ts)) (f.full p.fields) = .ok gs ∧ gs.length = es.length ∧
      ∀ (i : Nat) (e : List (Tag × Bytes)), es[i]? = some e → ∃ g : GEntry, gs[i]? = some g ∧
        ∀ t v, latest e t = some v → ∃ tail, alFind g.lookup t = some (TagValue.init t v :: tail) := by
  obtain ⟨hb, hw, tv, f35, hf8, hf35⟩ := runMOps_leading ops hp m hrun h8 h35
  exact roundtrip_nodict_flat fx m hb hw tv f35 hf8 hf35 gtag d ts es hG bytes m' hbuild hsmall

/-- the `GroupIn` hypothesis is what `SetGroup` establishes: it stores `Write`'s output under the group tag -/
theorem C13_setgroup_stores_write (m m' : Message) (gtag d : Tag) (ts : List Tag) (hts : (d :: ts).Nodup)
    (es : List (List (Tag × Bytes))) (hes : ∀ e ∈ es, ∀ p ∈ e, p.1 ∈ d :: ts)
    (h : m.setGroup .b gtag (flatTmpl (d :: ts)) (es.map fldsOf) = .ok m') :
    alFind m'.body.lookup gtag = some (.owned (countTV gtag es.length :: es.flatMap (fun e => serEntry (canon (d :: ts) e)))) :=
  setGroup_stores m m' gtag d ts hts es hes h

/-- WITH THE DICTIONARY THAT DEFINES THE GROUP (a group whose dictionary definition has no nested groups), group followed by
    further body fields.  The wire message `8, 9, 35, plain…, G=<n>, entries…, z0, plain…, 10` — `G` a repeating group of
    the message type `35` in the application dictionary with member list `C` (`FlatGroup`), the entries arbitrary
    well-formed entries over the dictionary's member tags (delimiter first, any member order and subset), `z0` a body
    field that is not a member, the plain fields not starting a dictionary group — is parsed by the dictionary-guided parser
    (`parseGroup`, after the fixes) into `Message.fields` = the wire fields, the body maps `G` to the view covering the count
    and all members, and `GetGroup` through the dictionary's own template returns one entry per wire entry with every
    member field mapped to a range that starts with it; the fields behind the group stay outside it. -/
theorem C13_dict_flat_group_mid (d : Dicts) (mt : Bytes) (G d0 : Tag) (ts : List Tag) (C : List DNode)
    (hg : FlatGroup d mt G C) (hC : C.map DNode.tag = d0 :: ts)
    (t8 t9 t35 z0 t10 : TagValue) (preA postB : List TagValue) (es : List (List (Tag × Bytes)))
    (hw8 : IsWire t8) (hw9 : IsWire t9) (hw35 : IsWire t35) (hw10 : IsWire t10)
    (h8 : t8.tag = 8) (h9 : t9.tag = 9) (h35 : t35.tag = 35) (h10 : t10.tag = 10) (hv : t35.value = mt)
    (hpre : PlainFields d preA) (hGi : inInt64 G)
    (hGh : isHeaderField d G = false) (hGt : isTrailerField d G = false)
    (hes : ∀ e ∈ es, EntryOK d0 (d0 :: ts) e) (hval : ∀ e ∈ es, ∀ p ∈ e, inInt64 p.1 ∧ ∀ c ∈ p.2, c ≠ SOH)
    (hn : es.length < 9223372036854775808)
    (hz : PlainFields d (z0 :: postB)) (hzm : z0.tag ∉ d0 :: ts)
    (hzh : isHeaderField d z0.tag = false) (hzt : isTrailerField d z0.tag = false)
    (hzG : ∀ tv ∈ z0 :: postB, tv.tag ≠ G) (hng10 : NoGroupTag d 10) (hh10 : isHeaderField d 10 = false)
    (hbl : atoi t9.value = .ok ((fieldsLength (t8 :: t9 :: t35 :: ((preA ++ countTV G es.length :: es.flatMap serEntry) ++ (z0 :: postB ++ [t10]))) : Nat) : Int)) :
    ∃ (m : Message) (f : Field),
      parseMessage Fixes.cur d (wireOf (t8 :: t9 :: t35 :: ((preA ++ countTV G es.length :: es.flatMap serEntry) ++ (z0 :: postB ++ [t10])))) = .ok m ∧
      m.fields = t8 :: t9 :: t35 :: ((preA ++ countTV G es.length :: es.flatMap serEntry) ++ (z0 :: postB ++ [t10])) ∧
      alFind m.body.lookup G = some f ∧
      getGroup (flatTmpl (d0 :: ts)) (f.full m.fields) = .ok (readSpec (z0 :: postB ++ [t10]) es) ∧
      (readSpec (z0 :: postB ++ [t10]) es).length = es.length ∧
      ((∀ tv ∈ postB, tv.tag ≠ z0.tag) → (m.body.getBytes m.fields z0.tag = .ok z0.value)) := by
  obtain ⟨hz0, hpost⟩ := hz.cons
  have hzC : isGroupMember z0.tag C = false := not_isGroupMember (by rw [hC]; exact hzm)
  obtain ⟨fs, ha, _, hs⟩ := walk2_segOKN hg.outer (s := ⟨preA, countTV G es.length, es.flatMap serEntry, z0⟩) rfl
    (hg.walk2 _ (entries_members hC es hes hval)) hpre (countTV_isWire G _ hGi) hGh hGt hz0 hzC hzC hzh hzt
  obtain ⟨m, f, hparse, hfields, hfind, _, hfull, hz0find⟩ := parse_dict_group_mid ha t8 t9 t35 (countTV G es.length) z0 t10 preA _ postB
    hw8 hw9 hw35 hw10 h8 h9 h35 h10 hv hs hpost hzG hh10 hbl
  refine ⟨m, f, hparse, hfields, hfind, ?_, readSpec_length _ _, hz0find⟩
  rw [hfull]
  exact read_back_flat _ G d0 ts es hes hn (fun f r hfr => List.head_eq_of_cons_eq hfr ▸ hzm)

/-- WITH THE DICTIONARY, A GROUP THAT CONTAINS A NESTED GROUP (the D6 scenario, after the fix), whole parse: the message
    `8, 9, 35, plain…, G=<n>, leaf members of G…, N=<k>, members of N…, z0, plain…, 10` — `G` a group of the message type, `N` a group
    nested in it, `z0` a member of neither — parses into `Message.fields` = the wire fields, the body maps `G` to exactly the count
    field, its members, the nested count and the nested members, and the field `z0` BEHIND the nested group is found in the body
    (the unchanged code kept it inside the group: `C13_orig_swallows_behind_nested_group`). -/
theorem C13_dict_nested_group_mid (d : Dicts) (mt : Bytes) (G N : Tag) (C CN : List DNode) (hg : NestedGroup d mt G N C CN)
    (t8 t9 t35 g0 n0 z0 t10 : TagValue) (preA M1 MN postB : List TagValue)
    (hw8 : IsWire t8) (hw9 : IsWire t9) (hw35 : IsWire t35) (hw10 : IsWire t10)
    (h8 : t8.tag = 8) (h9 : t9.tag = 9) (h35 : t35.tag = 35) (h10 : t10.tag = 10) (hv : t35.value = mt)
    (hpre : PlainFields d preA) (hg0 : IsWire g0) (hG : g0.tag = G)
    (hGh : isHeaderField d G = false) (hGt : isTrailerField d G = false)
    (hM1 : ∀ tv ∈ M1, IsWire tv ∧ isGroupMember tv.tag C = true ∧ pathWalk C [tv.tag] = none)
    (hn0 : IsWire n0) (hN : n0.tag = N)
    (hMN : ∀ tv ∈ MN, IsWire tv ∧ isGroupMember tv.tag CN = true)
    (hz : PlainFields d (z0 :: postB)) (hzmN : isGroupMember z0.tag CN = false) (hzmC : isGroupMember z0.tag C = false)
    (hzh : isHeaderField d z0.tag = false) (hzt : isTrailerField d z0.tag = false)
    (hzG : ∀ tv ∈ z0 :: postB, tv.tag ≠ G)
    (hng10 : NoGroupTag d 10) (hh10 : isHeaderField d 10 = false)
    (hbl : atoi t9.value = .ok ((fieldsLength (t8 :: t9 :: t35 :: ((preA ++ g0 :: (M1 ++ n0 :: MN)) ++ (z0 :: postB ++ [t10]))) : Nat) : Int)) :
    ∃ (m : Message) (f : Field),
      parseMessage Fixes.cur d (wireOf (t8 :: t9 :: t35 :: ((preA ++ g0 :: (M1 ++ n0 :: MN)) ++ (z0 :: postB ++ [t10])))) = .ok m ∧
      m.fields = t8 :: t9 :: t35 :: ((preA ++ g0 :: (M1 ++ n0 :: MN)) ++ (z0 :: postB ++ [t10])) ∧
      alFind m.body.lookup G = some f ∧
      f.items m.fields = g0 :: (M1 ++ n0 :: MN) ∧
      ((∀ tv ∈ postB, tv.tag ≠ z0.tag) → m.body.getBytes m.fields z0.tag = .ok z0.value) := by
  obtain ⟨hz0, hpost⟩ := hz.cons
  obtain ⟨fs, ha, _, hs⟩ := walk2_segOKN hg.outer (s := ⟨preA, g0, M1 ++ n0 :: MN, z0⟩) hG (hg.walk2 n0 hn0 hN MN hMN M1 hM1) hpre hg0
    hGh hGt hz0 hzmC hzmN hzh hzt
  subst hG
  obtain ⟨m, f, hparse, hfields, hfind, hitems, _, hz0find⟩ := parse_dict_group_mid ha t8 t9 t35 g0 z0 t10 preA _ postB
    hw8 hw9 hw35 hw10 h8 h9 h35 h10 hv hs hpost hzG hh10 hbl
  exact ⟨m, f, hparse, hfields, hfind, hitems, hz0find⟩

/-- WITH THE DICTIONARY, A GROUP WHOSE NESTED GROUPS ARE FLAT, MEMBER FIELDS IN ANY ARRANGEMENT (`Walk2`: any number of entries,
    leaf members, nested counts, nested members, back to members of the enclosing group — the D6 pop —, the next nested count), whole parse,
    fixed code: `8, 9, 35, plain…, G=<n>, <members>, z0, plain…, 10` parses into `Message.fields` = the wire fields, the body maps `G`
    to exactly the count field and all member fields, and `z0` — member of neither `G` nor the nested group the walk ends in — is found in
    the body with its wire value. -/
theorem C13_dict_depth2_group_mid (d : Dicts) (mt : Bytes) (G : Tag) (C : List DNode) (hg : OuterGroup d mt G C)
    (t8 t9 t35 g0 z0 t10 : TagValue) (preA M postB : List TagValue) (s' : GState) (hW : Walk2 d mt G C .outer M s')
    (hw8 : IsWire t8) (hw9 : IsWire t9) (hw35 : IsWire t35) (hw10 : IsWire t10)
    (h8 : t8.tag = 8) (h9 : t9.tag = 9) (h35 : t35.tag = 35) (h10 : t10.tag = 10) (hv : t35.value = mt)
    (hpre : PlainFields d preA) (hg0 : IsWire g0) (hG : g0.tag = G)
    (hGh : isHeaderField d G = false) (hGt : isTrailerField d G = false)
    (hz : PlainFields d (z0 :: postB)) (hzmC : isGroupMember z0.tag C = false) (hzmS : isGroupMember z0.tag (s'.members C) = false)
    (hzh : isHeaderField d z0.tag = false) (hzt : isTrailerField d z0.tag = false)
    (hzG : ∀ tv ∈ z0 :: postB, tv.tag ≠ G)
    (hng10 : NoGroupTag d 10) (hh10 : isHeaderField d 10 = false)
    (hbl : atoi t9.value = .ok ((fieldsLength (t8 :: t9 :: t35 :: ((preA ++ g0 :: M) ++ (z0 :: postB ++ [t10]))) : Nat) : Int)) :
    ∃ (m : Message) (f : Field),
      parseMessage Fixes.cur d (wireOf (t8 :: t9 :: t35 :: ((preA ++ g0 :: M) ++ (z0 :: postB ++ [t10])))) = .ok m ∧
      m.fields = t8 :: t9 :: t35 :: ((preA ++ g0 :: M) ++ (z0 :: postB ++ [t10])) ∧
      alFind m.body.lookup G = some f ∧
      f.items m.fields = g0 :: M ∧
      ((∀ tv ∈ postB, tv.tag ≠ z0.tag) → m.body.getBytes m.fields z0.tag = .ok z0.value) := by
  obtain ⟨hz0, hpost⟩ := hz.cons
  obtain ⟨fs, ha, _, hs⟩ := walk2_segOKN hg (s := ⟨preA, g0, M, z0⟩) hG hW hpre hg0 hGh hGt hz0 hzmC hzmS hzh hzt
  subst hG
  obtain ⟨m, f, hparse, hfields, hfind, hitems, _, hz0find⟩ := parse_dict_group_mid ha t8 t9 t35 g0 z0 t10 preA _ postB
    hw8 hw9 hw35 hw10 h8 h9 h35 h10 hv hs hpost hzG hh10 hbl
  exact ⟨m, f, hparse, hfields, hfind, hitems, hz0find⟩

/-- the same with the group LAST in the body: CheckSum closes it at whatever nesting level the member fields end -/
theorem C13_dict_depth2_group_last (d : Dicts) (mt : Bytes) (G : Tag) (C : List DNode) (hg : OuterGroup d mt G C)
    (t8 t9 t35 g0 t10 : TagValue) (preA M : List TagValue) (s' : GState) (hW : Walk2 d mt G C .outer M s')
    (hw8 : IsWire t8) (hw9 : IsWire t9) (hw35 : IsWire t35) (hw10 : IsWire t10)
    (h8 : t8.tag = 8) (h9 : t9.tag = 9) (h35 : t35.tag = 35) (h10 : t10.tag = 10) (hv : t35.value = mt)
    (hpre : PlainFields d preA) (hg0 : IsWire g0) (hG : g0.tag = G)
    (hGh : isHeaderField d G = false) (hGt : isTrailerField d G = false)
    (h10m : isGroupMember 10 (s'.members C) = false) (hh10 : isHeaderField d 10 = false)
    (hbl : atoi t9.value = .ok ((fieldsLength (t8 :: t9 :: t35 :: ((preA ++ g0 :: M) ++ [t10])) : Nat) : Int)) :
    ∃ (m : Message) (f : Field),
      parseMessage Fixes.cur d (wireOf (t8 :: t9 :: t35 :: ((preA ++ g0 :: M) ++ [t10]))) = .ok m ∧
      m.fields = t8 :: t9 :: t35 :: ((preA ++ g0 :: M) ++ [t10]) ∧
      alFind m.body.lookup G = some f ∧ f.items m.fields = g0 :: M := by
  obtain ⟨fs, ha, hgC⟩ := hg.app
  subst hG
  obtain ⟨m, f, hparse, hfields, hfind, hitems, _⟩ := parse_dict_group_last ha t8 t9 t35 g0 t10 preA M hw8 hw9 hw35 hw10 h8 h9 h35 h10 hv
    hpre hg0 hGh hGt hgC (walk2_walkN hW hg).1 (by rw [GState.lastGf_stack]; exact h10m) hh10 hbl
  exact ⟨m, f, hparse, hfields, hfind, hitems⟩

/-- as `C13_dict_flat_group_mid`, with the group LAST in the body (CheckSum closes it — the position in which the unchanged code also left `10=` inside
    `bodyBytes`, D7) -/
theorem C13_dict_flat_group_last (d : Dicts) (mt : Bytes) (G d0 : Tag) (ts : List Tag) (C : List DNode)
    (hg : FlatGroup d mt G C) (hC : C.map DNode.tag = d0 :: ts)
    (t8 t9 t35 t10 : TagValue) (preA : List TagValue) (es : List (List (Tag × Bytes)))
    (hw8 : IsWire t8) (hw9 : IsWire t9) (hw35 : IsWire t35) (hw10 : IsWire t10)
    (h8 : t8.tag = 8) (h9 : t9.tag = 9) (h35 : t35.tag = 35) (h10 : t10.tag = 10) (hv : t35.value = mt)
    (hpre : PlainFields d preA) (hGi : inInt64 G)
    (hGh : isHeaderField d G = false) (hGt : isTrailerField d G = false)
    (hes : ∀ e ∈ es, EntryOK d0 (d0 :: ts) e) (hval : ∀ e ∈ es, ∀ p ∈ e, inInt64 p.1 ∧ ∀ c ∈ p.2, c ≠ SOH)
    (hn : es.length < 9223372036854775808)
    (h10m : (10 : Tag) ∉ d0 :: ts) (hh10 : isHeaderField d 10 = false)
    (hbl : atoi t9.value = .ok ((fieldsLength (t8 :: t9 :: t35 :: ((preA ++ countTV G es.length :: es.flatMap serEntry) ++ [t10])) : Nat) : Int)) :
    ∃ (m : Message) (f : Field),
      parseMessage Fixes.cur d (wireOf (t8 :: t9 :: t35 :: ((preA ++ countTV G es.length :: es.flatMap serEntry) ++ [t10]))) = .ok m ∧
      m.fields = t8 :: t9 :: t35 :: ((preA ++ countTV G es.length :: es.flatMap serEntry) ++ [t10]) ∧
      alFind m.body.lookup G = some f ∧
      getGroup (flatTmpl (d0 :: ts)) (f.full m.fields) = .ok (readSpec [t10] es) ∧ (readSpec [t10] es).length = es.length := by
  obtain ⟨fs, ha, hgC⟩ := hg.outer.app
  obtain ⟨m, f, hparse, hfields, hfind, _, hfull⟩ := parse_dict_group_last ha t8 t9 t35 (countTV G es.length) t10 preA (es.flatMap serEntry)
    hw8 hw9 hw35 hw10 h8 h9 h35 h10 hv hpre (countTV_isWire G _ hGi) hGh hGt hgC
    (walk2_walkN (hg.walk2 _ (entries_members hC es hes hval)) hg.outer).1
    (show isGroupMember 10 C = false from not_isGroupMember (by rw [hC]; exact h10m)) hh10 hbl
  refine ⟨m, f, hparse, hfields, hfind, ?_, readSpec_length _ _⟩
  rw [hfull]
  exact read_back_flat [t10] G d0 ts es hes hn (fun f r hfr => List.head_eq_of_cons_eq hfr ▸ h10.symm ▸ h10m)

/-- NESTED GROUPS, ANY DEPTH (compositional).  "… including nested groups".  Let a group's template be `d :: tmplr` with an element
    delimiter `d`; let each entry on the wire be the delimiter field followed by member blocks (`Block`), each either an element
    field of the template or the wire form of a nested group of the template that itself reads back with its own template
    whenever it is followed by a tag of `S` (`BlockOK`, `NestedOK`); let `S` contain the template's tags and the tag of whatever
    follows the group, and let that follower not be a template tag.  Then `Read` of `<G>=<n>`, the `n` entries, `rest` returns
    exactly `n` entries and `rest`, untouched; entry `i` lists the i-th entry's member tags in wire order and maps each (distinct)
    tag to a range starting with that member's fields — for a nested group its count field and entries, i.e. something `GetGroup`
    with the nested template reads back in turn.  Together with `C13_nested_group_is_block` (such a group is a well-formed
    block of an enclosing group) and the base case `C13_nested_flat_is_block` this gives every nesting depth by iteration. -/
theorem C13_read_nested (S : Tag → Prop) (G d : Tag) (tmplr : List Item) (rest : List TagValue)
    (hS : ∀ t, t ∈ tmplTags (.elem d :: tmplr) → S t) (hSr : ∀ f r, rest = f :: r → S f.tag)
    (hrest : ∀ f r, rest = f :: r → findItem (.elem d :: tmplr) f.tag = none)
    (es : List (List Block)) (hes : ∀ e ∈ es, EntryOKB S d tmplr e) (hn : es.length < 9223372036854775808) :
    ∃ gs, getGroup (.elem d :: tmplr) (countTV G es.length :: (es.flatMap serBlocks ++ rest)) = .ok gs ∧
      gs.length = es.length ∧
      ∀ (i : Nat) (e : List Block), es[i]? = some e → ∃ g : GEntry, gs[i]? = some g ∧ g.tags = e.map (·.tag) ∧
        ((e.map (·.tag)).Nodup → ∀ b ∈ e, ∃ tail, alFind g.lookup b.tag = some (b.tvs ++ tail)) := by
  refine ⟨readSpecB rest es, ?_, readSpecB_length rest es, readSpecB_entry rest es⟩
  simp only [getGroup, readGroup_blocks S G d tmplr rest hS hSr hrest es hes hn _ (readFuel_cons_append _ _ _)]

/-- THE TRIP THROUGH THE DICTIONARY-GUIDED PARSER FOR GROUPS WITH NESTED GROUPS: the wire of `C13_dict_depth2_group_mid` whose member fields
    are, for the READER's template `d0 :: tmplr`, `n` entries of well-formed member blocks (`EntryOKB`: delimiter first, element fields
    and nested groups that read back with their nested template) — after `ParseMessage` with the dictionary, `GetGroup(template)` on the
    body's field for `G` returns exactly `n` entries; entry `i` lists the i-th entry's member tags in wire order and maps each (distinct)
    tag to a range starting with that member's fields (for a nested group: its count field and entries); the fields behind the group
    stay outside it. -/
theorem C13_dict_depth2_read_back (d : Dicts) (mt : Bytes) (G : Tag) (C : List DNode) (hg : OuterGroup d mt G C)
    (S : Tag → Prop) (d0 : Tag) (tmplr : List Item) (es : List (List Block))
    (t8 t9 t35 z0 t10 : TagValue) (preA postB : List TagValue) (s' : GState)
    (hW : Walk2 d mt G C .outer (es.flatMap serBlocks) s')
    (hS : ∀ t, t ∈ tmplTags (.elem d0 :: tmplr) → S t) (hSz : S z0.tag) (hzT : findItem (.elem d0 :: tmplr) z0.tag = none)
    (hes : ∀ e ∈ es, EntryOKB S d0 tmplr e) (hn : es.length < 9223372036854775808)
    (hw8 : IsWire t8) (hw9 : IsWire t9) (hw35 : IsWire t35) (hw10 : IsWire t10)
    (h8 : t8.tag = 8) (h9 : t9.tag = 9) (h35 : t35.tag = 35) (h10 : t10.tag = 10) (hv : t35.value = mt)
    (hpre : PlainFields d preA) (hGi : inInt64 G)
    (hGh : isHeaderField d G = false) (hGt : isTrailerField d G = false)
    (hz : PlainFields d (z0 :: postB)) (hzmC : isGroupMember z0.tag C = false) (hzmS : isGroupMember z0.tag (s'.members C) = false)
    (hzh : isHeaderField d z0.tag = false) (hzt : isTrailerField d z0.tag = false)
    (hzG : ∀ tv ∈ z0 :: postB, tv.tag ≠ G)
    (hng10 : NoGroupTag d 10) (hh10 : isHeaderField d 10 = false)
    (hbl : atoi t9.value = .ok ((fieldsLength (t8 :: t9 :: t35 :: ((preA ++ countTV G es.length :: es.flatMap serBlocks) ++ (z0 :: postB ++ [t10]))) : Nat) : Int)) :
    ∃ (m : Message) (f : Field) (gs : List GEntry),
      parseMessage Fixes.cur d (wireOf (t8 :: t9 :: t35 :: ((preA ++ countTV G es.length :: es.flatMap serBlocks) ++ (z0 :: postB ++ [t10])))) = .ok m ∧
      alFind m.body.lookup G = some f ∧
      getGroup (.elem d0 :: tmplr) (f.full m.fields) = .ok gs ∧ gs.length = es.length ∧
      (∀ (i : Nat) (e : List Block), es[i]? = some e → ∃ g : GEntry, gs[i]? = some g ∧ g.tags = e.map (·.tag) ∧
        ((e.map (·.tag)).Nodup → ∀ b ∈ e, ∃ tail, alFind g.lookup b.tag = some (b.tvs ++ tail))) ∧
      ((∀ tv ∈ postB, tv.tag ≠ z0.tag) → m.body.getBytes m.fields z0.tag = .ok z0.value) := by
  obtain ⟨hz0, hpost⟩ := hz.cons
  obtain ⟨fs, ha, _, hs⟩ := walk2_segOKN hg (s := ⟨preA, countTV G es.length, es.flatMap serBlocks, z0⟩) rfl hW hpre
    (countTV_isWire G _ hGi) hGh hGt hz0 hzmC hzmS hzh hzt
  obtain ⟨m, f, hparse, _, hfind, _, hfull, hz0find⟩ := parse_dict_group_mid ha t8 t9 t35 (countTV G es.length) z0 t10 preA _ postB
    hw8 hw9 hw35 hw10 h8 h9 h35 h10 hv hs hpost hzG hh10 hbl
  obtain ⟨gs, hget, hlen, hent⟩ := C13_read_nested S G d0 tmplr (z0 :: postB ++ [t10]) hS
    (fun f r hfr => List.head_eq_of_cons_eq hfr ▸ hSz)
    (fun f r hfr => List.head_eq_of_cons_eq hfr ▸ hzT) es hes hn
  exact ⟨m, f, gs, hparse, hfind, by rw [hfull]; exact hget, hlen, hent, hz0find⟩

/-- THE TRIP THROUGH THE DICTIONARY-GUIDED PARSER, NESTED GROUPS OF ANY DEPTH: `fs` the application dictionary's field list of the message
    type; the wire `8, 9, 35, plain…, G=<n>, <members>, z0, plain…, 10` whose member fields (a) move the parser's tag stack as the fixed
    `parseGroup` does at any depth (`SegOKN`: `WalkN` — stay / push a nested group / pop to the enclosing level that lists the tag / pop
    and push — and `z0` listed by no level) and (b) are, for the READER's template `d0 :: tmplr`, `n` entries of well-formed member blocks
    (`EntryOKB`, nested groups reading back with their nested templates, any depth).  After `ParseMessage` with the dictionary,
    `GetGroup(template)` on the body's field for `G` returns exactly `n` entries, entry `i` listing the i-th entry's member tags in wire
    order and mapping each (distinct) tag to a range starting with that member's fields; `z0` is found in the body with its value. -/
theorem C13_dict_anydepth_read_back (d : Dicts) (mt : Bytes) (fs : List DNode) (ha : AppMsg d mt fs) (G : Tag)
    (S : Tag → Prop) (d0 : Tag) (tmplr : List Item) (es : List (List Block))
    (t8 t9 t35 z0 t10 : TagValue) (preA postB : List TagValue)
    (hseg : SegOKN d mt fs ⟨preA, countTV G es.length, es.flatMap serBlocks, z0⟩)
    (hS : ∀ t, t ∈ tmplTags (.elem d0 :: tmplr) → S t) (hSz : S z0.tag) (hzT : findItem (.elem d0 :: tmplr) z0.tag = none)
    (hes : ∀ e ∈ es, EntryOKB S d0 tmplr e) (hn : es.length < 9223372036854775808)
    (hw8 : IsWire t8) (hw9 : IsWire t9) (hw35 : IsWire t35) (hw10 : IsWire t10)
    (h8 : t8.tag = 8) (h9 : t9.tag = 9) (h35 : t35.tag = 35) (h10 : t10.tag = 10) (hv : t35.value = mt)
    (hpost : PlainFields d postB) (hzG : ∀ tv ∈ z0 :: postB, tv.tag ≠ G)
    (hng10 : NoGroupTag d 10) (hh10 : isHeaderField d 10 = false)
    (hbl : atoi t9.value = .ok ((fieldsLength (t8 :: t9 :: t35 :: ((preA ++ countTV G es.length :: (es.flatMap serBlocks ++ [z0])) ++ (postB ++ [t10]))) : Nat) : Int)) :
    ∃ (m : Message) (f : Field) (gs : List GEntry),
      parseMessage Fixes.cur d (wireOf (t8 :: t9 :: t35 :: ((preA ++ countTV G es.length :: (es.flatMap serBlocks ++ [z0])) ++ (postB ++ [t10])))) = .ok m ∧
      alFind m.body.lookup G = some f ∧
      getGroup (.elem d0 :: tmplr) (f.full m.fields) = .ok gs ∧ gs.length = es.length ∧
      (∀ (i : Nat) (e : List Block), es[i]? = some e → ∃ g : GEntry, gs[i]? = some g ∧ g.tags = e.map (·.tag) ∧
        ((e.map (·.tag)).Nodup → ∀ b ∈ e, ∃ tail, alFind g.lookup b.tag = some (b.tvs ++ tail))) ∧
      ((∀ tv ∈ postB, tv.tag ≠ z0.tag) → m.body.getBytes m.fields z0.tag = .ok z0.value) := by
  have e : (preA ++ countTV G es.length :: (es.flatMap serBlocks ++ [z0])) ++ (postB ++ [t10]) =
      (preA ++ countTV G es.length :: es.flatMap serBlocks) ++ (z0 :: postB ++ [t10]) := by simp
  rw [e] at hbl ⊢
  obtain ⟨m, f, hparse, _, hfind, _, hfull, hz0find⟩ := parse_dict_group_mid ha t8 t9 t35 (countTV G es.length) z0 t10 preA _ postB
    hw8 hw9 hw35 hw10 h8 h9 h35 h10 hv hseg hpost hzG hh10 hbl
  obtain ⟨gs, hget, hlen, hent⟩ := C13_read_nested S G d0 tmplr (z0 :: postB ++ [t10]) hS
    (fun f r hfr => List.head_eq_of_cons_eq hfr ▸ hSz)
    (fun f r hfr => List.head_eq_of_cons_eq hfr ▸ hzT) es hes hn
  exact ⟨m, f, gs, hparse, hfind, by rw [hfull]; exact hget, hlen, hent, hz0find⟩

/-- the same with the parser side described FROM THE DICTIONARY ALONE: the member fields are a well-nested sequence for `G`'s member list
    (`GroupWalk`) over a dictionary tree whose levels share no tag along a branch (`TreeOK`), `z0` is listed nowhere in that tree
    (`SegNested`); nothing is assumed about the parser's tag stack. -/
theorem C13_dict_wellnested_read_back (d : Dicts) (mt : Bytes) (fs : List DNode) (ha : AppMsg d mt fs) (G : Tag)
    (S : Tag → Prop) (d0 : Tag) (tmplr : List Item) (es : List (List Block))
    (t8 t9 t35 z0 t10 : TagValue) (preA postB : List TagValue)
    (hseg : SegNested d fs ⟨preA, countTV G es.length, es.flatMap serBlocks, z0⟩)
    (hS : ∀ t, t ∈ tmplTags (.elem d0 :: tmplr) → S t) (hSz : S z0.tag) (hzT : findItem (.elem d0 :: tmplr) z0.tag = none)
    (hes : ∀ e ∈ es, EntryOKB S d0 tmplr e) (hn : es.length < 9223372036854775808)
    (hw8 : IsWire t8) (hw9 : IsWire t9) (hw35 : IsWire t35) (hw10 : IsWire t10)
    (h8 : t8.tag = 8) (h9 : t9.tag = 9) (h35 : t35.tag = 35) (h10 : t10.tag = 10) (hv : t35.value = mt)
    (hpost : PlainFields d postB) (hzG : ∀ tv ∈ z0 :: postB, tv.tag ≠ G)
    (hng10 : NoGroupTag d 10) (hh10 : isHeaderField d 10 = false)
    (hbl : atoi t9.value = .ok ((fieldsLength (t8 :: t9 :: t35 :: ((preA ++ countTV G es.length :: (es.flatMap serBlocks ++ [z0])) ++ (postB ++ [t10]))) : Nat) : Int)) :
    ∃ (m : Message) (f : Field) (gs : List GEntry),
      parseMessage Fixes.cur d (wireOf (t8 :: t9 :: t35 :: ((preA ++ countTV G es.length :: (es.flatMap serBlocks ++ [z0])) ++ (postB ++ [t10])))) = .ok m ∧
      alFind m.body.lookup G = some f ∧
      getGroup (.elem d0 :: tmplr) (f.full m.fields) = .ok gs ∧ gs.length = es.length ∧
      (∀ (i : Nat) (e : List Block), es[i]? = some e → ∃ g : GEntry, gs[i]? = some g ∧ g.tags = e.map (·.tag) ∧
        ((e.map (·.tag)).Nodup → ∀ b ∈ e, ∃ tail, alFind g.lookup b.tag = some (b.tvs ++ tail))) ∧
      ((∀ tv ∈ postB, tv.tag ≠ z0.tag) → m.body.getBytes m.fields z0.tag = .ok z0.value) :=
  C13_dict_anydepth_read_back d mt fs ha G S d0 tmplr es t8 t9 t35 z0 t10 preA postB hseg.ok hS hSz hzT hes hn
    hw8 hw9 hw35 hw10 h8 h9 h35 h10 hv hpost hzG hng10 hh10 hbl

/-- THE WRITER SIDE OF THE DICTIONARY ROUND TRIP: `RepeatingGroup.Write` of entries
    that conform to their template (`Spec.entriesOK`: delimiter in every entry, only template tags, nested instances built with the
    template's nested template) — the template describing the dictionary's member list `C` of the group (`TmplDict`: element items are leaf
    members of `C`, group items are groups nested in `C` whose templates describe the nested member lists, recursively) — is the count field
    followed by a member sequence that is WELL NESTED for the dictionary (`GroupWalk C`), at ANY nesting depth.  This is exactly the
    hypothesis on the member fields in `C11_sections_dict_items`, `C11_faithful_dict_wellnested` and `C13_dict_wellnested_read_back`:
    whatever `Write` emits for a dictionary-conforming group, the fixed dictionary-guided parser groups it along its nesting. -/
theorem C13_write_is_wellnested (G : Tag) (tmpl : List Item) (es : List (List GFld)) (C : List DNode) (htd : TmplDict tmpl C)
    (hok : entriesOK tmpl es = true) (tvs : List TagValue) (hw : writeGroup G tmpl es = .ok tvs)
    (hwire : ∀ tv ∈ tvs, IsWire tv) :
    ∃ W, tvs = countTV G es.length :: W ∧ GroupWalk C W :=
  writeGroup_groupWalk G tmpl es C htd hok tvs hw hwire

/-- a group as in `C13_read_nested` is itself a well-formed nested block of an enclosing group: it reads back (and is skipped)
    whenever what follows carries a tag of `S'` that is allowed inside (`S`) and is not one of its template tags -/
theorem C13_nested_group_is_block (S S' : Tag → Prop) (G d : Tag) (tmplr : List Item)
    (hS : ∀ t, t ∈ tmplTags (.elem d :: tmplr) → S t)
    (hS' : ∀ t, S' t → S t ∧ findItem (.elem d :: tmplr) t = none)
    (es : List (List Block)) (hes : ∀ e ∈ es, EntryOKB S d tmplr e) (hn : es.length < 9223372036854775808) :
    NestedOK S' (.elem d :: tmplr) (countTV G es.length :: es.flatMap serBlocks) :=
  nestedOK_of_entries S S' G d tmplr hS hS' es hes hn

/-- base case: a nested group whose own template has no further nesting -/
theorem C13_nested_flat_is_block (S' : Tag → Prop) (G d : Tag) (ts : List Tag) (hS' : ∀ t, S' t → t ∉ d :: ts)
    (es : List (List (Tag × Bytes))) (hes : ∀ e ∈ es, EntryOK d (d :: ts) e) (hn : es.length < 9223372036854775808) :
    NestedOK S' (flatTmpl (d :: ts)) (countTV G es.length :: es.flatMap serEntry) :=
  nestedOK_flat S' G d ts hS' es hes hn

/-- WRITE THEN READ WITH NESTED GROUPS, ANY DEPTH (compositional).  Entries built by ARBITRARY setter calls — `Set…` for element
    fields, `SetGroup` for nested groups, any order, overwrites allowed — on a template of distinct tags with an element
    delimiter that every entry sets; `blockData` records, per setter call, the TagValues it contributes (for `SetGroup` what
    the nested group's own `Write` returns), and the nested groups' wire forms read back with their own templates
    (`BlockOK` — by `C13_nested_group_is_block` / `C13_nested_flat_is_block`, i.e. by this very theorem one level down).
    Then `Write` emits, per entry, the members in template order with the TagValues of their LATEST setter call, and `Read`
    of that followed by `rest` returns one entry per entry written in which every tag that was set maps to a range starting
    with exactly those TagValues — "the same number of entries with the same fields and values in the same order,
    including nested groups". -/
theorem C13_roundtrip_nested (S : Tag → Prop) (G d : Tag) (tmplr : List Item) (hts : (tmplTags (.elem d :: tmplr)).Nodup)
    (rest : List TagValue)
    (hS : ∀ t, t ∈ tmplTags (.elem d :: tmplr) → S t) (hSr : ∀ f r, rest = f :: r → S f.tag)
    (hrest : ∀ f r, rest = f :: r → findItem (.elem d :: tmplr) f.tag = none)
    (es : List (List GFld)) (bss : List (List (Tag × List TagValue)))
    (hdata : es.map (fun e => e.map blockData) = bss.map (fun bs => bs.map some))
    (hb : ∀ bs ∈ bss, (∀ p ∈ bs, p.1 ∈ tmplTags (.elem d :: tmplr) ∧ BlockOK S (.elem d :: tmplr) ⟨p.1, p.2⟩) ∧
      ∃ tv, latestB bs d = some [tv] ∧ tv.tag = d)
    (hn : es.length < 9223372036854775808) :
    ∃ tvs gs, writeGroup G (.elem d :: tmplr) es = .ok tvs ∧ getGroup (.elem d :: tmplr) (tvs ++ rest) = .ok gs ∧
      gs.length = es.length ∧
      ∀ (i : Nat) (bs : List (Tag × List TagValue)), bss[i]? = some bs → ∃ g : GEntry, gs[i]? = some g ∧
        ∀ t tvs', latestB bs t = some tvs' → ∃ tail, alFind g.lookup t = some (tvs' ++ tail) :=
  roundtrip_nested S G d tmplr hts rest hS hSr hrest es bss hdata hb hn

/-- D6, AFTER THE FIX.  With the dictionary, inside a nested group `N` of a group `G` (tag stack `[G, N]`): a body field that is a
    member of neither `N` nor `G` ends the group — the group is added to the body under its tag and the field itself becomes
    a body field ("the fields following the group are still found"); a field that is a member of the parent `G` continues
    the parent group with the stack popped to `[G]`. -/
theorem C13_fixed_behind_nested_group (d : Dicts) (mt : Bytes) (G N : Tag) (C CN : List DNode) (hg : NestedGroup d mt G N C CN)
    (fields : List TagValue) (idx j : Nat) (c : PCore) (tv g0 t35 : TagValue)
    (hmt : MTInv fields c.header t35) (hv : t35.value = mt) (hj : fields[j]? = some g0)
    (hmN : isGroupMember tv.tag CN = false)
    (hh : isHeaderField d tv.tag = false) (ht : isTrailerField d tv.tag = false) (hng : NoGroupTag d tv.tag) :
    (isGroupMember tv.tag C = false →
      grpSwitch Fixes.cur d fields idx tv j [G, N] CN c =
        .ok ({ c with trailerBytes := c.rawBytes, body := (c.body.add g0.tag (.view j (idx - j))).add tv.tag (.view idx 1) }, none)) ∧
    (isGroupMember tv.tag C = true → isNumInGroupField d fields c.header [G, tv.tag] = false →
      grpSwitch Fixes.cur d fields idx tv j [G, N] CN c = .ok ({ c with trailerBytes := c.rawBytes }, some (.grp j [G] C))) :=
  ⟨fun hmC => grpSwitch_fixed_exits hg fields idx j c tv g0 t35 hmt hv hj hmN hmC hh ht hng,
   fun hmC hleaf => grpSwitch_fixed_parent_member hg fields idx j c tv t35 hmt hv hmN hmC hleaf hh ht hng⟩

/-- D6, THE UNCHANGED CODE: in the same situation every body field — member of an enclosing group or not — stays inside the
    group (the loop continues in group mode with the field appended to the group's view): `Body.Has` is false for it. -/
theorem C13_orig_swallows_behind_nested_group (d : Dicts) (mt : Bytes) (G N : Tag) (C CN : List DNode) (hg : NestedGroup d mt G N C CN)
    (fields : List TagValue) (idx j : Nat) (c : PCore) (tv t35 : TagValue)
    (hmt : MTInv fields c.header t35) (hv : t35.value = mt) (hmN : isGroupMember tv.tag CN = false)
    (hh : isHeaderField d tv.tag = false) (ht : isTrailerField d tv.tag = false) (hng : NoGroupTag d tv.tag) :
    grpSwitch Fixes.orig d fields idx tv j [G, N] CN c = .ok ({ c with trailerBytes := c.rawBytes }, some (.grp j [G, N] C)) :=
  grpSwitch_orig_swallows hg fields idx j c tv t35 hmt hv hmN hh ht hng

/-- THE TRIP THROUGH THE WIRE WITH NESTED GROUPS, WITHOUT DICTIONARY.  For every sequence of proper, SOH-free Message API
    operations leaving BeginString and MsgType set and, under a body tag `G` that no other TagValue of the message carries, a
    group field `G=<n>` + entries given as member blocks (`EntryOKB`: delimiter first, element fields and nested groups that
    read back — `BlockOK`), where `S` contains the template's tags, the tags of all other fields and 10, and no other field
    (nor 10) carries a template tag: `build`, `ParseMessage` (no dictionary), `GetGroup(template)` on the parsed body returns
    one entry per entry written; entry `i` lists the member tags in order and maps each (distinct) tag to a range that starts
    with that member's TagValues (element field, or count + entries of the nested group). -/
theorem C13_trip_nodict_nested (fx : Fixes) (ops : List MOp) (hp : ∀ op ∈ ops, op.proper ∧ op.wire) (m : Message)
    (hrun : runMOps ops Message.new = .ok m)
    (h8 : (alFind m.header.lookup 8).isSome = true) (h35 : (alFind m.header.lookup 35).isSome = true)
    (S : Tag → Prop) (G d : Tag) (tmplr : List Item) (es : List (List Block))
    (hg : alFind m.body.lookup G = some (.owned (countTV G es.length :: es.flatMap serBlocks))) (gbody : secND G = .b)
    (hes : ∀ e ∈ es, EntryOKB S d tmplr e) (hn : es.length < 9223372036854775808)
    (hMg : ∀ tv ∈ es.flatMap serBlocks, tv.tag ≠ G)
    (hS : ∀ t, t ∈ tmplTags (.elem d :: tmplr) → S t) (hS10 : S 10) (h10t : findItem (.elem d :: tmplr) 10 = none)
    (others : ∀ s k l, alFind (m.sec s).lookup k = some (.owned l) → ¬ (s = .b ∧ k = G) →
      ∀ tv ∈ l, tv.tag ≠ G ∧ S tv.tag ∧ findItem (.elem d :: tmplr) tv.tag = none)
    (bytes : Bytes) (m' : Message) (hbuild : m.build Fixes.cur = .ok (bytes, m')) (hsmall : bytes.length < 9223372036854775808) :
    ∃ (p : Message) (f : Field) (gs : List GEntry),
      parseMessage fx Dicts.none bytes = .ok p ∧ alFind p.body.lookup G = some f ∧
      getGroup (.elem d :: tmplr) (f.full p.fields) = .ok gs ∧ gs.length = es.length ∧
      ∀ (i : Nat) (e : List Block), es[i]? = some e → ∃ g : GEntry, gs[i]? = some g ∧ g.tags = e.map (·.tag) ∧
        ((e.map (·.tag)).Nodup → ∀ b ∈ e, ∃ tail, alFind g.lookup b.tag = some (b.tvs ++ tail)) := by
  obtain ⟨hb, hw, tv, f35, hf8, hf35⟩ := runMOps_leading ops hp m hrun h8 h35
  obtain ⟨p, f, Z, hparse, hfind, hfull, hZ⟩ := trip_nodict_group_field fx m hb hw tv f35 hf8 hf35 G (countTV G es.length)
    (es.flatMap serBlocks) hg rfl gbody hMg (fun s k l hl hne tv htv => (others s k l hl hne tv htv).1) bytes m' hbuild hsmall
  have hZS : ∀ tvz ∈ Z, S tvz.tag ∧ findItem (.elem d :: tmplr) tvz.tag = none := by
    intro tvz hz
    rcases hZ tvz hz with e | ⟨s, k, l, hl, hne, hm⟩
    · rw [e]; exact ⟨hS10, h10t⟩
    · exact (others s k l hl hne tvz hm).2
  obtain ⟨gs, hread, hlen, hent⟩ := C13_read_nested S G d tmplr Z hS
    (fun f r hfr => (hZS f (by rw [hfr]; simp)).1) (fun f r hfr => (hZS f (by rw [hfr]; simp)).2) es hes hn
  exact ⟨p, f, gs, hparse, hfind, by rw [hfull]; exact hread, hlen, hent⟩

/-! ## the round trips end to end, from the API calls

The statements start from the API calls themselves: `runMOps ops Message.new = .ok m`, the body holding under `G` what
`Write(G, template, entries)` returned.  (A statement over an abstract message `a : Abs` — the monitor's bookkeeping — and a model message `m`
with no hypothesis tying `a` to `m` is false for a reason that has nothing to do with the code: take `a` with a two-entry group and `m`
built with one entry.)  The monitor clauses `group_roundtrip` / `followers_found` check the same thing on the implementation, with `Abs`
maintained by the monitor. -/

/-- THE ROUND TRIP WITHOUT DICTIONARY, END TO END, ANY NESTING DEPTH.  For every sequence of proper, SOH-free Message API operations that
    leaves BeginString and MsgType set and, in the body under a tag `G`, the field `Write(G, template, entries)` — entries given at API
    level (`GFld`: `Set…` of element fields and `SetGroup` of nested groups, in any order, with overwrites) that conform to the template
    (`Spec.entriesOK`: delimiter in every entry, template tags only, nested instances built with the template's nested template), all tags
    of the template tree and `G` distinct, every entry count below 2^63, and no other TagValue of the message (nor CheckSum) carrying `G` or
    a tag of the template tree — `build`, `ParseMessage` WITHOUT dictionary (any `Fixes`) and `GetGroup(template)` on the parsed body return
    exactly as many entries as were written. -/
theorem C13_roundtrip_nodict (fx : Fixes) (ops : List MOp) (hp : ∀ op ∈ ops, op.proper ∧ op.wire) (m : Message)
    (hrun : runMOps ops Message.new = .ok m)
    (h8 : (alFind m.header.lookup 8).isSome = true) (h35 : (alFind m.header.lookup 35).isSome = true)
    (G d0 : Tag) (tmplr : List Item) (esG : List (List GFld)) (tvs : List TagValue)
    (hbody : alFind m.body.lookup G = some (.owned tvs)) (hwrite : writeGroup G (.elem d0 :: tmplr) esG = .ok tvs) (gbody : secND G = .b)
    (hok : entriesOK (.elem d0 :: tmplr) esG = true) (hsm : SmallEs esG) (hn : esG.length < 9223372036854775808)
    (hnd : (G :: allTmplTags (.elem d0 :: tmplr)).Nodup) (h10 : (10 : Tag) ∉ allTmplTags (.elem d0 :: tmplr))
    (others : ∀ s k l, alFind (m.sec s).lookup k = some (.owned l) → ¬ (s = .b ∧ k = G) →
      ∀ tv ∈ l, tv.tag ≠ G ∧ tv.tag ∉ allTmplTags (.elem d0 :: tmplr))
    (bytes : Bytes) (m' : Message) (hbuild : m.build Fixes.cur = .ok (bytes, m')) (hsmall : bytes.length < 9223372036854775808) :
    ∃ (p : Message) (f : Field) (gs : List GEntry),
      parseMessage fx Dicts.none bytes = .ok p ∧ alFind p.body.lookup G = some f ∧
      getGroup (.elem d0 :: tmplr) (f.full p.fields) = .ok gs ∧ gs.length = esG.length := by
  have hndT : (allTmplTags (.elem d0 :: tmplr)).Nodup := (List.nodup_cons.1 hnd).2
  have hGn : G ∉ allTmplTags (.elem d0 :: tmplr) := (List.nodup_cons.1 hnd).1
  obtain ⟨bss, hlen, rfl, hwr, hes⟩ := writeGroup_blocks hwrite hndT hok hsm
  -- `S`: the tags that may follow a nested group
  obtain ⟨p, f, gs, h1, h2, h3, h4, _⟩ := C13_trip_nodict_nested fx ops hp m hrun h8 h35 (fun t => t ∉ deepTags (.elem d0 :: tmplr)) G d0 tmplr bss
    (by rw [hlen]; exact hbody) gbody hes (by rw [hlen]; exact hn)
    (fun tv htv e => hGn (e ▸ write_tags.2 _ esG hok _ hwr tv htv))
    (fun t ht => top_not_deep hndT t ht) (outside_tmpl h10).1 (outside_tmpl h10).2
    (fun s k l hl hne tv htv => ⟨(others s k l hl hne tv htv).1, outside_tmpl (others s k l hl hne tv htv).2⟩)
    bytes m' hbuild hsmall
  exact ⟨p, f, gs, h1, h2, h3, by rw [h4, hlen]⟩

/-- THE ROUND TRIP WITH THE DICTIONARY THAT DEFINES THE GROUP, END TO END, ANY NESTING DEPTH (fixed code; false on the unchanged code: D6).
    As above, and: `d` any dictionaries whose application dictionary knows the message type (`AppMsg`, field list `fs`) and defines `G` as a
    repeating group with member list `C` (`groupOf fs G = some C`); the template describes `C` (`TmplDict`: element items = leaf members,
    group items = nested groups, recursively — order and completeness free); the dictionary tree under `C` lists no tag at two levels of
    one branch and none that is a header / trailer field or a top-level group (`TreeOK`); the MsgType field is a single TagValue; every
    other TagValue of the message (and CheckSum) carries a tag that is listed nowhere in that tree, starts no repeating group of the
    application dictionary, and is not 35.  Then `build`, `ParseMessage` WITH the dictionaries and `GetGroup(template)` on the parsed body
    return exactly as many entries as were written.  (`Write` output is well nested for the dictionary — `C13_write_is_wellnested` —, the
    fixed `parseGroup` walks well-nested sequences along their nesting — `groupWalk_walkN` —, the body therefore holds the group as one view
    over count and members — `C11_sections_dict_items` —, and for the reader the same fields are well-formed member blocks —
    `write_blocks`.) -/
theorem C13_roundtrip_dict (d : Dicts) (mt : Bytes) (fs : List DNode) (ha : AppMsg d mt fs) (hh10 : isHeaderField d 10 = false)
    (ops : List MOp) (hp : ∀ op ∈ ops, op.proper ∧ op.wire) (m : Message) (hrun : runMOps ops Message.new = .ok m)
    (tv8 tv35 : TagValue)
    (h8 : alFind m.header.lookup 8 = some (.owned [tv8])) (h35 : alFind m.header.lookup 35 = some (.owned [tv35])) (hmt : tv35.value = mt)
    (G d0 : Tag) (tmplr : List Item) (esG : List (List GFld)) (tvs : List TagValue) (C : List DNode)
    (hbody : alFind m.body.lookup G = some (.owned tvs)) (hwrite : writeGroup G (.elem d0 :: tmplr) esG = .ok tvs)
    (hgC : groupOf fs G = some C) (htd : TmplDict (.elem d0 :: tmplr) C) (htree : TreeOK d C)
    (hGh : isHeaderField d G = false) (hGt : isTrailerField d G = false)
    (hok : entriesOK (.elem d0 :: tmplr) esG = true) (hsm : SmallEs esG) (hn : esG.length < 9223372036854775808)
    (hnd : (allTmplTags (.elem d0 :: tmplr)).Nodup) (h10C : NotListed C 10)
    (others : ∀ s k l, alFind (m.sec s).lookup k = some (.owned l) → ¬ (s = .b ∧ k = G) → ∀ tv ∈ l,
      NotListed C tv.tag ∧ NoGroupTag d tv.tag ∧ tv.tag ≠ G ∧ (tv.tag = 35 → s = .h ∧ k = 35))
    (bytes : Bytes) (m' : Message) (hbuild : m.build Fixes.cur = .ok (bytes, m')) (hsmall : bytes.length < 9223372036854775808) :
    ∃ (p : Message) (f : Field) (gs : List GEntry), parseMessage Fixes.cur d bytes = .ok p ∧ alFind p.body.lookup G = some f ∧
      getGroup (.elem d0 :: tmplr) (f.full p.fields) = .ok gs ∧ gs.length = esG.length := by
  obtain ⟨hb, hw⟩ := runMOps_wired ops _ m Built.new Wired.new hp hrun
  exact roundtrip_dict (d := d) ha hh10 m hb hw tv8 tv35 h8 h35 hmt G d0 tmplr esG tvs C hbody hwrite hgC htd htree hGh hGt hok hsm hn hnd
    h10C others bytes m' hbuild hsmall

/-! non-vacuity of `Walk2` and `SegOK`: Qfx/Lemmas/CodecDictExample.lean (NoPartyIDs with nested NoPartySubIDs, two entries) -/
example := @exWalk2
example := @exWalkN
/-! hypotheses of `C13_roundtrip_dict` on the three-level example: the template describes the dictionary tree, API-level entries conform -/
example := @exTmplDict
example := @exEntriesOK
example := @exSmall
example := @exTmplNodup
example := @exTreeOK
example := @exSegOKN

/-! non-vacuity: a two-entry group with a follower, read back by the model -/
example :
    (getGroup [.elem 448, .elem 447]
      [⟨453, [50], []⟩, ⟨448, [97], []⟩, ⟨447, [68], []⟩, ⟨448, [98], []⟩, ⟨58, [120], []⟩]).isOk = true := by decide

/-! non-vacuity: a nested group (453 with members 448 and the nested group 802 of 523) followed by field 58 -/
example :
    (getGroup [.elem 448, .group 802 [.elem 523]]
      [⟨453, [49], []⟩, ⟨448, [97], []⟩, ⟨802, [50], []⟩, ⟨523, [120], []⟩, ⟨523, [121], []⟩, ⟨58, [122], []⟩]).isOk = true := by decide

/- Clause checklist (properties.jsonl C13):
   "same number of entries"                                  C13_read_count, C13_write_starts_with_count, C13_read_zero
   with the dictionary that defines the group (no nested groups) C13_dict_flat_group_mid, C13_dict_flat_group_last (parseGroup + GetGroup through the dictionary template)
   the whole trip build → parse (no dictionary) → GetGroup       C13_trip_nodict_nested (nested groups, any depth, compositional), C13_roundtrip_nodict_flat (templates without nesting; any message around the group)
   "including nested groups" (any depth, compositional)          C13_roundtrip_nested (Write;Read), C13_read_nested, C13_nested_group_is_block,
                                                                 C13_nested_flat_is_block
   "same fields and values in the same order"                 C13_roundtrip_flat (Write then Read, templates without nesting, any setter calls),
                                                             C13_read_inverts_wire_flat (whole Read, templates without nesting);
                                                             C13_read_member, C13_read_delimiter (one step each, any template); nested: C13_roundtrip_nodict (end to end, any depth)
   with the dictionary, nested groups: parse + GetGroup(nested template)           C13_dict_wellnested_read_back (any depth, hypotheses from the dictionary alone),
                                                             C13_dict_anydepth_read_back, C13_dict_depth2_read_back
   with the dictionary, group containing nested groups (D6 scenario), whole parse   C13_dict_depth2_group_mid, C13_dict_depth2_group_last (any arrangement of
                                                             two levels), C13_dict_nested_group_mid
   "fields following the group are still found"              C13_read_stops_at_follower; with dictionary: C13_dict_depth2_group_mid, C13_dict_nested_group_mid, C13_fixed_behind_nested_group
                                                             (vs. C13_orig_swallows_behind_nested_group, D6), C13_pop_returns_shorter_stack, C13_dict_flat_group_mid
   monitor clauses: group_roundtrip{dict=api|n|a|ta,nested=y|n}, followers_found{dict=…} -/
