/-
  C09 — "No bytes from the wire, a file or the API can crash the engine".
  The theorems say `≠ fault` (or "ends with an error value") about the panic-explicit models of the pieces; each model is
  tied to the code by its own family, and the `robust` family runs every entry point of the REAL code on hostile bytes
  under recover + timeout.  Pieces proved elsewhere are re-exported here (framer: Props/C09Framer.lean; codec: see below).
-/
import Qfx.Model.Settings
import Qfx.Lemmas.Values
import Qfx.Props.C09Framer
import Qfx.Props.C11
open Qfx

/-! ## integers: every typed integer accessor goes through `atoi` -/

/-- `atoi` (after `fix:` 6f6d29f) returns a value or an error for EVERY byte string — GetInt, BodyLength, NumInGroup counts … -/
theorem C09_atoi_total (b : Bytes) : (atoi b).isFault = false := atoi_not_fault b

/-- the original panicked exactly on the empty value (`34=`, `9=`, FIXInt.Read("")) -/
theorem C09_atoi_orig_witness : (atoiUnguarded []).isFault = true := rfl

/-! ## settings text: the section-pointer automaton of ParseSettings -/

open Qfx.Settings in
/-- after `fix:` 60da55c no sequence of lines dereferences an unset section pointer (`run true`: after the fix) -/
theorem C09_settings_total (p : Ptr) (ls : List Line) : (run true p ls).isFault = false := by
  induction ls generalizing p with
  | nil => rfl
  | cons l ls ih =>
    unfold run
    cases l <;> cases p <;> simp only [stepLine, if_true] <;> first | exact ih _ | rfl

open Qfx.Settings in
/-- the original: a `key=value` line before any section header is a nil dereference (D4) -/
theorem C09_settings_orig_witness : run false .nil [.setting] = .fault "nil pointer dereference" := rfl

open Qfx.Settings in
/-- and that is the only way the original could fault: once a section header was seen it never does -/
theorem C09_settings_orig_safe_after_header (p : Ptr) (hp : p ≠ .nil) (ls : List Line) : (run false p ls).isFault = false := by
  induction ls generalizing p with
  | nil => rfl
  | cons l ls ih =>
    cases p with
    | nil => exact (hp rfl).elim
    | global => unfold run; cases l <;> simp only [stepLine] <;> first | exact ih _ (by decide) | rfl
    | sess => unfold run; cases l <;> simp only [stepLine] <;> first | exact ih _ (by decide) | rfl

/-- `ParseMessage` / `ParseMessageWithDataDictionary` (after the `fix:` commits 4186cca, b3fbcae) return a message or an error for
    EVERY byte string and every pair of dictionaries: no index expression of the parser leaves its slice -/
theorem C09_parse_total (d : Dicts) (w : Bytes) : ∀ x, parseMessage Fixes.cur d w ≠ .fault x := C11_parse_total d w

/-!
Clause checklist (properties.jsonl C09)
* framing any byte stream                    : C09_framer_total, C09_framer_no_fault (Props/C09Framer.lean; original: C09_framer_orig_witness)
* typed accessors on integers                : C09_atoi_total (original: C09_atoi_orig_witness); booleans/timestamps/floats: total by construction
                                               of the models in Qfx/Model/Values.lean (they return `Res.ok` or `Res.err` only — see C14)
* parsing any byte string as a FIX message   : C09_parse_total (= C11_parse_total); typed getters on the result: C11_getters_total; originals: C11_orig_no_checksum_faults (D2), C11_orig_xml_len_faults (D3)
* loading any settings text                  : C09_settings_total (pointer automaton; the five regular expressions and AddSession are executed, not modelled)
* loading any dictionary text                : C19 (cycle check: `loads well-formed / refuses cyclic`), encoding/xml is executed, not modelled
* validating against any shipped dictionary  : C15's validator model is total by construction (structural recursion); executed by the `robust` family
* a session that received garbage still processes the next well-formed message :
    model: `incoming _ s none` only re-arms the peer timer (Qfx.Sess.incoming); implementation: `sessraw` ops of the `robust` family
* NOT proved: panics outside the modelled index arithmetic (nil maps, library code) — reachable only by the generated runs (partial)
-/
