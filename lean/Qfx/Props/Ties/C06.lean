/-
  Obligations that pin the hand-written session model to the facts REGENERATED from the repository's sources on every run
  (Qfx/Gen/Facts.lean, written by `qfxh extract`) — the ones of property C06 only, so that a fact that moved breaks the
  checks of the properties that rest on it and no others.  `./check C06` builds and audits this module.
-/
import Qfx.Gen.Facts
import Qfx.Model.Session
open Qfx Qfx.Sess

/-- session.go verifySelect runs its checks in the order the model's `verifySelect` does -/
theorem C06_gen_verify_order :
    Qfx.Gen.verifyOrder = ["checkBeginString", "checkCompID", "currentResendState", "checkSendingTime",
                           "checkTargetTooLow", "checkTargetTooHigh", "verifyMsgAgainstAppImpl"] := rfl

/-- errors.go: the reject reasons the model's reactions use -/
theorem C06_gen_reject_reasons :
    Qfx.Gen.rejectReasons.lookup "CompIDProblem" = some 9 ∧ Qfx.Gen.rejectReasons.lookup "SendingTimeAccuracyProblem" = some 10
    ∧ Qfx.Gen.rejectReasons.lookup "RequiredTagMissing" = some 1 ∧ Qfx.Gen.rejectReasons.lookup "TagSpecifiedWithoutAValue" = some 4
    ∧ Qfx.Gen.rejectReasons.lookup "IncorrectDataFormatForValue" = some 6 ∧ Qfx.Gen.rejectReasons.lookup "ValueIsIncorrect" = some 5
    ∧ Qfx.Gen.rejectReasons.lookup "ConditionallyRequiredFieldMissing" = some 8 ∧ Qfx.Gen.rejectReasons.lookup "InvalidMsgType" = some 11 := by
  simp [Qfx.Gen.rejectReasons, List.lookup]
