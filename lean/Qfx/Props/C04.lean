/-
  C04 — "A sequence gap triggers one exact ResendRequest and loses nothing received".
  Property theorems only (helper lemmas: Qfx/Lemmas/SessC04.lean).

  properties.jsonl: "When a message arrives whose MsgSeqNum is above the next expected number T, the engine sends exactly
  one ResendRequest with BeginSeqNo T (EndSeqNo 'infinity', or T+chunk-1 when a chunk size smaller than the gap is
  configured), keeps the early message, and while recovery is in progress sends no further ResendRequest other than those
  for the following chunks, each beginning at the number expected at that moment. Once the missing numbers have arrived as
  replays or gap fills, every kept message that is next in sequence is delivered, in order and without being requested
  again, and when the peer skipped nothing the session returns to normal operation expecting one past the highest message
  received."
-/
import Qfx.Lemmas.SessC04
open Qfx Qfx.Sess

/-! ### the first request -/

/-- **C04 (request)**: normal operation (`inSession`, also with a TestRequest pending), any configuration, any message of a
    sequence-gated kind that passes the BeginString / CompID / SendingTime gates and carries a number `n` above the
    expected number `T`: the handler does exactly one thing — it sends the ResendRequest `7=T`, `16=infinity` (0 from
    FIX.4.2 on, 999999 before) or `16=T+chunk-1` when a chunk size is configured and the chunk ends before `n-1` — and
    the next state is the recovery state holding exactly the early message, the end of the requested chunk (0 = all) and
    the end of the gap `n-1`. -/
theorem C04_request (s : Sess) (m : InMsg) (n : Int)
    (hst : s.st = .inSession ∨ s.st = .pendingIn)
    (hb : checkBeginString s m = none) (hc : checkCompID s m = none) (ht : checkSendingTime s m = none)
    (hk : SeqGated m) (hn : getInt m 34 = .val n) (hgt : n > s.store.target) :
    fixMsgInCore s m =
      (sendInReplyTo s (mkOut "2" [(7, toString s.store.target), (16, toString (chunkEnd s.cfg s.store.target (n - 1)))]),
       .resend [(n, m)] (chunkCur s.cfg s.store.target (n - 1)) (n - 1)) := by
  have hcur : curResend s = none := by rcases hst with h | h <;> simp [curResend, h]
  rw [fixMsgInCore_inSession s m hst, inSessionFixMsgIn_high s m n hb hc (Or.inr ht) hk hn hgt, processReject_high_fresh s m n _ hcur]
  rfl

/-- what "sends" means: the request gets the next outbound number, is handed to the store, is written after whatever was
    still queued (or queued when there is no connection); nothing else changes — in particular the expected number -/
theorem C04_request_sent (s : Sess) (b e : Int) (hl : s.st.loggedOn = true) :
    AdminSent s (rrMsg s.cfg b e) (sendInReplyTo s (rrMsg s.cfg b e)) :=
  adminSent s _ rfl rfl hl

/-- the same on the whole event `Incoming(m)`: the observations are exactly the store write, the queued messages (if
    any) and the ResendRequest on the wire, then the peer timer; nothing is delivered, the expected number stays -/
theorem C04_request_step (s : Sess) (m : InMsg) (n : Int)
    (hst : s.st = .inSession ∨ s.st = .pendingIn)
    (hb : checkBeginString s m = none) (hc : checkCompID s m = none) (ht : checkSendingTime s m = none)
    (hk : SeqGated m) (hn : getInt m 34 = .val n) (hgt : n > s.store.target) :
    (step s (.incomingMsg (some m))).1.st = .resend [(n, m)] (chunkCur s.cfg s.store.target (n - 1)) (n - 1) ∧
    (step s (.incomingMsg (some m))).1.store.target = s.store.target ∧
    (step s (.incomingMsg (some m))).1.toSend =
      (if s.out then [] else s.toSend ++ [numbered s (rrMsg s.cfg s.store.target (n - 1))]) ∧
    (step s (.incomingMsg (some m))).2.1 =
      persistObs s.cfg (numbered s (rrMsg s.cfg s.store.target (n - 1))) ::
        (if s.out then (s.toSend ++ [numbered s (rrMsg s.cfg s.store.target (n - 1))]).map Obs.wire else [])
        ++ [.armPeer (1200 * s.hb)] := by
  have hconn : s.st.connected = true := by rcases hst with h | h <;> simp [h, SState.connected]
  have hl : s.clearLog.st.loggedOn = true := by rcases hst with h | h <;> simp [Sess.clearLog, h, SState.loggedOn]
  have hs : AdminSent s.clearLog (rrMsg s.cfg s.store.target (n - 1)) (sendInReplyTo s.clearLog (rrMsg s.cfg s.store.target (n - 1))) :=
    C04_request_sent s.clearLog s.store.target (n - 1) hl
  have hr : fixMsgInCore s.clearLog m = (sendInReplyTo s.clearLog (rrMsg s.cfg s.store.target (n - 1)),
      .resend [(n, m)] (chunkCur s.cfg s.store.target (n - 1)) (n - 1)) := C04_request s.clearLog m n hst hb hc ht hk hn hgt
  rw [step_incoming_eq s m hconn _ hr rfl]
  generalize sendInReplyTo s.clearLog _ = x at hs
  refine ⟨rfl, hs.target, hs.queue, ?_⟩
  rw [hs.observed, hs.hb]; rfl

/-! ### while recovery is in progress -/

/-- **C04 (no duplicate)**: any recovery state (`resend`, and `pending(resend)` — the model follows the fixed code in
    which the type switches look through a pending TestRequest), ANY inbound message (any kind, any header): everything
    the handler does up to an intermediate state `s1` creates no ResendRequest (`Q 0`: the number of ResendRequests
    written or queued does not grow, and state tag / configuration / buffered input are untouched); after that either
    nothing more happens, or — only when a chunk is outstanding (`cur ≠ 0`) and the expected number has reached its end —
    exactly one ResendRequest is sent, for the next chunk: `7 = the number expected at that moment`, `16` = its chunk
    end or infinity relative to the original gap end `fin`. -/
theorem C04_no_duplicate (s : Sess) (m : InMsg) (stash : List (Int × InMsg)) (cur fin : Int)
    (h : curResend s = some (stash, cur, fin)) :
    ∃ s1, Q 0 s s1 ∧
      ((fixMsgInCore s m).1 = s1 ∨
       (cur ≠ 0 ∧ cur ≤ s1.store.target ∧ ∃ stash',
          fixMsgInCore s m =
            (sendInReplyTo s1 (mkOut "2" [(7, toString s1.store.target), (16, toString (chunkEnd s1.cfg s1.store.target fin))]),
             .resend stash' (chunkCur s1.cfg s1.store.target fin) fin))) := by
  rw [fixMsgInCore_rec s m stash cur fin h]
  exact resendFixMsgIn_shape s stash cur fin m (by rw [h]; rfl)

/-- in particular: when the whole rest was requested (`cur = 0`, always the case without a chunk size) no inbound
    message whatsoever makes the engine create another ResendRequest … -/
theorem C04_no_duplicate_all_requested (s : Sess) (m : InMsg) (stash : List (Int × InMsg)) (fin : Int)
    (h : curResend s = some (stash, 0, fin)) : Q 0 s (fixMsgInCore s m).1 := by
  rw [fixMsgInCore_rec s m stash 0 fin h]
  simpa using q_resendFixMsgIn s stash 0 fin m (by rw [h]; rfl)

/-- … and with a chunk outstanding at most one -/
theorem C04_no_duplicate_budget (s : Sess) (m : InMsg) (stash : List (Int × InMsg)) (cur fin : Int)
    (h : curResend s = some (stash, cur, fin)) : Q (if cur ≠ 0 then 1 else 0) s (fixMsgInCore s m).1 := by
  rw [fixMsgInCore_rec s m stash cur fin h]
  exact q_resendFixMsgIn s stash cur fin m (by rw [h]; rfl)

/-- the same on the whole event `Incoming(m)` (nothing buffered in the inbound channel), including the disconnect
    handling when the handler ends the session: the ResendRequests on the wire during the event plus those still queued
    afterwards are at most those queued before, plus one when a chunk was outstanding -/
theorem C04_no_duplicate_step (s : Sess) (m : InMsg) (stash : List (Int × InMsg)) (cur fin : Int)
    (h : curResend s = some (stash, cur, fin)) (hi : s.inbox = []) :
    rrAfter (step s (.incomingMsg (some m))) ≤ s.toSend.countP isRR + (if cur ≠ 0 then 1 else 0) :=
  rrAfter_incoming_rec s m stash cur fin h hi

/-- **every event, every state** (fixed code, nothing buffered in the inbound channel): connect, inbound message or
    garbage, timer events, disconnect, stop, application send, flush, session-time change — the ResendRequests written
    during the event plus those still queued afterwards exceed those queued before by at most the event's budget:
    one for an inbound message (none in a recovery state with everything requested), whatever the application itself
    submits, and nothing for any other event -/
theorem C04_requests_only_on_inbound (s : Sess) (e : Ev) (hi : s.inbox = []) (hfix : s.cfg.lookThroughPending = true)
    (hna : ∀ m, e ≠ .arrive m) :
    rrAfter (step s e) ≤ s.toSend.countP isRR + evBudget s e :=
  rrAfter_le s e hi hfix hna

/-- … and over whole histories (every configuration with the fixed code, every initial counters, every sequence of
    events other than buffered arrivals): the ResendRequests on the wire plus those still queued at the end are bounded
    by the sum of the budgets of the events, each taken in the state it meets — in particular a recovery with everything
    requested contributes nothing however many messages arrive -/
theorem C04_no_duplicate_history (cfg : Cfg) (s0 t0 : Int) (evs : List Ev) (hfix : cfg.lookThroughPending = true)
    (hna : ∀ e ∈ evs, ∀ m, e ≠ .arrive m) :
    (wiresOf (histObs (initSess cfg s0 t0) evs)).countP isRR + (histEnd (initSess cfg s0 t0) evs).toSend.countP isRR
      ≤ histBudget (initSess cfg s0 t0) evs := by
  have := rr_history evs (initSess cfg s0 t0) rfl hfix hna
  simpa [initSess] using this

/-! ### the early message is kept -/

/-- **C04 (kept)**: recovery in progress (`target ≤ fin`), a sequence-gated message passing the identity gates (the
    SendingTime check is skipped during recovery) with a number above the expected one, GapFillFlag not garbled: the
    message is in the stash of the next state, which is again the recovery state for the same gap; the expected number
    is unchanged; the session record is untouched (nothing sent, nothing delivered), except that when the current chunk
    has been satisfied (`cur ≠ 0 ∧ cur ≤ target`) the request for the next chunk goes out. -/
theorem C04_kept (s : Sess) (m : InMsg) (stash : List (Int × InMsg)) (cur fin n : Int)
    (h : curResend s = some (stash, cur, fin))
    (hb : checkBeginString s m = none) (hc : checkCompID s m = none)
    (hk : SeqGated m) (hn : getInt m 34 = .val n) (hgt : n > s.store.target)
    (hg : getBool m 123 ≠ .garbled) (hfin : s.store.target ≤ fin) :
    fixMsgInCore s m = (s, .resend (stashInsert stash n m) cur fin) ∨
    (cur ≠ 0 ∧ cur ≤ s.store.target ∧
      fixMsgInCore s m =
        (sendInReplyTo s (rrMsg s.cfg s.store.target fin),
         .resend (stashInsert stash n m) (chunkCur s.cfg s.store.target fin) fin)) := by
  rw [fixMsgInCore_rec s m stash cur fin h]
  exact resendFixMsgIn_high s stash cur fin m n h hb hc hk hn hgt hg hfin

/-- the usual case — the chunk currently requested is not yet complete, or everything was requested at once -/
theorem C04_kept_quiet (s : Sess) (m : InMsg) (stash : List (Int × InMsg)) (cur fin n : Int)
    (h : curResend s = some (stash, cur, fin))
    (hb : checkBeginString s m = none) (hc : checkCompID s m = none)
    (hk : SeqGated m) (hn : getInt m 34 = .val n) (hgt : n > s.store.target)
    (hg : getBool m 123 ≠ .garbled) (hfin : s.store.target ≤ fin) (hcur : cur = 0 ∨ s.store.target < cur) :
    fixMsgInCore s m = (s, .resend (stashInsert stash n m) cur fin) := by
  rcases C04_kept s m stash cur fin n h hb hc hk hn hgt hg hfin with h1 | ⟨h1, h2, _⟩
  · exact h1
  · omega

theorem C04_kept_mem (stash : List (Int × InMsg)) (n : Int) (m : InMsg) : (n, m) ∈ stashInsert stash n m := by
  simp [stashInsert]

/-- earlier stash entries with other numbers survive -/
theorem C04_kept_others (stash : List (Int × InMsg)) (n k : Int) (m m' : InMsg) (hk : k ≠ n) (h : (k, m') ∈ stash) :
    (k, m') ∈ stashInsert stash n m := by
  simp [stashInsert, h, hk]

/-! ### leaving recovery: the stash drain (`C04_drain`) -/

/-- **C04 (drain, nothing left behind)**: whenever a message processed in a recovery state takes the session back to
    normal operation, (1) the triggering message was handled first, (2) stash entries were then taken one at a time, each
    numbered exactly the number expected at that moment, and handed to the in-session handler (`Drained`: in sequence, by
    C01 each application message among them is delivered exactly once), (3) what is left of the stash contains no
    message with the number now expected, and (4) the whole gap was covered (`fin < target`). -/
theorem C04_drain (s : Sess) (m : InMsg) (stash : List (Int × InMsg)) (cur fin : Int)
    (h : curResend s = some (stash, cur, fin)) (hres : (fixMsgInCore s m).2 = .inSession) :
    ∃ rest, Drained (inSessionFixMsgIn s m).1 (sharedStash (inSessionFixMsgIn s m).1 (inSessionFixMsgIn s m).2 stash)
        (fixMsgInCore s m).1 rest ∧
      rest.find? (·.1 == (fixMsgInCore s m).1.store.target) = none ∧
      fin < (inSessionFixMsgIn s m).1.store.target := by
  rw [fixMsgInCore_rec s m stash cur fin h] at hres ⊢
  exact resendFixMsgIn_left s stash cur fin m hres

/-- … and none of it is requested again: the drain creates no ResendRequest -/
theorem C04_drain_no_request (fuel : Nat) (s : Sess) (stash : List (Int × InMsg)) (last : SState)
    (h : (curResend s).isSome = true) : Q 0 s (drainStash fuel s stash last).1 :=
  q_drainStash fuel s stash last h

/-- the drain itself, for every stash and every state: it stops only when a stashed message logged the session off or
    when no stashed message carries the expected number -/
theorem C04_drain_spec (s : Sess) (stash : List (Int × InMsg)) (last : SState) :
    Drained s stash (drainStash (stash.length + 1) s stash last).1 (drainStash (stash.length + 1) s stash last).2.2 ∧
    ((drainStash (stash.length + 1) s stash last).2.1.loggedOn = false ∨
     (drainStash (stash.length + 1) s stash last).2.2.find?
        (·.1 == (drainStash (stash.length + 1) s stash last).1.store.target) = none) :=
  drainStash_spec _ s stash last (by omega)

/-- **C04 (drain, the peer skipped nothing)**: everything was requested (`cur = 0`), the last missing message (number
    `T = target`, `fin ≤ T`) arrives and is clean (plain kind, gates passed, accepted by the application), and the
    stash is the contiguous run `T+1 … T+cnt` of clean messages: the message and then the stash entries `ms` are delivered
    in ascending order (`foldl deliver`: callback, then the advance by one, per message), the stash is used up, the
    session is back in normal operation and expects `T+cnt+1` = one past the highest message received. -/
theorem C04_drain_contiguous (s : Sess) (stash : List (Int × InMsg)) (fin : Int) (m : InMsg) (cnt : Nat)
    (h : curResend s = some (stash, 0, fin))
    (hm : Clean s s.store.target m) (hg : getBool m 123 ≠ .garbled) (hfin : fin ≤ s.store.target)
    (hclean : ∀ p ∈ stash, Clean s p.1 p.2)
    (hrange : ∀ p ∈ stash, s.store.target + 1 ≤ p.1 ∧ p.1 < s.store.target + 1 + cnt)
    (hcover : ∀ i : Nat, i < cnt → ∃ mi, (s.store.target + 1 + i, mi) ∈ stash) :
    ∃ ms : List InMsg, ms.length = cnt ∧
      (∀ (i : Nat) (hi : i < ms.length), (s.store.target + 1 + i, ms[i]) ∈ stash) ∧
      fixMsgInCore s m = ((m :: ms).foldl deliver s, .inSession) ∧
      ((m :: ms).foldl deliver s).store.target = s.store.target + cnt + 1 ∧
      callbacks ((m :: ms).foldl deliver s).log = callbacks s.log ++ cbList s.store.target (m :: ms) := by
  obtain ⟨ms, hlen, hidx, hres⟩ := resend_complete s stash fin m cnt h hm hg hfin hclean hrange hcover
  refine ⟨ms, hlen, hidx, hres, ?_, callbacks_foldl_deliver _ s⟩
  rw [foldl_deliver_target, List.length_cons, hlen]; omega

/-! ### the gap detected on the Logon itself -/

/-- **C04 (Logon gap)**: in the `logon` state, whenever the Logon handler reports a gap (`n` above the expected `t`) the
    ResendRequest `[t, infinity]` (or the first chunk) is issued — queued behind the Logon reply, the session not yet
    counting as logged on — and recovery starts with an empty stash and gap end `n-1`; `t` is the expected number.
    `hq` (EnableNextExpectedMsgSeqNum): the option is off, or message persistence is on.  With the option on and
    persistence off the statement is FALSE of the code: `handleLogon` reports the peer's tag 789 through the same error
    (`targetTooHigh{789, our next OUTBOUND number}`), and the logon state requests from our outbound number — counterexample
    `#guard` below (`c04NxGap`). -/
theorem C04_logon_gap (s s' : Sess) (m : InMsg) (n t : Int) (hk : kindOf m = "A") (hq : NxNoErr s.cfg)
    (h : handleLogon s m = (s', some (.rej (.tooHigh n t)))) :
    t = s'.store.target ∧ getInt m 34 = .val n ∧ n > t ∧
    logonFixMsgIn s m =
      (sendInReplyTo s' (mkOut "2" [(7, toString t), (16, toString (chunkEnd s'.cfg t (n - 1)))]),
       .resend [] (chunkCur s'.cfg t (n - 1)) (n - 1)) := by
  obtain ⟨ht, hn, hgt⟩ := handleLogon_high s s' m n t hq h
  exact ⟨ht, hn, hgt, logonFixMsgIn_high s s' m n t hk h⟩

/-- and the Logon handler does report the gap for every Logon the application accepts that passes the gates, asks for
    no reset and carries a number above the expected one (the expected number is still the one before the Logon).
    `hnx`, `hq` (EnableNextExpectedMsgSeqNum): the Logon is not refused because its tag 789 is ahead of our next
    outbound number — without the option, or without a readable 789, that is always so (`nxRefuses_off`, `nxRefuses_absent`) —
    and the option is off or message persistence on (see `C04_logon_gap`). -/
theorem C04_logon_gap_detected (s : Sess) (m : InMsg) (n : Int) (hst : s.st = .logon) (hk : kindOf m = "A")
    (hfixt : (s.cfg.bs == 5 && !(m.f.has 1137)) = false)
    (hv : validate s.cfg m = none) (hcb : callbackVerdict m = none)
    (hr1 : (if s.cfg.initiator then false else s.cfg.resetOnLogon) = false) (hr2 : logonResetFlag m = false)
    (hb : checkBeginString s m = none) (hc : checkCompID s m = none) (ht : checkSendingTime s m = none)
    (hn : getInt m 34 = .val n) (hgt : n > s.store.target)
    (hnx : nxRefuses s m = false) (hq : NxNoErr s.cfg) :
    ∃ s', Kept s s' ∧
      fixMsgInCore s m =
        (sendInReplyTo s' (mkOut "2" [(7, toString s.store.target), (16, toString (chunkEnd s.cfg s.store.target (n - 1)))]),
         .resend [] (chunkCur s.cfg s.store.target (n - 1)) (n - 1)) := by
  obtain ⟨s', hl, hkept⟩ := handleLogon_gap s m n hfixt hv hcb hr1 hr2 hb hc (Or.inr ht) hn hgt hnx hq
  refine ⟨s', hkept, ?_⟩
  rw [fixMsgInCore_logon s m hst, logonFixMsgIn_high s s' m n _ hk hl, hkept.cfg]; rfl

/-! ### `C04_logon_gap` without `hq` is false of the code (EnableNextExpectedMsgSeqNum on, message persistence off)

An acceptor expecting 3 whose next outbound number is 5 receives a Logon numbered 9 (a gap [3, 8] detected on the Logon itself)
whose tag 789 says 4.  `handleLogon` replies, notifies, and then reports the 789 through the error the gap check would use:
`targetTooHigh{4, 5}`.  The logon state queues ONE ResendRequest — BeginSeqNo 5 (our next OUTBOUND number), recovery range end
3 (the peer's 789 − 1) — instead of BeginSeqNo 3 with range end 8; the expected number stays 3.  With the option off the same
Logon gets the request the property describes.  (The `sess` correspondence agrees with the real code on this; the C04
monitor does not see it: the request is queued, not written, while the session is not logged on.) -/
def c04NxCfg : Cfg := { nextExpected := true, persist := false }
def c04NxGap (cfg : Cfg) : List (String × Fields) × Int × Int × Int :=
  let r := step (step (initSess cfg 5 3) .connect).1 (.incomingMsg (some (demoIn cfg "A" 9 [(98, "0"), (108, "30"), (789, "4")])))
  (r.1.toSend.map (fun o => (o.kind, o.f)), r.1.store.target, match r.1.st with | .resend _ c f => (c, f) | _ => (-1, -1))
#guard c04NxGap c04NxCfg == ([("2", [(7, "5"), (16, "0")])], 3, 0, 3)
#guard c04NxGap { c04NxCfg with nextExpected := false } == ([("2", [(7, "3"), (16, "0")])], 3, 0, 8)
#guard c04NxGap { c04NxCfg with persist := true } == ([("2", [(7, "3"), (16, "0")])], 3, 0, 8)

/-! ### non-vacuity (evaluated by the interpreter at build time; String functions do not reduce in the kernel) -/

-- the hypotheses of C04_request are satisfiable: an acceptor after connect + Logon(1) expects 2; message 5 arrives
#guard (demoUp {}).st.name == "InSession" && (demoUp {}).store.target == 2
#guard (checkBeginString (demoUp {}) (demoIn {} "D" 5)).isNone && (checkCompID (demoUp {}) (demoIn {} "D" 5)).isNone
        && (checkSendingTime (demoUp {}) (demoIn {} "D" 5)).isNone && gotIs (getInt (demoIn {} "D" 5) 34) 5
        && kindOf (demoIn {} "D" 5) == "D"
-- … and the event is what C04_request_step says: FIX.4.2 infinity = 0; chunk 2 → 16 = 3, cur = 3; FIX.4.1 infinity = 999999
#guard (step (demoUp {}) (.incomingMsg (some (demoIn {} "D" 5)))).2.1
        == [.saved 2 "2" true, .wire { kind := "2", seq := 2, f := [(7, "2"), (16, "0")] }, .armPeer 36000]
#guard (step (demoUp { chunk := 2 }) (.incomingMsg (some (demoIn { chunk := 2 } "D" 5)))).2.1
        == [.saved 2 "2" true, .wire { kind := "2", seq := 2, f := [(7, "2"), (16, "3")] }, .armPeer 36000]
#guard (step (demoUp { bs := 1 }) (.incomingMsg (some (demoIn { bs := 1 } "D" 5)))).2.1
        == [.saved 2 "2" true, .wire { kind := "2", seq := 2, f := [(7, "2"), (16, "999999")] }, .armPeer 36000]
#guard (match (step (demoUp { chunk := 2 }) (.incomingMsg (some (demoIn { chunk := 2 } "D" 5)))).1.st with
        | .resend st c f => st.map (·.1) == [5] && c == 3 && f == 4 | _ => false)
-- recovery: a second early message is kept and nothing is sent (C04_kept, C04_no_duplicate) — also with a TestRequest pending
#guard obsOf (demoUp {}) [.incomingMsg (some (demoIn {} "D" 5)), .incomingMsg (some (demoIn {} "D" 7))]
        == [.saved 2 "2" true, .wire { kind := "2", seq := 2, f := [(7, "2"), (16, "0")] }, .armPeer 36000, .armPeer 36000]
#guard (match (runEvs (demoUp {}) [.incomingMsg (some (demoIn {} "D" 5)), .timeout .peerTimeout,
                                   .incomingMsg (some (demoIn {} "D" 7))]).st with
        | .resend st c f => st.map (·.1) == [7, 5] && c == 0 && f == 4 | _ => false)
#guard (obsOf (demoUp {}) [.incomingMsg (some (demoIn {} "D" 5)), .timeout .peerTimeout,
                           .incomingMsg (some (demoIn {} "D" 7))]).count (.wire { kind := "2", seq := 2, f := [(7, "2"), (16, "0")] }) == 1
-- the missing 2, 3, 4 arrive: 2 … 6 are delivered in order, back to normal operation expecting 7 (C04_drain_contiguous)
#guard (obsOf (demoUp {}) [.incomingMsg (some (demoIn {} "D" 5)), .incomingMsg (some (demoIn {} "D" 6)),
          .incomingMsg (some (demoIn {} "D" 2)), .incomingMsg (some (demoIn {} "D" 3)), .incomingMsg (some (demoIn {} "D" 4))]).filter isCallback
        == [.fromApp "2" 2, .fromApp "3" 3, .fromApp "4" 4, .fromApp "5" 5, .fromApp "6" 6]
#guard (runEvs (demoUp {}) [.incomingMsg (some (demoIn {} "D" 5)), .incomingMsg (some (demoIn {} "D" 6)),
          .incomingMsg (some (demoIn {} "D" 2)), .incomingMsg (some (demoIn {} "D" 3)), .incomingMsg (some (demoIn {} "D" 4))]).st.name == "InSession"
#guard (runEvs (demoUp {}) [.incomingMsg (some (demoIn {} "D" 5)), .incomingMsg (some (demoIn {} "D" 6)),
          .incomingMsg (some (demoIn {} "D" 2)), .incomingMsg (some (demoIn {} "D" 3)), .incomingMsg (some (demoIn {} "D" 4))]).store.target == 7
-- whole history: one ResendRequest on the wire; the budgets of the five messages met in recovery (everything requested) are 0
#guard (wiresOf (histObs (initSess {} 1 1) [.connect, .incomingMsg (some (demoIn {} "A" 1 [(98, "0"), (108, "30")])),
          .incomingMsg (some (demoIn {} "D" 5)), .incomingMsg (some (demoIn {} "D" 7)), .incomingMsg (some (demoIn {} "D" 2)),
          .incomingMsg (some (demoIn {} "D" 3)), .incomingMsg (some (demoIn {} "D" 4))])).countP isRR == 1
#guard histBudget (initSess {} 1 1) [.connect, .incomingMsg (some (demoIn {} "A" 1 [(98, "0"), (108, "30")])),
          .incomingMsg (some (demoIn {} "D" 5)), .incomingMsg (some (demoIn {} "D" 7)), .incomingMsg (some (demoIn {} "D" 2)),
          .incomingMsg (some (demoIn {} "D" 3)), .incomingMsg (some (demoIn {} "D" 4))] == 2
-- the gap on the Logon itself: Logon(4) on a fresh acceptor expecting 1 → request [1, 0] queued behind the Logon reply, empty stash
#guard (runEvs (initSess {} 1 1) [.connect, .incomingMsg (some (demoIn {} "A" 4 [(98, "0"), (108, "30")]))]).toSend
        == [{ kind := "2", seq := 2, f := [(7, "1"), (16, "0")] }]
#guard (match (runEvs (initSess {} 1 1) [.connect, .incomingMsg (some (demoIn {} "A" 4 [(98, "0"), (108, "30")]))]).st with
        | .resend st c f => st.isEmpty && c == 0 && f == 3 | _ => false)

/-! ### two corner cases of the chunk logic that the theorems above make visible (model = code, resend_state.go)

  `C04_no_duplicate` allows the next-chunk request when `cur ≤ target`, not only when `cur < target`, and puts no
  upper bound on `target`:
  * chunk 1, recovery with the chunk `[5,5]` outstanding (`cur = target = 5`): a too-high GapFill (34=9) is stashed and the
    branch `gapFillFlag && currentResendRangeEnd == NextTargetMsgSeqNum` re-sends the request `7=5 16=5` although the
    expected number has not moved;
  * chunk 2, `cur = 3`, `fin = 10`: an in-sequence GapFill 2 → 15 moves the expected number beyond the gap end and the
    branch `cur < target` requests `7=15 16=0` although nothing is missing. -/
#guard (fixMsgInCore { cfg := { chunk := 1 }, st := .resend [] 5 10, store := { sender := 2, target := 5 }, out := true, inboxOpen := true, hb := 30 }
          (demoIn { chunk := 1 } "4" 9 [(123, "Y"), (36, "12")])).1.log
        == [.wire { kind := "2", seq := 2, f := [(7, "5"), (16, "5")] }, .saved 2 "2" true]
#guard (fixMsgInCore { cfg := { chunk := 2 }, st := .resend [] 3 10, store := { sender := 2, target := 2 }, out := true, inboxOpen := true, hb := 30 }
          (demoIn { chunk := 2 } "4" 2 [(43, "Y"), (123, "Y"), (36, "15")])).1.log
        == [.wire { kind := "2", seq := 2, f := [(7, "15"), (16, "0")] }, .saved 2 "2" true, .setT 15, .fromAdmin "4" "2"]

/-!
Clause checklist (properties.jsonl C04 → theorems)
* a message above the expected number T → exactly one ResendRequest, BeginSeqNo T         : C04_request, C04_request_sent, C04_request_step
* EndSeqNo infinity (0 / 999999 before FIX.4.2), or T+chunk-1 when the chunk is smaller     : C04_request (`chunkEnd`), guards for 4.2 / 4.1 / chunk 2
* keeps the early message                                                                  : C04_request (stash = [(n, m)]), C04_kept, C04_kept_quiet, C04_kept_mem/_others
* while recovering no further ResendRequest other than next-chunk ones, begin = expected   : C04_no_duplicate (shape), C04_no_duplicate_all_requested (cur = 0: none),
                                                                                             C04_no_duplicate_budget (≤ 1), C04_no_duplicate_step (whole event),
                                                                                             C04_requests_only_on_inbound (every event kind), C04_no_duplicate_history (all histories)
* … also with a TestRequest pending (every state with `curResend = some …`)               : same theorems (hypothesis `curResend s = some …` covers `pending(resend)`); C20_cancel_resend
* once the missing numbers arrived every kept message next in sequence is delivered, in order : C04_drain, C04_drain_spec (`Drained`), C01_inorder_exactly_once for order/uniqueness
* … without being requested again                                                          : C04_drain_no_request, C04_no_duplicate
* peer skipped nothing → normal operation, expecting one past the highest received          : C04_drain_contiguous
* gaps detected on the Logon itself                                                        : C04_logon_gap, C04_logon_gap_detected
* quantifier: every gap size / arrival order / chunk size / end marker                      : all theorems are ∀ cfg (in `s.cfg`), ∀ s, ∀ m; one-step theorems from arbitrary states
* not proved as a whole-history invariant (stated as hypotheses of C04_kept / satisfied by C04_request's result):
  `target ≤ fin` and `cur = 0 ∨ target < cur` while recovering; see the two corner cases above for what happens outside them
* not modelled: store write failures; EnableNextExpectedMsgSeqNum
-/
