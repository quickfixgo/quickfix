/-
  C07 — "Sequence numbers persist across connections and reset only when agreed".
  Property theorems only (helpers: Qfx/Lemmas/SessC07.lean on top of the generic frame machinery SessPool.lean;
  predicates: Qfx/Spec/SessionTypedC07.lean; the string-level monitor run on implementation traces: Spec/Session.lean `c07`).

  properties.jsonl: "Unless a reset option is configured or a reset is negotiated, both sequence counters and the stored
  messages are unchanged by disconnecting and reconnecting. A Logon carrying ResetSeqNumFlag=Y (received, or sent because
  ResetOnLogon/ResetSeqTime applies) leaves both sides numbering from 1 - the Logon itself is number 1 and the reply echoes the
  flag - and ResetOnLogout/ResetOnDisconnect return both counters to 1 exactly at logout/disconnect. A SequenceReset can only
  move the expected inbound number forward: a lower NewSeqNo is rejected and changes nothing."
-/
import Qfx.Lemmas.SessC07
open Qfx Qfx.Sess

/-- **continuity, every history.**  No reset option configured (the three flags off, no ResetSeqTime), no inbound or
    outbound Logon carrying 141=Y, no "new session" clock tick (CheckResetTime ticks are allowed): for every role / BeginString / other settings, initial counters and finite event history
    (connects, disconnects, traffic, timeouts, stops, gaps, replays, …) the store is never reset (`epoch` unchanged, no
    `reset` observation anywhere in the trace), every stored message is still stored (the old association list is a suffix of
    the new one) and neither counter ever moved backwards. -/
theorem C07_continuity (cfg : Cfg) (s0 t0 : Int) (evs : List Ev) (hcfg : NoResetOptions cfg) (hev : ∀ e ∈ evs, NoResetEv e) :
    (∀ o ∈ traceOf (initSess cfg s0 t0) evs, o ≠ Obs.reset)
    ∧ StoreMono (initSess cfg s0 t0).store (runEvents (initSess cfg s0 t0) evs).store := by
  have := continuity_run (initSess cfg s0 t0) evs hcfg (poolInv_init cfg s0 t0) hev
  exact ⟨this.1, this.2.1⟩

/-- the same between any two points of a history: from every state reached by such a history, every continuation of the
    same kind keeps the store monotone (so "unchanged by disconnecting and reconnecting" holds at any moment, not only from
    the initial state) -/
theorem C07_continuity_between (cfg : Cfg) (s0 t0 : Int) (pre post : List Ev) (hcfg : NoResetOptions cfg)
    (h1 : ∀ e ∈ pre, NoResetEv e) (h2 : ∀ e ∈ post, NoResetEv e) :
    let mid := runEvents (initSess cfg s0 t0) pre
    (∀ o ∈ traceOf mid post, o ≠ Obs.reset) ∧ StoreMono mid.store (runEvents mid post).store := by
  intro mid
  have a := continuity_run (initSess cfg s0 t0) pre hcfg (poolInv_init cfg s0 t0) h1
  have b := continuity_run mid post (by rw [a.2.2.2]; exact hcfg) a.2.2.1 h2
  exact ⟨b.1, b.2.1⟩

/-- "in particular", exactly: a disconnect with nothing buffered leaves the store untouched … -/
theorem C07_disconnect_keeps_store (s : Sess) (hc : s.st.connected = true) (hi : s.inbox = [])
    (hcfg : s.cfg.resetOnDisconnect = false) :
    (step s .disconnected).1.store = s.store ∧ (step s .disconnected).1.st = .latent := by
  obtain ⟨h1, h2⟩ := disconnected_store s hc hi
  exact ⟨h1.trans (discMid_keeps_store s.clearLog hcfg), h2⟩

/-- … reconnecting as acceptor leaves it untouched … -/
theorem C07_connect_acceptor_keeps_store (s : Sess) (hi : s.cfg.initiator = false) (hcfg : s.cfg.resetOnDisconnect = false) :
    (step s .connect).1.store = s.store :=
  connect_acceptor_store s.clearLog hi hcfg

/-- … and reconnecting as initiator continues the numbering: the Logon takes the next outbound number, the expected inbound
    number and everything stored are kept -/
theorem C07_connect_initiator_continues (s : Sess) (hc : s.st.connected = false) (ht : s.st.sessionTime = true)
    (hi : s.cfg.initiator = true) (hcfg : NoResetFlags s.cfg) :
    let logon : OutMsg := { stamp (connectBase s) (logonMsg (connectBase s) false) with seq := s.store.sender }
    let s' := (connect s).1
    s'.st = .logon ∧ s'.store.target = s.store.target ∧ s'.store.sender = s.store.sender + 1 ∧ s'.store.epoch = s.store.epoch
    ∧ s'.store.msgs = (if s.cfg.persist then (s.store.sender, logon) :: s.store.msgs else s.store.msgs)
    ∧ Obs.wire logon ∈ s'.log ∧ logon.f.get? 141 = none := by
  obtain ⟨c1, c2, _⟩ := connectBase_frame s
  have hst : (connectBase s).store = s.store := by rw [connectBase_store, hcfg.1]; rfl
  have hsr : shouldSendReset (connectBase s) = false := shouldSendReset_false _ (by rw [c1]; exact hcfg)
  rw [show (connect s).1 = (sendLogonInReplyTo (connectBase s) false).setSt .logon by rw [connect_initiator s hc ht hi, hsr],
    sendLogon_eq, ← hst, ← c1]
  generalize connectBase s = x at c2 ⊢
  intro logon s'
  exact ⟨rfl, rfl, rfl, rfl, rfl, by rw [show s'.log = _ from (sent_nil_out x logon c2).1]; exact List.mem_cons_self,
    logonMsgX_no141 _ _⟩

/-- **received (acceptor).**  In the Logon state, an inbound Logon that passes the gates, carries 141=Y, is numbered 1 and
    is not the echo of a reset we asked for: the session is established, both counters are 2 (the inbound Logon was number 1,
    the reply Logon is outbound number 1), the reply carries 141=Y and is the only stored message, `sentReset` is down.
    `hnx`: the Logon does not claim, in tag 789, a number above 1 — after the reset
    we have sent nothing, such a Logon is refused (C07_next_expected_ahead_refused); without the option, or without a readable
    789, the hypothesis holds (`nxAbove_off`, `nxAbove_absent`).  The reply is `logonMsgRe base true m`: with the option on
    and a readable 789 in `m` it carries 789 = 2 (C07_next_expected_reply). -/
theorem C07_logon_reset_received (s : Sess) (m : InMsg) (hi : s.cfg.initiator = false) (hk : kindOf m = "A")
    (h5 : (s.cfg.bs == 5 && !m.f.has 1137) = false) (hg : GateMsg s.cfg m) (ht : TimeGate s m)
    (hv : callbackVerdict m = none) (hf : logonResetFlag m = true) (hsr : s.sentReset = false) (h34 : getInt m 34 = .val 1)
    (hnx : nxAbove s.cfg m 1 = false) :
    ∃ base : Sess, base.cfg = s.cfg ∧ base.store.target = 1 ∧
    let reply : OutMsg := { stamp base ((logonMsgRe base true m).inReplyTo m) with seq := 1 }
    let r := logonFixMsgIn s m
    r.2 = .inSession ∧ r.1.store.sender = 2 ∧ r.1.store.target = 2 ∧ r.1.sentReset = false
    ∧ r.1.store.msgs = (if s.cfg.persist then [(1, reply)] else [])
    ∧ (141, "Y") ∈ reply.f ∧ reply.kind = "A" ∧ reply.seq = 1
    ∧ (s.out = true → Obs.wire reply ∈ r.1.log) ∧ Obs.onLogon ∈ r.1.log ∧ Obs.reset ∈ r.1.log := by
  obtain ⟨base, hb, hbt, h⟩ := logon_reset_received s m hi h5 hg ht hv hf hsr h34 hnx
  refine ⟨base, hb, hbt, ?_⟩
  intro reply r
  have hr : r = ((handleLogon s m).1, .inSession) := logonFixMsgIn_of_ok s m hk h.1
  rw [hr]
  exact ⟨rfl, h.2⟩

/-- **sent (initiator).**  Connecting when `shouldSendReset` holds: the Logon is outbound number 1 and carries 141=Y, the
    store was reset for it (next outbound 2, expected inbound 1), `sentReset` is raised -/
theorem C07_logon_reset_sent (s : Sess) (hc : s.st.connected = false) (ht : s.st.sessionTime = true)
    (hi : s.cfg.initiator = true) (hr : shouldSendReset (connectBase s) = true) :
    let logon : OutMsg := { stamp (connectBase s) (logonMsg (connectBase s) true) with seq := 1 }
    let s' := (connect s).1
    s'.st = .logon ∧ s'.sentReset = true ∧ s'.store.sender = 2 ∧ s'.store.target = 1
    ∧ s'.store.msgs = (if s.cfg.persist then [(1, logon)] else [])
    ∧ Obs.wire logon ∈ s'.log ∧ (141, "Y") ∈ logon.f ∧ logon.kind = "A" := by
  obtain ⟨c1, c2, _⟩ := connectBase_frame s
  rw [show (connect s).1 = (sendLogonInReplyTo (connectBase s) true).setSt .logon by rw [connect_initiator s hc ht hi, hr],
    sendLogon_eq, ← c1]
  generalize connectBase s = x at c2 ⊢
  intro logon s'
  exact ⟨rfl, rfl, rfl, rfl, rfl,
    by rw [show s'.log = _ from (sent_nil_out (x.storeReset.setSentReset true) logon c2).1]; exact List.mem_cons_self,
    logonMsg_mem141 _, rfl⟩

/-- when the initiator sends the flag: from FIX.4.1 on, some reset option is configured, and both counters are 1 at that
    moment (ResetOnLogon makes them so) -/
theorem C07_logon_reset_sent_iff (s : Sess) :
    shouldSendReset (connectBase s) = true ↔
      (1 ≤ s.cfg.bs ∧ (s.cfg.resetOnLogon = true
        ∨ ((s.cfg.resetOnDisconnect = true ∨ s.cfg.resetOnLogout = true) ∧ s.store.target = 1 ∧ s.store.sender = 1))) := by
  obtain ⟨c1, _, _⟩ := connectBase_frame s
  unfold shouldSendReset
  rw [c1, connectBase_store]
  -- with ResetOnLogon the store has just been reset: both numbers are 1
  cases h1 : s.cfg.resetOnLogon
  · simp [Nat.one_le_iff_ne_zero, and_assoc]
  · simp [Nat.one_le_iff_ne_zero, Store.reset]

/-- FIX.4.0 has no ResetSeqNumFlag: the initiator never sends it -/
theorem C07_no_reset_flag_fix40 (s : Sess) (h : s.cfg.bs = 0) : shouldSendReset (connectBase s) = false :=
  shouldSendReset_fix40 _ (by rw [(connectBase_frame s).1]; exact h)

/-- **the echo.**  The initiator that sent the flag (`sentReset`) receives the acceptor's Logon with 141=Y: no second reset —
    no `reset` observation, the store only moves forward (the expected number by one when the Logon is accepted) -/
theorem C07_logon_reset_echo (s : Sess) (m : InMsg) (hi : s.cfg.initiator = true) (hsr : s.sentReset = true) :
    (∃ extra, (handleLogon s m).1.log = extra ++ s.log ∧ ∀ o ∈ extra, o ≠ Obs.reset)
    ∧ StoreMono s.store (handleLogon s m).1.store := by
  have := logon_echo_no_reset s m hi hsr
  exact ⟨this.log, this.store⟩

/-- **the echo, acceptor** (after `fix:` cbdc133).  An acceptor that sent the reset Logon itself (ResetSeqTime: `sentReset`
    up, session established) receives the peer's answer: no second reset, no `reset` observation, the store only moves
    forward.  (ResetOnLogon off: with it an acceptor resets on every Logon, by configuration.) -/
theorem C07_logon_reset_echo_acceptor (s : Sess) (m : InMsg) (hi : s.cfg.initiator = false) (hrol : s.cfg.resetOnLogon = false)
    (hsr : s.sentReset = true) (hl : s.st.loggedOn = true) :
    (∃ extra, (handleLogon s m).1.log = extra ++ s.log ∧ ∀ o ∈ extra, o ≠ Obs.reset)
    ∧ StoreMono s.store (handleLogon s m).1.store := by
  have := logon_echo_no_reset_acceptor s m hi hrol hsr hl
  exact ⟨this.log, this.store⟩

/-- … and the answer itself is not answered again: in an established session the acceptor's reply step does nothing but
    adopt the HeartBtInt when the Logon carries ResetSeqNumFlag=Y and `sentReset` is up (store, queue, log untouched) -/
theorem C07_own_reset_answer_not_answered (s : Sess) (m : InMsg) (hsr : s.sentReset = true) (hl : s.st.loggedOn = true) :
    (logonReply s m true).store = s.store ∧ (logonReply s m true).log = s.log ∧ (logonReply s m true).toSend = s.toSend := by
  obtain ⟨_, b2, b3, _, b5, b6, b7⟩ := replyBase_frame s m
  rw [logonReply_base]
  split
  · rw [b6, hsr, b2, hl, if_pos (show (true && true && true) = true from rfl)]; exact ⟨b3, b5, b7⟩
  · exact ⟨rfl, rfl, rfl⟩

/-- **the code before the fix** (`logonReplyOrig`): the acceptor answered the answer — with `sentReset` up and the flag set
    its reply step sent another Logon carrying 141=Y through `dropAndSend`, so the store was reset a second time and a
    second Logon numbered 1 went out on the same connection (the defect `fix:` cbdc133 repairs; monitor clause
    `C07.echo_of_own_reset_resets_again{role=acceptor}` on the unfixed tree) -/
theorem C07_orig_echo_of_own_reset_resets_again (s : Sess) (m : InMsg) (hi : s.cfg.initiator = false) :
    let base := replyBase s m
    let again : OutMsg := { stamp base ((logonMsgRe base true m).inReplyTo m) with seq := 1 }
    let s' := logonReplyOrig s m true
    s'.store.epoch = s.store.epoch + 1 ∧ s'.store.sender = 2 ∧ s'.store.target = 1
    ∧ s'.store.msgs = (if s.cfg.persist then [(1, again)] else []) ∧ (141, "Y") ∈ again.f ∧ again.kind = "A"
    ∧ (s.out = true → Obs.wire again ∈ s'.log ∧ Obs.reset ∈ s'.log) := by
  obtain ⟨b1, _, b3, b4, _⟩ := replyBase_frame s m
  have hs' : logonReplyOrig s m true = sendLogonRe (replyBase s m) true m := by
    unfold logonReplyOrig
    rw [hi, Bool.not_false, if_pos rfl]; rfl
  rw [hs', sendLogonRe_eq, ← b3, ← b1, ← b4]
  generalize replyBase s m = x
  intro base again s'
  refine ⟨rfl, rfl, rfl, rfl, logonMsgRe_mem141 _ _, rfl, fun ho => ?_⟩
  rw [show s'.log = _ from (sent_nil_out (x.storeReset.setSentReset true) again ho).1]
  exact ⟨List.mem_cons_self, by simp [Sess.storeReset, Sess.setSentReset, Sess.emit]⟩

/-! ## ResetSeqTime: the reset Logon sent in the middle of a connection (stateMachine.CheckResetTime) -/

/-- when the clock "crosses": today's reset instant — second `rs` of the UTC day `now` lies in — is later than the
    previous check and not later than `now` (pure integer arithmetic on the harness clock, whose origin is a midnight) -/
theorem C07_reset_time_crossing (rs : Nat) (last now : Int) (h : rs < 86400) :
    (crossedReset rs last now = true ↔ last < resetInstant rs now ∧ resetInstant rs now ≤ now)
    ∧ resetInstant rs now / 86400 = now / 86400 ∧ resetInstant rs now % 86400 = rs :=
  ⟨crossedReset_iff rs last now, resetInstant_day rs now h⟩

/-- **ResetSeqTime applies.**  ResetSeqTime configured, a previous check recorded, a connection in place (in particular:
    logged on), and the reset instant crossed: the store is reset (new epoch, nothing of the old numbering kept), the
    engine's Logon is outbound number 1 and carries ResetSeqNumFlag=Y, the next outbound number is 2 and the next expected
    inbound number is 1 — both sides number from 1 —, `sentReset` is raised (so that the echo does not reset again), the
    state is unchanged, the clock is recorded; with the connection's outbound channel in place the Logon is written, after
    the reset and the save.  No hypothesis on role, BeginString, counters, queue or state beyond "connected". -/
theorem C07_reset_time_sends_reset_logon (s : Sess) (now last : Int) (rs : Nat) (hrs : s.cfg.resetSeqTime = some rs)
    (hl : s.lastCheckedReset = some last) (hc : s.st.connected = true) (hx : crossedReset rs last now = true) :
    let logon : OutMsg := { stamp s (logonMsg s true) with seq := 1 }
    let s' := checkResetTime s now
    s'.store.sender = 2 ∧ s'.store.target = 1 ∧ s'.store.msgs = (if s.cfg.persist then [(1, logon)] else [])
    ∧ s'.store.epoch = s.store.epoch + 1 ∧ s'.sentReset = true ∧ s'.st = s.st ∧ s'.lastCheckedReset = some now
    ∧ logon.kind = "A" ∧ logon.seq = 1 ∧ (141, "Y") ∈ logon.f
    ∧ (s.out = true → s'.log = .wire logon :: (if s.cfg.persist then .saved 1 "A" (resendable logon) else .incS) :: .reset :: s.log) := by
  intro logon s'
  rw [show s' = _ from checkResetTime_crossed s now last rs hrs hl hc hx, sendLogon_eq]
  exact ⟨rfl, rfl, rfl, rfl, rfl, rfl, rfl, rfl, rfl, logonMsg_mem141 _,
    fun ho => (sent_nil_out (s.storeReset.setSentReset true) logon ho).1⟩

/-- the same as one whole event of a logged-on session: the observations of `CheckResetTime(now)` are exactly the store
    reset, the save of Logon number 1 (or the bare counter increment without persistence) and the write of that Logon
    carrying 141=Y; afterwards the counters are (2, 1) -/
theorem C07_reset_time_step (s : Sess) (now last : Int) (rs : Nat) (hrs : s.cfg.resetSeqTime = some rs)
    (hl : s.lastCheckedReset = some last) (hon : s.st.loggedOn = true) (ho : s.out = true) (hx : crossedReset rs last now = true) :
    let logon : OutMsg := { stamp s (logonMsg s true) with seq := 1 }
    (step s (.resetTime now)).2.1 = [.reset, (if s.cfg.persist then .saved 1 "A" (resendable logon) else .incS), .wire logon]
    ∧ (step s (.resetTime now)).1.store.sender = 2 ∧ (step s (.resetTime now)).1.store.target = 1
    ∧ (step s (.resetTime now)).1.sentReset = true ∧ (141, "Y") ∈ logon.f := by
  intro logon
  have hc : s.clearLog.st.connected = true := loggedOn_connected s.st hon
  obtain ⟨q1, q2, _, _, q5, _, _, _, _, q10, q11⟩ :=
    C07_reset_time_sends_reset_logon s.clearLog now last rs hrs hl hc hx
  have hlog := q11 ho
  refine ⟨?_, q1, q2, q5, q10⟩
  show (checkResetTime s.clearLog now).log.reverse = _
  rw [hlog]
  have e1 : stamp s.clearLog (logonMsg s.clearLog true) = stamp s (logonMsg s true) := rfl
  have e2 : s.clearLog.cfg = s.cfg := rfl
  have e3 : s.clearLog.log = [] := rfl
  rw [e1, e2, e3]
  simp [logon]

/-- **… and only then.**  ResetSeqTime not configured, or the first check (nothing recorded yet), or no connection, or the
    reset instant not crossed: `CheckResetTime` sends nothing and leaves the store, both counters, the queue, `sentReset`
    and the state as they were (it only records the clock when ResetSeqTime is configured) -/
theorem C07_reset_time_only_when_crossed (s : Sess) (now : Int)
    (h : s.cfg.resetSeqTime = none ∨ s.lastCheckedReset = none ∨ s.st.connected = false
         ∨ (∀ rs last, s.cfg.resetSeqTime = some rs → s.lastCheckedReset = some last → crossedReset rs last now = false)) :
    let s' := checkResetTime s now
    s'.store = s.store ∧ s'.log = s.log ∧ s'.toSend = s.toSend ∧ s'.sentReset = s.sentReset ∧ s'.st = s.st
    ∧ (step s (.resetTime now)).2.1 = [] ∧ (step s (.resetTime now)).1.store = s.store := by
  intro s'
  have hq : ∀ x : Sess, (x.cfg.resetSeqTime = none ∨ x.lastCheckedReset = none ∨ x.st.connected = false
         ∨ (∀ rs last, x.cfg.resetSeqTime = some rs → x.lastCheckedReset = some last → crossedReset rs last now = false)) →
      (checkResetTime x now).store = x.store ∧ (checkResetTime x now).log = x.log ∧ (checkResetTime x now).toSend = x.toSend
      ∧ (checkResetTime x now).sentReset = x.sentReset ∧ (checkResetTime x now).st = x.st := by
    intro x hx
    rcases checkResetTime_quiet x now hx with e | e <;> rw [e] <;> exact ⟨rfl, rfl, rfl, rfl, rfl⟩
  obtain ⟨a1, a2, a3, a4, a5⟩ := hq s h
  obtain ⟨b1, b2, _, _, _⟩ := hq s.clearLog h
  refine ⟨a1, a2, a3, a4, a5, ?_, ?_⟩
  · show (checkResetTime s.clearLog now).log.reverse = []
    rw [b2]; rfl
  · show (checkResetTime s.clearLog now).clearLog.store = s.store
    exact b1

/-- every check with ResetSeqTime configured records its clock: the next crossing is judged from this check -/
theorem C07_reset_time_records_clock (s : Sess) (now : Int) (rs : Nat) (hrs : s.cfg.resetSeqTime = some rs) :
    (checkResetTime s now).lastCheckedReset = some now :=
  checkResetTime_records s now rs hrs

/-! ## EnableNextExpectedMsgSeqNum: tag 789 of the Logons we send, the peer's tag 789

No property sentence speaks about this option; the theorems below DESCRIBE what session.go does (l.189–206, l.577–596), they
claim nothing about what it should do.  The option is tied to the code by the correspondence runs only.  Where the behaviour
looks unintended it is written up in notes/proofs_b_nx.md (observations 1–5, proposed patch notes/nx_proposed.diff). -/

/-- **what our own Logon carries** (initiator at connect, ResetSeqTime): with the option on, tag 789 = `NextTargetMsgSeqNum() + 1`
    as it stands BEFORE the Logon is prepared for sending — one more than the inbound number expected (and, for a Logon carrying
    141=Y, a number from before the reset: the expected number afterwards is 1); with the option off there is no tag 789 -/
theorem C07_next_expected_own (s : Sess) (reset : Bool) :
    (s.cfg.nextExpected = true → (789, toString (s.store.target + 1)) ∈ (logonMsg s reset).f)
    ∧ (s.cfg.nextExpected = false → (logonMsg s reset).f.get? 789 = none)
    ∧ (sendLogonInReplyTo s reset).store.target = (if reset then 1 else s.store.target) := by
  have ht : (sendLogonInReplyTo s reset).store.target = (if reset then 1 else s.store.target) := by
    rw [sendLogon_eq]
    cases reset <;> rfl
  refine ⟨fun h => ?_, fun h => ?_, ht⟩
  · have : logonMsg s reset = logonMsgX s reset (some (s.store.target + 1)) := by
      unfold logonMsg nxOwn; rw [h]; rfl
    rw [this]; exact logonMsgX_mem789 s reset _
  · have : logonMsg s reset = logonMsgX s reset none := by unfold logonMsg; rw [nxOwn_off s h]
    rw [this]; exact logonMsgX_no789 s reset

/-- **what the acceptor's reply carries**: with the option on and a readable tag 789 in the Logon being answered, tag 789 =
    `NextTargetMsgSeqNum() + 1` (the Logon being answered is not counted yet: this is the expected number after the Logon has
    been accepted, `C07_next_expected_accepted`); without the option, or when the peer's Logon has no readable 789, the reply
    has no tag 789 -/
theorem C07_next_expected_reply (s : Sess) (reset : Bool) (m : InMsg) :
    (s.cfg.nextExpected = true → (peerNext m).isSome = true → (789, toString (s.store.target + 1)) ∈ (logonMsgRe s reset m).f)
    ∧ ((s.cfg.nextExpected = false ∨ peerNext m = none) → (logonMsgRe s reset m).f.get? 789 = none) := by
  refine ⟨fun h1 h2 => ?_, fun h => ?_⟩
  · have : logonMsgRe s reset m = logonMsgX s reset (some (s.store.target + 1)) := by
      unfold logonMsgRe nxReply; rw [h1, h2]; rfl
    rw [this]; exact logonMsgX_mem789 s reset _
  · have : logonMsgRe s reset m = logonMsgX s reset none := by
      unfold logonMsgRe nxReply
      rcases h with h | h
      · rw [h]; rfl
      · rw [h]; simp
    rw [this]; exact logonMsgX_no789 s reset

/-- **higher, acceptor: a Logon whose tag 789 is above our next outbound number is refused** (`sendLogonInReplyTo`: "we can't
    resend what we never sent"), whenever the acceptor is about to answer — a Logon carrying tag 141 included (after that reset
    our number is 1): `handleLogon` ends with RejectLogon before the reply, before the logon notification and before the
    Logon's number is counted; nothing is stored or sent, `sentReset` stays (the HeartBtInt has been adopted by then).
    An initiator never refuses (`logonRefuses` is false for it by definition): it treats a higher 789 like a lower one. -/
theorem C07_next_expected_ahead_refused (s : Sess) (m : InMsg) (n ns : Int) (hi : s.cfg.initiator = false)
    (hnx : s.cfg.nextExpected = true) (hp : peerNext m = some n) (hgt : n > s.store.sender)
    (hrole : (logonResetFlag m && s.sentReset && s.st.loggedOn) = false) :
    logonTail s m ns = (logonRefused s m, some (.rej .rejectLogon))
    ∧ (logonRefused s m).store = s.store ∧ (logonRefused s m).log = s.log ∧ (logonRefused s m).toSend = s.toSend
    ∧ (logonRefused s m).sentReset = s.sentReset := by
  have hr : logonRefuses s m (logonResetFlag m) = true := by
    unfold logonRefuses nxRefuses nxAbove
    rw [hnx, hp, hi, hrole]
    simp [hgt]
  refine ⟨by unfold logonTail; rw [if_pos hr], ?_⟩
  unfold logonRefused
  split
  · split <;> exact ⟨rfl, rfl, rfl, rfl⟩
  · exact ⟨rfl, rfl, rfl, rfl⟩

/-- … and only then: a refusal means an acceptor with the option on and a Logon whose 789 is above our next outbound number -/
theorem C07_next_expected_refused_only_ahead (s : Sess) (m : InMsg) (flag : Bool) (h : logonRefuses s m flag = true) :
    s.cfg.initiator = false ∧ s.cfg.nextExpected = true ∧ ∃ n, peerNext m = some n ∧ n > s.store.sender := by
  unfold logonRefuses nxRefuses nxAbove at h
  simp only [Bool.and_eq_true] at h
  obtain ⟨⟨h0, _⟩, h1, h2⟩ := h
  refine ⟨by simpa using h0, h1, ?_⟩
  cases hp : peerNext m with
  | none => rw [hp] at h2; cases h2
  | some n => rw [hp] at h2; exact ⟨n, rfl, by simpa using h2⟩

/-- in the logon state the refusal is answered with a Logout, the Logon's number is counted and the connection dropped -/
theorem C07_next_expected_refusal_logs_out (s s' : Sess) (m : InMsg) (hk : kindOf m = "A")
    (h : handleLogon s m = (s', some (.rej .rejectLogon))) : logonFixMsgIn s m = shutdownWithReason s' m true := by
  unfold logonFixMsgIn
  rw [if_neg (by simp [hk]), h]

/-- **equal, absent, unreadable, option off, or a Logon carrying tag 141: nothing happens** -/
theorem C07_next_expected_equal (s : Sess) (m : InMsg) (ns : Int)
    (h : s.cfg.nextExpected = false ∨ m.f.has 141 = true ∨ peerNext m = none ∨ peerNext m = some ns) : nxEval s m ns = (s, none) :=
  nxEval_quiet s m ns h

/-- **different (lower — or, for an initiator, higher), with message persistence: the implied gap fill.**  Option on, no tag
    141, the peer's 789 = `n` differs from `ns`, our next outbound number when the Logon arrived (before a reset the Logon
    caused, before our reply): exactly one SequenceReset-GapFill with PossDupFlag is handed to `EnqueueBytesAndSend`, numbered
    `n`, NewSeqNo = `ns + 1` (the `+ 1` is the acceptor's reply; an initiator sends none).  Nothing is replayed.  The store is
    not touched: nothing stored is lost, both counters stay.  With a connection it is the last thing written (behind whatever
    was queued, when logged on). -/
theorem C07_next_expected_differs (s : Sess) (m : InMsg) (ns n : Int) (hnx : s.cfg.nextExpected = true) (h141 : m.f.has 141 = false)
    (hp : peerNext m = some n) (hne : n ≠ ns) (hper : s.cfg.persist = true) :
    let gf := gapFillRe s m n (ns + 1)
    nxEval s m ns = (enqueueAndSend s gf, none)
    ∧ gf.kind = "4" ∧ gf.seq = n ∧ gf.f = [(36, toString (ns + 1)), (43, "Y"), (122, "+"), (123, "Y")]
    ∧ (nxEval s m ns).1.store = s.store
    ∧ (s.out = true → (nxEval s m ns).1.toSend = []
        ∧ (nxEval s m ns).1.log = .wire gf :: ((if s.st.loggedOn then s.toSend else []).map Obs.wire).reverse ++ s.log) := by
  intro gf
  have e := nxEval_fill s m ns n hnx h141 hp hne hper
  refine ⟨e, rfl, rfl, rfl, (nxEval_frame s m ns).1, fun ho => ?_⟩
  rw [e, enqueueAndSend_out s gf ho]
  simp [Sess.wrote, Sess.keptQueue]

/-- **different, without message persistence: the error `targetTooHigh{peer's 789, our outbound number}`.**  Nothing is sent
    and nothing changes at this point; `logonFinish` returns the error AFTER the reply, the peer timer and the logon
    notification and BEFORE the Logon's own number is checked and counted. -/
theorem C07_next_expected_differs_nopersist (s : Sess) (m : InMsg) (ns n : Int) (hnx : s.cfg.nextExpected = true)
    (h141 : m.f.has 141 = false) (hp : peerNext m = some n) (hne : n ≠ ns) (hper : s.cfg.persist = false) :
    nxEval s m ns = (s, some (.tooHigh n ns))
    ∧ logonFinish s m ns = (((s.setSentReset false).emit (.armPeer (1200 * s.hb))).emit .onLogon, some (.rej (.tooHigh n ns))) := by
  refine ⟨nxEval_nopersist s m ns n hnx h141 hp hne hper, ?_⟩
  unfold logonFinish
  -- the notifications leave the configuration alone
  obtain ⟨y, hy⟩ : ∃ y, y = ((s.setSentReset false).emit (.armPeer (1200 * s.hb))).emit .onLogon := ⟨_, rfl⟩
  have yc : y.cfg = s.cfg := by rw [hy]; simp only [Sess.emit, Sess.setSentReset]
  rw [← hy, nxEval_nopersist y m ns n (by rw [yc]; exact hnx) h141 hp hne (by rw [yc]; exact hper)]

/-- … which the logon state treats like a gap in the INBOUND numbers (`doTargetTooHigh`): whatever pair `handleLogon` reports,
    a ResendRequest from the second number to the first − 1 is queued and the state becomes `resend` with that range.  For
    the pair above that is a request from OUR next outbound number to the peer's 789 − 1. -/
theorem C07_next_expected_nopersist_logon_state (s s' : Sess) (m : InMsg) (n t : Int) (hk : kindOf m = "A")
    (h : handleLogon s m = (s', some (.rej (.tooHigh n t)))) :
    logonFixMsgIn s m = ((sendResendRequest s' t (n - 1)).1, .resend [] (sendResendRequest s' t (n - 1)).2.1 (sendResendRequest s' t (n - 1)).2.2) := by
  unfold logonFixMsgIn
  rw [if_neg (by simp [hk]), h]

/-- **a Logon accepted, end to end** (either role; no reset configured or asked for; the Logon carries the expected number;
    an acceptor does not refuse it; message persistence on): the session is notified, the expected inbound number advances by
    one, the outbound number by one for the acceptor's reply and not at all for an initiator, nothing stored is lost (the reply
    is the only new entry), the epoch stays.  The acceptor's reply is written and — option on, readable 789 in the peer's
    Logon — carries in tag 789 exactly the inbound number expected afterwards.  When the peer's 789 differs from our next
    outbound number as it was on arrival, the gap fill from the peer's 789 is written with NewSeqNo = that number + 1: the
    number an acceptor uses next, one MORE than the number an initiator uses next. -/
theorem C07_next_expected_accepted (s : Sess) (m : InMsg)
    (h5 : (s.cfg.bs == 5 && !m.f.has 1137) = false) (hg : GateMsg s.cfg m) (ht : TimeGate s m)
    (hv : callbackVerdict m = none) (hro : (if s.cfg.initiator then false else s.cfg.resetOnLogon) = false)
    (hf : logonResetFlag m = false) (h34 : getInt m 34 = .val s.store.target)
    (hnr : s.cfg.initiator = true ∨ nxRefuses s m = false) (hper : s.cfg.persist = true) :
    let r := handleLogon s m
    r.2 = none ∧ r.1.store.target = s.store.target + 1
    ∧ r.1.store.sender = (if s.cfg.initiator then s.store.sender else s.store.sender + 1)
    ∧ r.1.store.epoch = s.store.epoch ∧ s.store.msgs <:+ r.1.store.msgs ∧ Obs.onLogon ∈ r.1.log
    ∧ (s.cfg.initiator = false → ∃ base : Sess, base.cfg = s.cfg ∧ base.store = s.store ∧
        let reply : OutMsg := { stamp base ((logonMsgRe base false m).inReplyTo m) with seq := s.store.sender }
        (s.out = true → Obs.wire reply ∈ r.1.log)
        ∧ (s.cfg.nextExpected = true → (peerNext m).isSome = true → (789, toString r.1.store.target) ∈ reply.f))
    ∧ (s.cfg.nextExpected = true → m.f.has 141 = false → ∀ n, peerNext m = some n → n ≠ s.store.sender → s.out = true →
        ∃ gf : OutMsg, Obs.wire gf ∈ r.1.log ∧ gf.kind = "4" ∧ gf.seq = n
          ∧ gf.f = [(36, toString (s.store.sender + 1)), (43, "Y"), (122, "+"), (123, "Y")]) := by
  intro r
  obtain ⟨c1, _, c3, _, c5, _⟩ := logonS2_frame s m
  obtain ⟨b1, _, b3, b4, _⟩ := replyBase_frame (logonS2 s m) m
  -- the session after the reply, `x`: an initiator's is the session after the callback, an acceptor's has sent the reply
  have hx : ∃ x : Sess, logonReply (logonS2 s m) m false = x ∧ x.cfg = s.cfg ∧ x.out = s.out ∧ x.store.target = s.store.target
      ∧ x.store.sender = (if s.cfg.initiator then s.store.sender else s.store.sender + 1)
      ∧ x.store.epoch = s.store.epoch ∧ s.store.msgs <:+ x.store.msgs
      ∧ (s.cfg.initiator = false → ∃ base : Sess, base.cfg = s.cfg ∧ base.store = s.store ∧
          (s.out = true → Obs.wire { stamp base ((logonMsgRe base false m).inReplyTo m) with seq := s.store.sender } ∈ x.log)) := by
    rw [logonReply_eq, c1, c3]
    generalize replyBase (logonS2 s m) m = base at b1 b3 b4
    rw [c1] at b1; rw [c3] at b3; rw [c5] at b4
    cases hi : s.cfg.initiator
    · rw [if_neg Bool.false_ne_true]
      refine ⟨_, rfl, b1, b4, by rw [← b3]; rfl, by rw [← b3]; rfl, by rw [← b3]; rfl, ?_,
        fun _ => ⟨base, b1, b3, fun ho => ?_⟩⟩
      · show s.store.msgs <:+ (if base.cfg.persist = true then _ :: base.store.msgs else base.store.msgs)
        rw [b1, hper, if_pos rfl, b3]
        exact List.suffix_cons _ _
      · rw [(sent_nil_out base _ (b4.trans ho)).1]
        exact List.mem_cons_self
    · exact ⟨_, if_pos rfl, c1, c5, congrArg _ c3, congrArg _ c3, congrArg _ c3, by rw [c3]; exact List.suffix_refl _, fun h => nomatch h⟩
  obtain ⟨x, ex, x5, x6, x1, x2, x3, x4, x7⟩ := hx
  obtain ⟨y1, _, y2, y3, y4⟩ := notified_frame x
  have hr : r = (incrTarget (nxEval (notified x) m s.store.sender).1, none) := by
    show handleLogon s m = _
    rw [handleLogon_answered h5 hg.valid hv hro hf ((firstReject_none_gate s m false true).2
        ⟨hg.begin, hg.comp, ht, fun _ => ⟨_, h34, Int.le_refl _⟩, fun h => nomatch h⟩) hnr,
      ex, logonFinish_noErr x m _ _ (Or.inr (by rw [x5]; exact hper)) h34, x1, if_neg (Int.lt_irrefl _)]
  rw [hr]
  generalize notified x = y at y1 y2 y3 y4
  obtain ⟨z, hz⟩ : ∃ z, z = (nxEval y m s.store.sender).1 := ⟨_, rfl⟩
  have zs : z.store = x.store := by rw [hz, (nxEval_frame y m s.store.sender).1, y2]
  obtain ⟨pre, hpre⟩ := nxEval_log y m s.store.sender
  rw [y4, ← hz] at hpre
  rw [← hz]
  refine ⟨rfl, ?_, ?_, ?_, ?_, ?_, fun hi => ?_, fun hnx h141 n hp hne ho => ?_⟩
  · show z.store.target + 1 = _; rw [zs, x1]
  · show z.store.sender = _; rw [zs, x2]
  · show z.store.epoch = _; rw [zs, x3]
  · show s.store.msgs <:+ z.store.msgs; rw [zs]; exact x4
  · show Obs.onLogon ∈ Obs.incT :: z.log; rw [hpre]; simp
  · obtain ⟨base, hb1, hb2, hb3⟩ := x7 hi
    refine ⟨base, hb1, hb2, ?_⟩
    intro reply
    refine ⟨fun ho => ?_, fun hnx hps => ?_⟩
    · show Obs.wire reply ∈ Obs.incT :: z.log
      rw [hpre]
      have := hb3 ho
      simp only [List.mem_cons, List.mem_append]
      exact Or.inr (Or.inr (Or.inr (Or.inr this)))
    · show (789, toString (z.store.target + 1)) ∈ (logonMsgRe base false m).f
      rw [zs, x1, ← hb2]
      exact (C07_next_expected_reply base false m).1 (by rw [hb1]; exact hnx) hps
  · obtain ⟨_, k2, k3, k4, _, k6⟩ := C07_next_expected_differs y m s.store.sender n (by rw [y1, x5]; exact hnx) h141 hp hne
      (by rw [y1, x5]; exact hper)
    refine ⟨gapFillRe y m n (s.store.sender + 1), ?_, k2, k3, k4⟩
    show Obs.wire _ ∈ Obs.incT :: z.log
    rw [hz, (k6 (by rw [y3, x6]; exact ho)).2]; simp

/-- with ResetOnLogout, whenever the Logout handler ends the session (answering the peer's Logout, or receiving the answer
    to ours) both counters are 1 and nothing is stored, exactly then (the reset is the last store mutation of the handler) -/
theorem C07_reset_on_logout (s : Sess) (m : InMsg) (hcfg : s.cfg.resetOnLogout = true) (hl : (handleLogout s m).2 = .latent) :
    (handleLogout s m).1.store.sender = 1 ∧ (handleLogout s m).1.store.target = 1 ∧ (handleLogout s m).1.store.msgs = []
    ∧ Obs.reset ∈ (handleLogout s m).1.log :=
  reset_on_logout s m hcfg hl

/-- with ResetOnDisconnect the disconnect processing of any state resets the store … -/
theorem C07_reset_on_disconnect_mid (s : Sess) (hcfg : s.cfg.resetOnDisconnect = true) :
    (discMid s).store.sender = 1 ∧ (discMid s).store.target = 1 ∧ (discMid s).store.msgs = [] ∧ Obs.reset ∈ (discMid s).log := by
  obtain ⟨h1, h2⟩ := reset_on_disconnect_mid s hcfg
  rw [h1]; exact ⟨rfl, rfl, rfl, h2⟩

/-- … so right after a disconnect (nothing buffered) both counters are 1 -/
theorem C07_reset_on_disconnect (s : Sess) (hc : s.st.connected = true) (hi : s.inbox = []) (hcfg : s.cfg.resetOnDisconnect = true) :
    (step s .disconnected).1.store.sender = 1 ∧ (step s .disconnected).1.store.target = 1
    ∧ (step s .disconnected).1.store.msgs = [] ∧ (step s .disconnected).1.st = .latent := by
  obtain ⟨h1, h2⟩ := disconnected_store s hc hi
  rw [h1, (reset_on_disconnect_mid s.clearLog hcfg).1]
  exact ⟨rfl, rfl, rfl, h2⟩

/-- **forward only.**  Every SequenceReset that passes the gates — any MsgSeqNum, NewSeqNo `n`, GapFillFlag (absent, N or Y;
    with Y the sequence checks are part of the gate), PossDup — in any state: `n` above the expected number moves it to
    `n`; equal changes nothing; below leaves it unchanged and is answered with a Reject, reason 5.  (`s1` is `s` after the
    FromAdmin callback observation.) -/
theorem C07_seqreset_forward_only (s : Sess) (m : InMsg) (n : Int) (h123 : getBool m 123 ≠ .garbled)
    (h36 : getInt m 36 = .val n) (hg : GateMsg s.cfg m) (ht : TimeGate s m) (hv : callbackVerdict m = none)
    (hseq : SeqGate s m (gapFillOf m) (gapFillOf m)) :
    let s1 := s.emit (cbObs s m)
    (n > s.store.target → handleSequenceReset s m = ((s1.setTarget n).emit (.setT n), .inSession))
    ∧ (n = s.store.target → handleSequenceReset s m = (s1, .inSession))
    ∧ (n < s.store.target → handleSequenceReset s m = (doReject s1 m 5 none false, .inSession)
        ∧ (doReject s1 m 5 none false).store.target = s.store.target) := by
  intro s1
  obtain ⟨a, b, c⟩ := seqreset_forward_only s m n h123 h36 hg ht hv hseq
  exact ⟨a, b, fun h => ⟨c h, doReject_target s1 m 5 none false⟩⟩

/-- **never backwards**, with no hypothesis on the message at all (any 34 / 36 / 123 / 43, gates passing or failing, any
    state): handling a SequenceReset never resets the store, never lowers the expected inbound number (nor the outbound one),
    never loses a stored message -/
theorem C07_seqreset_never_backwards (s : Sess) (m : InMsg) (hk : kindOf m = "4") :
    s.store.target ≤ (handleSequenceReset s m).1.store.target ∧ StoreMono s.store (handleSequenceReset s m).1.store
    ∧ (∃ extra, (handleSequenceReset s m).1.log = extra ++ s.log ∧ ∀ o ∈ extra, o ≠ Obs.reset) := by
  have := seqreset_never_backwards s m hk
  exact ⟨this.store.target, this.store, this.log⟩

/-! ## non-vacuity (evaluated by the interpreter at build time; String functions do not reduce in the kernel) -/

def c07Wires (l : List Obs) : List (String × Int × Fields) :=
  l.filterMap fun o => match o with | .wire m => some (m.kind, m.seq, m.f) | _ => none
def c07Logon (seq : Nat) (extra : Fields) : InMsg :=
  { f := [(8, "FIX.4.2"), (35, "A"), (49, "TGT"), (56, "SND"), (34, toString seq), (52, "@0"), (98, "0"), (108, "30")] ++ extra }
def c07Msg (kind : String) (seq : Nat) (extra : Fields) : InMsg :=
  { f := [(8, "FIX.4.2"), (35, kind), (49, "TGT"), (56, "SND"), (34, toString seq), (52, "@0")] ++ extra }
/-- (next outbound, next expected inbound, stored numbers, epoch, state) -/
def c07Summary (s : Sess) : Int × Int × List Int × Nat × String :=
  (s.store.sender, s.store.target, s.store.msgs.map (·.1), s.store.epoch, s.st.name)
def c07Hist : List Ev := [.connect, .incomingMsg (some (c07Logon 7 [])), .incomingMsg (some (c07Msg "D" 8 [])),
   .disconnected, .connect, .incomingMsg (some (c07Logon 9 []))]

-- the hypotheses of C07_continuity are satisfiable (kernel-checked) …
example : NoResetOptions {} := ⟨⟨rfl, rfl, rfl⟩, rfl⟩
example : NoResetEv .connect ∧ NoResetEv .disconnected ∧ NoResetEv (.sessionTime true true) ∧ NoResetEv (.timeout .peerTimeout) :=
  ⟨trivial, trivial, rfl, trivial⟩
-- … and a history that satisfies them does real work: two connections, counters continue from (5, 7) to (7, 10), both
-- Logon replies (5 and 6) are still stored, epoch 0, no reset observation
#guard c07Summary (runEvents (initSess {} 5 7) c07Hist) == (7, 10, [6, 5], 0, "InSession")
#guard ((traceOf (initSess {} 5 7) c07Hist).filter (· == .reset)).isEmpty
-- reset received by the acceptor: counters (2, 2), reply is Logon number 1 with 141=Y, sentReset down
#guard (let r := step (runEvents (initSess {} 5 7) [.connect]) (.incomingMsg (some (c07Logon 1 [(141, "Y")])))
        (c07Summary r.1, c07Wires r.2.1, r.1.sentReset))
       == ((2, 2, [1], 2, "InSession"), [("A", 1, [(108, "30"), (141, "Y")])], false)
-- reset sent by the initiator (ResetOnLogon): Logon number 1 with 141=Y, sentReset raised; the echo does not reset again
#guard (let r := step (initSess { initiator := true, resetOnLogon := true } 5 7) .connect
        (c07Summary r.1, c07Wires r.2.1, r.1.sentReset))
       == ((2, 1, [1], 2, "Logon"), [("A", 1, [(108, "30"), (141, "Y")])], true)
#guard (let s := runEvents (initSess { initiator := true, resetOnLogon := true } 5 7) [.connect]
        let r := step s (.incomingMsg (some (c07Logon 1 [(141, "Y")])))
        (c07Summary r.1, r.1.sentReset, r.2.1.filter (· == .reset)))
       == ((2, 2, [1], 2, "InSession"), false, [])
-- FIX.4.0: the flag is never sent (the configured reset still happens locally)
#guard (let r := step (initSess { initiator := true, resetOnLogon := true, bs := 0 } 5 7) .connect
        c07Wires r.2.1) == [("A", 1, [(108, "30")])]
-- ResetSeqTime = 12:00:00 UTC (second 43200 of the day).  An acceptor logged on with counters (6, 8) whose previous check was
-- at 11:59:50 of day 1 satisfies the hypotheses of C07_reset_time_sends_reset_logon for a check at 12:00:00 …
def c07Rst : Cfg := { resetSeqTime := some 43200 }
def c07Up (cfg : Cfg) (logon : InMsg := c07Logon 7 []) : Sess :=
  runEvents (initSess cfg 5 7) [.connect, .incomingMsg (some logon), .resetTime (86400 + 43190)]
#guard crossedReset 43200 (86400 + 43190) (86400 + 43200) && !crossedReset 43200 (86400 + 43190) (86400 + 43199)
       && !crossedReset 43200 (86400 + 43200) (86400 + 43201) && crossedReset 43200 (86400 + 43190) (2 * 86400 + 50000)
       && !crossedReset 43200 (86400 + 43190) (2 * 86400 + 100)
#guard (c07Summary (c07Up c07Rst), (c07Up c07Rst).lastCheckedReset, (c07Up c07Rst).st.connected, (c07Up c07Rst).out)
       == ((6, 8, [5], 0, "InSession"), some (86400 + 43190), true, true)
-- … and the check does what the theorem says: store reset, Logon number 1 with 141=Y written, counters (2, 1), sentReset
#guard (let r := step (c07Up c07Rst) (.resetTime (86400 + 43200))
        (c07Summary r.1, c07Wires r.2.1, r.1.sentReset, r.2.1.filter (· == .reset), r.1.lastCheckedReset))
       == ((2, 1, [1], 1, "InSession"), [("A", 1, [(108, "30"), (141, "Y")])], true, [.reset], some (86400 + 43200))
-- one second earlier: nothing (C07_reset_time_only_when_crossed); likewise the first check, a check without a connection,
-- and any check when ResetSeqTime is not configured
#guard (let r := step (c07Up c07Rst) (.resetTime (86400 + 43199)); (c07Summary r.1, r.2.1)) == ((6, 8, [5], 0, "InSession"), [])
#guard (let s := runEvents (initSess c07Rst 5 7) [.connect, .incomingMsg (some (c07Logon 7 []))]
        let r := step s (.resetTime (86400 + 43200)); (c07Summary r.1, r.2.1, r.1.lastCheckedReset))
       == ((6, 8, [5], 0, "InSession"), [], some (86400 + 43200))
#guard (let s := runEvents (initSess c07Rst 5 7) [.resetTime (86400 + 43190)]
        let r := step s (.resetTime (86400 + 43200)); (c07Summary r.1, r.2.1)) == ((5, 7, [], 0, "Latent"), [])
#guard (let r := step (c07Up {}) (.resetTime (86400 + 43200)); (c07Summary r.1, r.2.1, r.1.lastCheckedReset))
       == ((6, 8, [5], 0, "InSession"), [], none)
-- the peer's answer (Logon 1 with 141=Y) to an INITIATOR's time-triggered reset: accepted, no second reset, counters (2, 2)
#guard (let s := (step (c07Up { c07Rst with initiator := true }) (.resetTime (86400 + 43200))).1
        let r := step s (.incomingMsg (some (c07Logon 1 [(141, "Y")])))
        (c07Summary r.1, c07Wires r.2.1, r.1.sentReset, r.2.1.filter (· == .reset)))
       == ((2, 2, [1], 1, "InSession"), [], false, [])
-- the same answer received by an ACCEPTOR (after `fix:` cbdc133): accepted, not answered, no second reset, counters (2, 2) …
#guard (let s := (step (c07Up c07Rst) (.resetTime (86400 + 43200))).1
        let r := step s (.incomingMsg (some (c07Logon 1 [(141, "Y")])))
        (c07Summary r.1, c07Wires r.2.1, r.1.sentReset, r.2.1.filter (· == .reset)))
       == ((2, 2, [1], 1, "InSession"), [], false, [])
-- … whereas the code before the fix (`logonReplyOrig`, C07_orig_echo_of_own_reset_resets_again) answered it with a second Logon
-- numbered 1 carrying 141=Y and reset the store once more (epoch 2)
#guard (let s := (step (c07Up c07Rst) (.resetTime (86400 + 43200))).1
        let r := logonReplyOrig s (c07Logon 1 [(141, "Y")]) true
        (c07Summary r, c07Wires r.log, r.log.filter (· == .reset)))
       == ((2, 1, [1], 2, "InSession"), [("A", 1, [(108, "30"), (141, "Y")])], [.reset])
-- before the handshake a Logon is a logon request and is answered, also when `sentReset` is up (the acceptor
-- crossed the reset instant while waiting for the peer's Logon): reply number 1 with 141=Y
#guard (let s := runEvents (initSess c07Rst 5 7) [.resetTime (86400 + 43190), .connect, .resetTime (86400 + 43200)]
        let r := step s (.incomingMsg (some (c07Logon 1 [(141, "Y")])))
        (s.sentReset, s.st.name, c07Summary r.1, c07Wires r.2.1))
       == (true, "Logon", (2, 2, [1], 2, "InSession"), [("A", 1, [(108, "30"), (141, "Y")])])
-- REMARK (not a finding: the property text says nothing about FIX.4.0 on this path, and the monitor clause
-- `C07.reset_flag_in_fix40` is restricted to the paths where `shouldSendReset` decides): CheckResetTime passes `true` whatever
-- the BeginString — C07_reset_time_sends_reset_logon has no hypothesis on `bs` — so a FIX.4.0 session sends tag 141 here
#guard (let logon40 : InMsg := { f := [(8, "FIX.4.0"), (35, "A"), (49, "TGT"), (56, "SND"), (34, "7"), (52, "@0"), (98, "0"), (108, "30")] }
        let r := step (c07Up { c07Rst with bs := 0 } logon40) (.resetTime (86400 + 43200))
        (c07Summary r.1, c07Wires r.2.1)) == ((2, 1, [1], 1, "InSession"), [("A", 1, [(108, "30"), (141, "Y")])])
/-! ### EnableNextExpectedMsgSeqNum (tag 789): what the code does (no property speaks about it; notes/proofs_b_nx.md) -/
def c07NxA : Cfg := { nextExpected := true }
def c07NxI : Cfg := { nextExpected := true, initiator := true }
/-- connected, the peer's Logon not yet received; counters (5, 7) — an initiator has sent its Logon: (6, 7) -/
def c07Conn (cfg : Cfg) : Sess := runEvents (initSess cfg 5 7) [.connect]
-- the hypotheses of C07_next_expected_accepted hold for the acceptor and a Logon numbered 7 whose 789 is 3 or 5
#guard (checkBeginString (c07Conn c07NxA) (c07Logon 7 [(789, "3")])).isNone && (checkCompID (c07Conn c07NxA) (c07Logon 7 [(789, "3")])).isNone
        && (checkSendingTime (c07Conn c07NxA) (c07Logon 7 [(789, "3")])).isNone && (validate c07NxA (c07Logon 7 [(789, "3")])).isNone
        && (callbackVerdict (c07Logon 7 [(789, "3")])).isNone && !logonResetFlag (c07Logon 7 [(789, "3")])
        && !nxRefuses (c07Conn c07NxA) (c07Logon 7 [(789, "3")]) && !nxRefuses (c07Conn c07NxA) (c07Logon 7 [(789, "5")])
        && nxRefuses (c07Conn c07NxA) (c07Logon 7 [(789, "6")])
-- acceptor, equal: our next outbound number is 5, the peer expects 5: the reply (number 5) carries 789 = 8, nothing else is sent
#guard (let r := step (c07Conn c07NxA) (.incomingMsg (some (c07Logon 7 [(789, "5")]))); (c07Summary r.1, c07Wires r.2.1))
       == ((6, 8, [5], 0, "InSession"), [("A", 5, [(108, "30"), (789, "8")])])
-- acceptor, lower: the peer expects 3: reply, then ONE gap fill 3 → 6; counters as before, nothing lost
#guard (let r := step (c07Conn c07NxA) (.incomingMsg (some (c07Logon 7 [(789, "3")]))); (c07Summary r.1, c07Wires r.2.1))
       == ((6, 8, [5], 0, "InSession"), [("A", 5, [(108, "30"), (789, "8")]), ("4", 3, [(36, "6"), (43, "Y"), (122, "+"), (123, "Y")])])
-- acceptor, higher: the peer expects 6, we have not sent 5 yet: refused — Logout, no logon notification, the Logon's number counted
#guard (let r := step (c07Conn c07NxA) (.incomingMsg (some (c07Logon 7 [(789, "6")]))); (c07Summary r.1, c07Wires r.2.1, r.2.1.filter (· == .onLogon)))
       == ((6, 8, [5], 0, "Latent"), [("5", 5, [])], [])
-- no 789 in the peer's Logon, or the option off: the reply has none either, nothing else happens
#guard (let r := step (c07Conn c07NxA) (.incomingMsg (some (c07Logon 7 []))); c07Wires r.2.1) == [("A", 5, [(108, "30")])]
#guard (let r := step (c07Conn {}) (.incomingMsg (some (c07Logon 7 [(789, "3")]))); c07Wires r.2.1) == [("A", 5, [(108, "30")])]
-- a reset Logon (141=Y): its 789 is not evaluated for a gap fill, but 789 = 2 is above the reset acceptor's number 1: refused
#guard (let r := step (c07Conn c07NxA) (.incomingMsg (some (c07Logon 1 [(141, "Y"), (789, "1")]))); (c07Summary r.1, c07Wires r.2.1))
       == ((2, 2, [1], 2, "InSession"), [("A", 1, [(108, "30"), (141, "Y"), (789, "2")])])
#guard (let r := step (c07Conn c07NxA) (.incomingMsg (some (c07Logon 1 [(141, "Y"), (789, "2")]))); (c07Summary r.1, c07Wires r.2.1))
       == ((2, 2, [1], 1, "Latent"), [("5", 1, [])])
-- OBSERVATIONS (notes/proofs_b_nx.md 1–5; none of them breaks a property sentence as written, see there):
-- (1) the initiator's Logon carries 789 = 8 while it expects 7; the ResetSeqTime Logon carries the number from before its own reset
#guard (let r := step (initSess c07NxI 5 7) .connect; (c07Summary r.1, c07Wires r.2.1)) == ((6, 7, [5], 0, "Logon"), [("A", 5, [(108, "30"), (789, "8")])])
#guard (let r := step (c07Up { c07Rst with nextExpected := true }) (.resetTime (86400 + 43200)); (c07Summary r.1, c07Wires r.2.1))
       == ((2, 1, [1], 1, "InSession"), [("A", 1, [(108, "30"), (141, "Y"), (789, "9")])])
-- (2) without persistence a lower 789 is reported as `targetTooHigh{3, 5}`: reply and logon notification given, then a ResendRequest
--     from OUR outbound number 5 queued, state Resend, and the Logon's own number NOT counted (expected stays 7)
#guard (let r := step (c07Conn { c07NxA with persist := false }) (.incomingMsg (some (c07Logon 7 [(789, "3")])))
        (c07Summary r.1, c07Wires r.2.1, r.1.toSend.map (fun o => (o.kind, o.f)), r.2.1.filter (· == .onLogon)))
       == ((7, 7, [], 0, "Resend"), [("A", 5, [(108, "30"), (789, "8")])], [("2", [(7, "5"), (16, "0")])], [.onLogon])
-- (3) an initiator's gap fill carries NewSeqNo 7 while its next message is 6
#guard (let r := step (c07Conn c07NxI) (.incomingMsg (some (c07Logon 7 [(789, "3")]))); (c07Summary r.1, c07Wires r.2.1))
       == ((6, 8, [5], 0, "InSession"), [("4", 3, [(36, "7"), (43, "Y"), (122, "+"), (123, "Y")])])
-- (4) ResetOnLogon: the peer's 789 = 1 is compared with the number from before the reset (5): a gap fill 1 → 6 behind reply number 1
#guard (let r := step (c07Conn { c07NxA with resetOnLogon := true }) (.incomingMsg (some (c07Logon 1 [(789, "1")]))); (c07Summary r.1, c07Wires r.2.1))
       == ((2, 2, [1], 1, "InSession"), [("A", 1, [(108, "30"), (789, "2")]), ("4", 1, [(36, "6"), (43, "Y"), (122, "+"), (123, "Y")])])
-- (5) an initiator accepts a Logon whose 789 = 9 is above its next number 6 and sends a gap fill numbered 9 with NewSeqNo 7
#guard (let r := step (c07Conn c07NxI) (.incomingMsg (some (c07Logon 7 [(789, "9")]))); (c07Summary r.1, c07Wires r.2.1, r.2.1.filter (· == .onLogon)))
       == ((6, 8, [5], 0, "InSession"), [("4", 9, [(36, "7"), (43, "Y"), (122, "+"), (123, "Y")])], [.onLogon])
-- a Logon that opens a gap (number 9, expected 7) with 789 = 3, persistence on: reply (789 = 8), gap fill, and the ResendRequest for
-- [7, ∞) queued behind them — the expected number stays 7
#guard (let r := step (c07Conn c07NxA) (.incomingMsg (some (c07Logon 9 [(789, "3")]))); (c07Summary r.1, c07Wires r.2.1, r.1.toSend.map (fun o => (o.kind, o.f))))
       == ((7, 7, [6, 5], 0, "Resend"), [("A", 5, [(108, "30"), (789, "8")]), ("4", 3, [(36, "6"), (43, "Y"), (122, "+"), (123, "Y")])], [("2", [(7, "7"), (16, "0")])])
-- ResetOnLogout / ResetOnDisconnect: (1, 1) right after
#guard (let s := runEvents (initSess { resetOnLogout := true } 5 7) [.connect, .incomingMsg (some (c07Logon 7 []))]
        c07Summary (step s (.incomingMsg (some (c07Msg "5" 8 [])))).1) == (1, 1, [], 1, "Latent")
#guard (let s := runEvents (initSess { resetOnDisconnect := true } 5 7) [.connect, .incomingMsg (some (c07Logon 7 []))]
        c07Summary (step s .disconnected).1) == (1, 1, [], 1, "Latent")
-- SequenceReset from expected 8: to 20 applies; to 3 is rejected (reason 5) and changes nothing; to 8 changes nothing
#guard (let s := runEvents (initSess {} 5 7) [.connect, .incomingMsg (some (c07Logon 7 []))]
        ((step s (.incomingMsg (some (c07Msg "4" 8 [(36, "20")])))).1.store.target,
         (let r := step s (.incomingMsg (some (c07Msg "4" 8 [(36, "3")]))); (r.1.store.target, c07Wires r.2.1)),
         (step s (.incomingMsg (some (c07Msg "4" 8 [(36, "8")])))).1.store.target))
       == (20, (8, [("3", 6, [(373, "5"), (372, "4"), (45, "8")])]), 8)

/-!
Clause checklist (properties.jsonl C07 → theorems)
* unless a reset option is configured or a reset is negotiated, both counters and the stored messages are unchanged by
  disconnecting and reconnecting
      : C07_continuity (every cfg with the three options off, every history without 141=Y Logons / new-session ticks:
        epoch constant, no `reset` observation, old messages still stored, counters never decrease), C07_continuity_between
        (same from every reachable state), and exactly: C07_disconnect_keeps_store, C07_connect_acceptor_keeps_store,
        C07_connect_initiator_continues (the initiator's Logon takes the next outbound number).
        The expected inbound number never decreasing is also C01_inorder_exactly_once.
* a Logon carrying 141=Y received: both sides number from 1, the Logon is number 1, the reply echoes the flag
      : C07_logon_reset_received (counters (2,2), reply = outbound 1 with (141,"Y"), only stored message)
* … sent because ResetOnLogon / reset options apply                : C07_logon_reset_sent, C07_logon_reset_sent_iff (when), C07_logon_reset_echo (no second reset)
* … sent because ResetSeqTime applies (CheckResetTime, in the middle of a connection)
      : C07_reset_time_sends_reset_logon (crossing while connected: store reset, Logon outbound 1 with (141,"Y"), counters (2,1),
        sentReset), C07_reset_time_step (the whole event: exactly [reset, save 1 A, wire Logon]), C07_reset_time_crossing (when:
        last check < second rs of now's UTC day ≤ now), C07_reset_time_only_when_crossed (not configured / first check / no
        connection / not crossed: nothing sent, store, counters, queue, sentReset untouched), C07_reset_time_records_clock;
        the answer: initiator — C07_logon_reset_echo (no second reset); acceptor — C07_logon_reset_echo_acceptor,
        C07_own_reset_answer_not_answered (after `fix:` cbdc133; before it — C07_orig_echo_of_own_reset_resets_again — the engine
        answered the peer's answer with another Logon 1 / 141=Y and reset again: C07.echo_of_own_reset_resets_again{role=acceptor})
* EnableNextExpectedMsgSeqNum (tag 789): NO sentence of the property speaks about it; the option is tied to the code by the
  correspondence only, and the theorems are descriptive: what our own Logon carries (C07_next_expected_own: NextTarget+1 read before
  the send), what the acceptor's reply carries (C07_next_expected_reply, = the expected number after acceptance:
  C07_next_expected_accepted), acceptor + peer's 789 higher ⇒ refused (C07_next_expected_ahead_refused, _refused_only_ahead,
  _refusal_logs_out), equal / absent / unreadable / option off / tag 141 ⇒ nothing (C07_next_expected_equal), different + persistence
  ⇒ one gap fill from the peer's 789 to (number on arrival + 1), store untouched (C07_next_expected_differs), different without
  persistence ⇒ `targetTooHigh{789, our outbound number}` (C07_next_expected_differs_nopersist, _nopersist_logon_state).  With the
  option off the Logons carry no 789 and none of this happens (`logonTail_off`, `nxEval_off`).
* the reset flag exists from FIX.4.1                               : C07_no_reset_flag_fix40 (+ `1 ≤ bs` in C07_logon_reset_sent_iff) for the
        Logon of `connect`; remark (#guard): the ResetSeqTime Logon carries 141 whatever the BeginString — the property is silent there
* ResetOnLogout / ResetOnDisconnect return both counters to 1 exactly at logout / disconnect
      : C07_reset_on_logout, C07_reset_on_disconnect_mid, C07_reset_on_disconnect; "exactly": with the options off nothing resets (C07_continuity)
* a SequenceReset can only move the expected number forward; a lower NewSeqNo is rejected and changes nothing
      : C07_seqreset_forward_only (n > T ⇒ T' = n; n = T ⇒ nothing; n < T ⇒ Reject reason 5, T' = T), C07_seqreset_never_backwards (no hypotheses)
* quantifier: every combination of ResetOnLogon/Logout/Disconnect/RefreshOnLogon, role, BeginString, prior counters
      : all theorems are ∀ cfg / ∀ s; RefreshOnLogon, role, BeginString, persistence are unconstrained everywhere
* model boundary: ResetSeqTime is modelled in UTC (`Cfg.resetSeqTime` = second of the day, `Ev.resetTime now` with the clock
  as seconds since a midnight; the TimeZone setting is outside); with `NoResetOptions` (no ResetSeqTime) `resetTime` events
  are allowed in C07_continuity and do nothing; the "new session" tick of CheckSessionTime (`sessionTime _ false`) is the
  model's only other reset and is excluded by `NoResetEv`; store I/O errors are outside.
* ResetOnLogon on the acceptor resets on every Logon (covered by the hypothesis `NoResetOptions` of continuity; its effect is
  the `logonResets` term of C06_gate_logon).
-/
