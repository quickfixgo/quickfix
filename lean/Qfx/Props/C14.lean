/-
  C14 — "Field value types convert canonically and reject everything else".
  Property theorems only; helper lemmas are in Qfx/Lemmas.  Clause checklist at the end.
-/
import Qfx.Lemmas.Values
import Qfx.Lemmas.Timestamp
import Qfx.Lemmas.Decimal
import Qfx.Lemmas.Float
import Qfx.Lemmas.FloatWrite
open Qfx Qfx.Spec

theorem atoi_minus (ds : Bytes) (hne : ds ≠ []) (h : ds.all isDigit = true) :
    atoi (45 :: ds) = .ok (wrap64 (-(digitsVal ds : Int))) := atoi_neg_digits ds hne h

/-- "writing a value and reading it back returns the same value" — every Go `int` (64 bit), including
    the minimum, whose magnitude only fits by wrap-around. -/
theorem C14_int_write_read (v : Int) (h : inInt64 v) : readInt (writeInt v) = .ok v := atoi_fmtInt v h

/-- "exactly the texts of the FIX grammar are accepted" (after the `fix:` that guards the empty slice) -/
theorem C14_int_accept_iff_grammar (b : Bytes) : (readInt b).isOk = IntGrammar b := by
  unfold readInt
  fun_cases atoi b with
  | case1 => rfl
  | case2 cs n hp => rw [show IntGrammar (cMinus :: cs) = allDigitsNE cs from rfl, ← parseUInt_isOk_iff, hp]; rfl
  | case3 cs hno => rw [show IntGrammar (cMinus :: cs) = allDigitsNE cs from rfl, ← parseUInt_isOk_iff]
  | case4 c cs hc =>
    rw [parseUInt_isOk_iff]
    unfold IntGrammar; split
    · rename_i heq; exact absurd (List.cons.inj heq).1 hc
    · rfl

/-- an accepted text of at most 18 digits is read as its mathematical value (no silent wrap) -/
theorem C14_int_value (b : Bytes) (hg : IntGrammar b = true) (hd : numDigits b ≤ 18) :
    readInt b = .ok (intVal b) := by
  -- a string of at most 18 digits is below 10^18 < 2^63: with either sign it is read without wrapping
  have key : ∀ ds : Bytes, allDigitsNE ds = true → numDigits ds ≤ 18 →
      atoi ds = .ok (digitsVal ds : Int) ∧ atoi (45 :: ds) = .ok (-(digitsVal ds : Int)) := by
    intro ds hds hl
    have hne : ds ≠ [] := by intro h; simp [allDigitsNE, h] at hds
    have hall : ds.all isDigit = true := by simp [allDigitsNE] at hds; simpa using hds.2
    have h1 := digitsVal_lt18 ds hall (by rwa [numDigits, List.filter_eq_self.2 (by simpa using hall)] at hl)
    have hin : inInt64 (digitsVal ds : Int) ∧ inInt64 (-(digitsVal ds : Int)) := by unfold inInt64; omega
    rw [atoi_digits' ds hne hall, atoi_minus ds hne hall, wrap64_of_in _ hin.1, wrap64_of_in _ hin.2]
    exact ⟨rfl, rfl⟩
  unfold readInt intVal
  split
  · next ds =>
    have hn : numDigits (45 :: ds) = numDigits ds := by simp [numDigits, isDigit]
    exact (key ds (by simpa [IntGrammar] using hg) (hn ▸ hd)).2
  · next hne =>
    have hg' : allDigitsNE b = true := by
      unfold IntGrammar at hg; split at hg
      · exact (hne _ rfl).elim
      · exact hg
    exact (key b hg' hd).1

/-- `atoi` before the `fix:` that guards the empty slice faults on the empty slice and nowhere else -/
theorem C14_int_original_faults_only_on_empty (b : Bytes) :
    (atoiUnguarded b).isFault = b.isEmpty := by
  cases b with
  | nil => rfl
  | cons c cs => simp only [atoiUnguarded, List.isEmpty_cons]; exact atoi_not_fault _

def IntCanonical (b : Bytes) : Prop := ∃ w, inInt64 w ∧ b = writeInt w

/-- "reading a canonical text and writing it back returns the same text" -/
theorem C14_int_read_write (b : Bytes) (hc : IntCanonical b) (v : Int) (hr : readInt b = .ok v) :
    writeInt v = b := by
  obtain ⟨w, hw, rfl⟩ := hc
  rw [C14_int_write_read w hw] at hr
  cases hr; rfl

theorem C14_bool_write_read (v : Bool) : readBool (writeBool v) = .ok v := by
  cases v <;> simp [readBool, writeBool]

theorem C14_bool_read_write (b : Bytes) (v : Bool) (h : readBool b = .ok v) : writeBool v = b := by
  revert h
  fun_cases readBool b with
  | case1 h1 | case2 _ h1 => rintro ⟨⟩; exact h1.symm
  | case3 => nofun

theorem C14_bool_accept_iff_grammar (b : Bytes) : (readBool b).isOk = BoolGrammar b := by
  fun_cases readBool b with
  | case1 h1 | case2 _ h1 => rw [h1]; rfl
  | case3 h1 h2 => simp [BoolGrammar, h1, h2, Res.isOk]

theorem C14_string_identity (b : Bytes) : readStr (writeStr b) = .ok b ∧ ∀ v, readStr b = .ok v → writeStr v = b := by
  constructor
  · rfl
  · intro v h; cases h; rfl

theorem floatScan_afterDot (cs : Bytes) (d : Bool) :
    floatScan cs d true = (cs.all isDigit && (d || !cs.isEmpty)) := by
  induction cs generalizing d with
  | nil => simp [floatScan]
  | cons c cs ih =>
    simp only [floatScan, cDot]
    by_cases h46 : c = 46
    · subst h46; simp [isDigit]
    · by_cases hd : isDigit c = true
      · simp [h46, hd, ih]
      · simp [h46, hd]

/-- `floatBody` generalised over "digits already seen" -/
def floatBodyG (d : Bool) (b : Bytes) : Bool :=
  let ip := b.takeWhile isDigit
  match b.dropWhile isDigit with
  | [] => d || !ip.isEmpty
  | c :: fp => c == 46 && fp.all isDigit && (d || !ip.isEmpty || !fp.isEmpty)

theorem floatScan_beforeDot (cs : Bytes) (d : Bool) : floatScan cs d false = floatBodyG d cs := by
  induction cs generalizing d with
  | nil => simp [floatScan, floatBodyG]
  | cons c cs ih =>
    simp only [floatScan, cDot]
    by_cases h46 : c = 46
    · subst h46
      have : isDigit 46 = false := by simp [isDigit]
      simp [floatBodyG, this, floatScan_afterDot]
    · by_cases hd : isDigit c = true
      · simp only [h46, hd, if_true, if_false, ih]
        simp [floatBodyG, hd]
      · simp [h46, hd, floatBodyG]

theorem floatBodyG_false (b : Bytes) : floatBodyG false b = floatBody b := by
  unfold floatBodyG floatBody; cases h : List.dropWhile isDigit b <;> simp

/-- `FIXFloat.Read` accepts exactly the FIX float grammar (below the strconv range limit, see DESIGN §5 C14) -/
theorem C14_float_accept_iff_grammar (b : Bytes) : acceptFloat b = FloatGrammar b := by
  unfold acceptFloat FloatGrammar
  cases b with
  | nil => simp [floatBody]
  | cons c cs =>
    by_cases hc : c = 45
    · subst hc; simp [cMinus, floatScan_beforeDot, floatBodyG_false]
    · simp only [cMinus, hc, if_false]
      rw [floatScan_beforeDot, floatBodyG_false]
      split
      · rename_i heq; simp at heq; exact absurd heq.1 hc
      · rfl

/-! ## float (values): binary64 as exact arithmetic (Model/Float.lean), `Nearest` = the declarative reading (Spec/Float.lean) -/
section FloatValues
open Qfx.F64

/-- the model's rounding function returns a nearest double (ties to even) of every non-negative rational -/
theorem C14_float_round_nearest (num den : Nat) (hd : 0 < den) : Nearest num den (roundOrd num den) :=
  roundOrd_nearest num den hd

/-- whatever `Read` returns for a byte string: the string is in the FIX float grammar, and the bits are the correctly
    rounded (nearest, ties to even) finite double of the rational the text denotes — integer part plus decimals, the
    sign of the text kept (also on zero).  For EVERY byte string; in particular `10000000000000000000` is never read
    as a negative number. -/
theorem C14_float_read_nearest (b : Bytes) (bits : Nat) (h : readFloat b = .ok bits) :
    FloatGrammar b = true ∧ IsNearestBits (floatNeg b) (floatNum b) (floatDen b) bits := by
  cases hacc : acceptFloat b with
  | false => rw [readFloat_reject b hacc] at h; cases h
  | true =>
    have hg : FloatGrammar b = true := by rw [← C14_float_accept_iff_grammar]; exact hacc
    refine ⟨hg, ?_⟩
    by_cases hfin : roundOrd (floatNum b) (floatDen b) < infOrd
    · rw [readFloat_fin b hacc hg hfin] at h
      cases h
      unfold IsNearestBits
      rw [ordOf_mkBits _ _ hfin]
      exact ⟨rfl, hfin, roundOrd_nearest _ _ (floatDen_pos b)⟩
    · rw [readFloat_inf b hacc hg hfin] at h; cases h

/-- two bit patterns that are both correct readings of the same signed rational are equal
    (the sign is part of the reading, so +0 and −0 are told apart by the sign of the text) -/
theorem C14_float_nearest_unique (neg : Bool) (num den b1 b2 : Nat) (hd : 0 < den)
    (h1 : IsNearestBits neg num den b1) (h2 : IsNearestBits neg num den b2) : b1 = b2 := by
  obtain ⟨e1, _, n1⟩ := h1
  obtain ⟨e2, _, n2⟩ := h2
  rw [e1, e2, nearest_unique num den _ _ hd n1 n2]

/-- the same on magnitudes (ordinals), exponent range unbounded above -/
theorem C14_float_nearest_unique_ord (num den a b : Nat) (hd : 0 < den)
    (ha : Nearest num den a) (hb : Nearest num den b) : a = b := nearest_unique num den a b hd ha hb

/-- write→read on the model: for ANY text of the grammar (whatever writer produced it), if some bits are a correct
    reading of it in the declarative sense — which is what the monitor checks on every `float write` of the
    implementation — then `Read` returns exactly those bits -/
theorem C14_float_write_read_model (t : Bytes) (bits : Nat) (hg : FloatGrammar t = true)
    (h : IsNearestBits (floatNeg t) (floatNum t) (floatDen t) bits) : readFloat t = .ok bits := by
  obtain ⟨e, hfin, hn⟩ := h
  have hd := floatDen_pos t
  have hu := nearest_unique _ _ _ _ hd (roundOrd_nearest (floatNum t) (floatDen t) hd) hn
  have hacc : acceptFloat t = true := by rw [C14_float_accept_iff_grammar]; exact hg
  rw [← hu] at hfin
  rw [readFloat_fin t hacc hg hfin, hu, ← e]

/-- "texts outside the FIX grammar for the type are rejected": `Read` succeeds exactly on the texts of the float grammar
    whose value is below the midpoint of the largest finite double and 2^1024 (beyond it ParseFloat reports a range
    error); in particular it never faults -/
theorem C14_float_ok_iff (b : Bytes) :
    (readFloat b).isOk = (FloatGrammar b && !Overflows (floatNum b) (floatDen b)) := by
  cases hacc : acceptFloat b with
  | false =>
    have hg : FloatGrammar b = false := by rw [← C14_float_accept_iff_grammar]; exact hacc
    rw [readFloat_reject b hacc, hg]; rfl
  | true =>
    have hg : FloatGrammar b = true := by rw [← C14_float_accept_iff_grammar]; exact hacc
    have hiff := nearest_inf_iff _ _ _ (floatDen_pos b) (roundOrd_nearest (floatNum b) (floatDen b) (floatDen_pos b))
    by_cases hfin : roundOrd (floatNum b) (floatDen b) < infOrd
    · have : Overflows (floatNum b) (floatDen b) = false := by
        cases h : Overflows (floatNum b) (floatDen b) with
        | false => rfl
        | true => exact absurd hfin (hiff.2 h)
      rw [readFloat_fin b hacc hg hfin, hg, this]; rfl
    · rw [readFloat_inf b hacc hg hfin, hg, hiff.1 hfin]; rfl

/-! non-vacuity and landmarks, evaluated (the same inputs are replayed on the implementation by the val family):
    2^53+1 is halfway and goes to the even neighbour; 10^19 ≥ 2^63 stays positive; "-0" keeps its sign;
    the largest finite double and the first text that is out of range; shortest positional output. -/
#guard readFloat (asciiOf "9007199254740993") == .ok 0x4340000000000000
#guard readFloat (asciiOf "9007199254740995") == .ok 0x4340000000000002
#guard readFloat (asciiOf "10000000000000000000") == .ok 0x43e158e460913d00
#guard readFloat (asciiOf "-0") == .ok 0x8000000000000000 && readFloat (asciiOf "0.0") == .ok 0
#guard readFloat (asciiOf "0.1") == .ok 0x3fb999999999999a && readFloat (asciiOf "-1.5") == .ok 0xbff8000000000000
#guard readFloat (asciiOf "1" ++ List.replicate 308 48) == .ok 0x7fe1ccf385ebc8a0
#guard (readFloat (asciiOf "1" ++ List.replicate 309 48)).isOk == false
#guard readFloat (asciiOf "0." ++ List.replicate 323 48 ++ asciiOf "5") == .ok 1
#guard readFloat (asciiOf "0." ++ List.replicate 323 48 ++ asciiOf "2") == .ok 0
#guard decide (IsNearestBits false 9007199254740993 1 0x4340000000000000) && !decide (IsNearestBits false 9007199254740993 1 0x4340000000000001)
#guard !decide (IsNearestBits false 10000000000000000000 1 0xc3dd83c94fb6d2ac)   -- what an int64 wrap-around would give
#guard decide (IsNearestBits true 0 1 0x8000000000000000) && !decide (IsNearestBits true 0 1 0)
#guard Overflows (10 ^ 309) 1 && !Overflows (10 ^ 308) 1
#guard writeFloat 0x3fb999999999999a == asciiOf "0.1" && writeFloat 0x8000000000000000 == asciiOf "-0"
#guard writeFloat 0x444b1ae4d6e2ef50 == asciiOf "1000000000000000000000" && writeFloat 0x4340000000000001 == asciiOf "9007199254740994"
#guard writeFloat 1 == asciiOf "0." ++ List.replicate 323 48 ++ asciiOf "5"
#guard monFloatRead (asciiOf "10000000000000000000") ["ok", "c3dd83c94fb6d2ac"] == ["float_value_wrong_sign"]
#guard monFloatRead (asciiOf "9007199254740993") ["ok", "4340000000000001"] == ["float_value_not_nearest{whole}"]
#guard monFloatWrite 0x3fb999999999999a [toHex (asciiOf "0.10000000000000001")] == ["float_write_not_shortest"]
#guard monFloatWrite 0x3fb999999999999a [toHex (asciiOf "0.1")] == [] && monFloatWrite 0x3fb999999999999a [toHex (asciiOf "0.10")] == ["float_write_not_canonical"]
#guard monFloatWrite 0x3fb999999999999a [toHex (asciiOf "0.100000")] != [] && monFloatWrite 0x3ff0000000000000 [toHex (asciiOf "1e+00")] == ["float_write_nongrammar"]

/-- "writing a value and reading the text back yields the same value", on the model, for EVERY finite 64-bit pattern
    (both signs, zeros, subnormals, up to the largest finite double): the shortest-digits positional text that the
    model's writer produces is read back by the model's reader as exactly the same bits -/
theorem C14_float_write_read (bits : Nat) (h64 : bits < 18446744073709551616) (hfin : ordOf bits < infOrd) :
    readFloat (writeFloat bits) = .ok bits := writeFloat_read bits h64 hfin

/-- the written text is in the FIX float grammar (no exponent, no "+", no Inf/NaN) and, declaratively, denotes a rational
    whose nearest double is the value written -/
theorem C14_float_write_grammar (bits : Nat) (h64 : bits < 18446744073709551616) (hfin : ordOf bits < infOrd) :
    FloatGrammar (writeFloat bits) = true ∧
    IsNearestBits (floatNeg (writeFloat bits)) (floatNum (writeFloat bits)) (floatDen (writeFloat bits)) bits :=
  C14_float_read_nearest _ _ (writeFloat_read bits h64 hfin)

def FloatCanonical (b : Bytes) : Prop := ∃ bits, bits < 18446744073709551616 ∧ ordOf bits < infOrd ∧ b = writeFloat bits

/-- "reading a canonical text and writing it back yields the same text" -/
theorem C14_float_read_write (b : Bytes) (hc : FloatCanonical b) (v : Nat) (hr : readFloat b = .ok v) : writeFloat v = b := by
  obtain ⟨bits, h64, hfin, rfl⟩ := hc
  rw [writeFloat_read bits h64 hfin] at hr
  cases hr; rfl

/-! non-vacuity of `FloatCanonical` (evaluated: `Nat.log2` does not reduce in the kernel) -/
#guard writeFloat 0 == asciiOf "0" && writeFloat 0x4059000000000000 == asciiOf "100" && writeFloat 0xbfe0000000000000 == asciiOf "-0.5"
#guard [0, 1, 0x8000000000000000, 0x3fb999999999999a, 0x7fefffffffffffff, 0x0010000000000000, 0xc340000000000001].all
  fun bits => readFloat (writeFloat bits) == .ok bits

/-- not proved (full statement): the model's writer emits the SHORTEST text that reads back — no text of the grammar with
    fewer significant digits has the value as its nearest double — and of those the closest.  `tryK`/`shortestFrom`
    search candidates in increasing length, so this needs that the two candidates per length are the only possible
    ones (convexity of the set of rationals reading back to one double) and that 17 digits always suffice.  On the
    implementation the clauses float_write_not_shortest / float_write_not_closest check it per generated value. -/
def sigDigits (t : Bytes) : Nat := (fmtNat (stripT t.length (floatNum t) 0).1).length

def C14_float_write_shortest_full : Prop :=
  ∀ bits : Nat, bits < 18446744073709551616 → ordOf bits < infOrd →
    ∀ t : Bytes, FloatGrammar t = true → IsNearestBits (floatNeg t) (floatNum t) (floatDen t) bits →
      sigDigits (writeFloat bits) ≤ sigDigits t

#guard sigDigits (asciiOf "0.10000000000000001") == 17 && sigDigits (asciiOf "1200.0") == 2 && sigDigits (writeFloat 0x3fb999999999999a) == 1

end FloatValues

theorem daysIn_le (mo y : Nat) : daysIn mo y ≤ 31 := by
  fun_cases daysIn mo y <;> omega

/-- "writing a value and reading it back returns the same value (timestamps truncated to the written precision)",
    for every calendar-valid instant of years 0–9999 and each of the four precisions -/
theorem C14_ts_write_read (p : Prec) (t : Ts) (hv : t.valid = true) :
    readTs (writeTs p t) = .ok (t.trunc p, p) := by
  simp only [Ts.valid, Bool.and_eq_true, decide_eq_true_eq] at hv
  obtain ⟨⟨⟨⟨⟨⟨⟨⟨hy, hmo1⟩, hmo2⟩, hd1⟩, hd2⟩, hh⟩, hmi⟩, hs⟩, hns⟩ := hv
  have hd3 := daysIn_le t.mo t.y
  let c : TsCut := ⟨pad 4 t.y, pad 2 t.mo, pad 2 t.d, 45, pad 2 t.h, 58, pad 2 t.mi, 58, pad 2 t.s,
    if p.fracDigits = 0 then [] else [46] ++ pad p.fracDigits (t.ns / p.unit),
    digitsW_length _ _, digitsW_length _ _, digitsW_length _ _, digitsW_length _ _, digitsW_length _ _, digitsW_length _ _⟩
  have hc : writeTs p t = c.text := by
    simp only [writeTs, TsCut.text, c, List.append_assoc, List.cons_append, List.nil_append]
  rw [readTs, hc]
  refine (c.readTsWith_text _ _ p).2 ⟨?_, fixedNum_pad (by omega), fixedNum_pad (by omega), fixedNum_pad (by omega),
    fixedNum_pad (by omega), fixedNum_pad (by omega), fixedNum_pad (by omega), rfl, rfl, rfl, ?_, hmo1, hmo2, hh, hmi, hs, hd1, hd2⟩
  · rw [c.length_text]; cases p <;> simp [c, Prec.len, Prec.fracDigits, pad, digitsW_length]
  · -- the fraction holds `t.ns / p.unit` in `p.fracDigits` digits; with no fraction the whole of `t.ns` is dropped
    cases p
    · show t.ns / 1000000000 * 1000000000 = 0
      omega
    all_goals
      rw [if_neg (by decide)]
      exact frac_pad _ rfl t.ns (by simp only [Prec.unit, Prec.fracDigits]; omega)

/-- non-vacuity: a concrete leap-day instant meets the hypothesis -/
example : ({ y := 2024, mo := 2, d := 29, h := 23, mi := 59, s := 59, ns := 123456789 } : Ts).valid = true := by decide

/-- "reading a canonical text and writing it back returns the same text": every accepted timestamp text is canonical —
    writing the value read, at the precision read, reproduces the text byte for byte (all four precisions) -/
theorem C14_ts_read_write (b : Bytes) (t : Ts) (p : Prec) (hr : readTs b = .ok (t, p)) : writeTs p t = b :=
  ts_read_write b t p hr

/-- before the `fix:` f9667b3 `Read` accepted a text outside the grammar (D11): witness, replayed by the val family -/
theorem C14_ts_original_accepts_comma :
    (readTsOrig (asciiOf "20060102-15:04:05,000")).isOk = true ∧ TsGrammar 60 (asciiOf "20060102-15:04:05,000") = false := by
  decide

/-- acceptance = the strict FIX UTCTimestamp grammar (seconds 00–59), all four precisions, every byte string -/
theorem C14_ts_accept_iff_grammar (b : Bytes) : (readTs b).isOk = TsGrammar 59 b :=
  ts_accept_iff_grammar b

/-! ### decimals (fix_decimal.go / fix_udecimal.go; values ± mag / 10^scale, no exponent notation) -/
section Decimals
open Qfx.Dec

/-- write→read: what `FIXDecimal.Write` produces at scale `s` reads back as the value rounded to `s` decimals
    (the sign of a zero is dropped: `big.Int` has no negative zero) -/
theorem C14_dec_write_read (d : Dec) (s : Nat) : readDec (writeDec d s) = .ok (normDec (roundDec d s)) :=
  render_read _

/-- the rounding `Write` applies is round-half-away-from-zero to exactly `s` decimals, for every value and scale -/
theorem C14_dec_write_rounds_half_away (d : Dec) (s : Nat) : IsRoundHalfAway d (roundDec d s) s := roundDec_spec d s

/-- a value that already has `s` decimals is written and read back unchanged (up to the sign of zero) -/
theorem C14_dec_write_read_exact (d : Dec) : readDec (writeDec d d.scale) = .ok (normDec d) := by
  rw [C14_dec_write_read, roundDec_self]

/-- unsigned decimals: `FIXUDecimal.Write` truncates toward zero to exactly `s` decimals and the text reads back as that -/
theorem C14_udec_write_read (d : Dec) (s : Nat) :
    readDec (writeUDec d s) = .ok (normDec (truncDec d s)) ∧ IsTruncTowardZero d (truncDec d s) s :=
  ⟨render_read _, truncDec_spec d s⟩

/-- read→write: a canonical text (one that `Write` can produce) is reproduced byte for byte by reading it and writing
    the result at its own scale -/
theorem C14_dec_read_write (d d' : Dec) (h : readDec (render d) = .ok d') : writeDec d' d'.scale = render d := by
  rw [render_read] at h
  injection h with h; subst h
  unfold writeDec; rw [roundDec_self, render_normDec]

#guard (readDec (asciiOf "-12.50")).isOk && writeDec { neg := true, mag := 12345, scale := 3 } 2 == asciiOf "-12.35"
#guard writeDec { neg := false, mag := 5, scale := 3 } 2 == asciiOf "0.01" && writeUDec { neg := false, mag := 19, scale := 1 } 0 == asciiOf "1"
end Decimals

/-!
Clause checklist (properties.jsonl C14 → theorems)
* write→read, int:        C14_int_write_read            * read→write, int:  C14_int_read_write
* int grammar exactly:    C14_int_accept_iff_grammar, C14_int_value (no wrong value up to 18 digits)
* original code's panic:  C14_int_original_faults_only_on_empty (D1)
* boolean:                C14_bool_write_read, C14_bool_read_write, C14_bool_accept_iff_grammar
* float grammar exactly:  C14_float_accept_iff_grammar, C14_float_ok_iff (grammar ∧ in range ⇔ accepted; never a fault)
* float value read:       C14_float_read_nearest (every accepted text is read as the correctly rounded double of its rational, sign kept),
                          C14_float_round_nearest, C14_float_nearest_unique(_ord) (the declarative reading determines the bits)
* float write→read:       C14_float_write_read (model: every finite bit pattern; all 2^64 − 2^53 of them), C14_float_write_grammar,
                          C14_float_write_read_model (ANY text whose declarative reading is `bits` is read as `bits`; the monitor clause
                          float_write_read establishes the premise for the implementation's writer on every generated value)
* float read→write:       C14_float_read_write (canonical = what Write produces); that strconv's digits are the model writer's digits
                          (shortest, then closest, then even; %f-canonical form): monitor clauses float_write_not_shortest /
                          _not_closest / _not_canonical + correspondence; C14_float_write_shortest_full (def, not proved)
* timestamp write→read:   C14_ts_write_read; exactly the grammar: C14_ts_accept_iff_grammar; read→write: C14_ts_read_write
* string/bytes:           C14_string_identity
* decimal:                C14_dec_write_read, C14_dec_write_rounds_half_away, C14_dec_write_read_exact, C14_udec_write_read,
                          C14_dec_read_write (no exponent notation; udecimal's 19-digit limit: correspondence only)
-/
