/-
  C06 — "Messages failing session-level checks never reach the application".
  Property theorems only (helpers: Qfx/Lemmas/SessC06.lean, SessVerify.lean, SessPool.lean, SessC06Gate.lean, SessValid.lean;
  predicates: Qfx/Spec/SessionTypedC06.lean; the string-level monitor run on implementation traces: Qfx/Spec/Session.lean `c06`).

  properties.jsonl: "An inbound application message reaches the application, an administrative message other than Logon
  reaches the administrative callback, and a Logon establishes the session, only if the message's BeginString equals the
  session's, its SenderCompID/TargetCompID mirror the session identity, its SendingTime lies within the configured latency
  window (when checking is enabled and no replay is in progress) and it passes message validation. In a logged-on session a
  message carrying a wrong BeginString, wrong CompIDs or an out-of-window SendingTime gets the reaction FIX mandates (Logout;
  Reject with reason 9 then Logout; Reject with reason 10 then Logout, respectively) and, like a too-low number without
  PossDup (Logout), does not advance the expected inbound number, whereas a message in which such a field is missing, empty
  or malformed is answered with a plain Reject naming the field. Rejects quote the offending MsgSeqNum and travel back with
  the sender's routing fields reversed."

  The gate, as facts about the fields of the message `m` (Spec/SessionTypedC06.lean): `GateMsg cfg m` = `BeginOK` ∧ `CompOK` ∧ `Valid`
  (tag 8 is the session's BeginString; 49 / 56 mirror the session identity and are non-empty; the configured validator — the five
  settings and the data dictionaries, if any: the validator model of C15 run on the parsed message `toPMsg` — has no objection);
  `TimeGate s m` = skipLatency ∨ replay in progress (`curResend s`) ∨ `TimeOK m` (tag 52 is a timestamp strictly within ±120 s).
-/
import Qfx.Lemmas.SessC06Gate
import Qfx.Spec.Session
import Qfx.Lemmas.SessValid
open Qfx Qfx.Sess Qfx.SessSpec

/-- **gate, delivery site.**  Any state, any message, any combination of requested sequence checks: if the verification
    pipeline (with the callbacks on) emitted anything, then BeginString, CompIDs, validation (`GateMsg`), the SendingTime
    clause (`TimeGate`) and the requested sequence checks (`SeqGate`) all hold, and what was emitted is exactly the one
    callback observation of `m` (FromAdmin for administrative kinds, FromApp otherwise). -/
theorem C06_gate_verify (s : Sess) (m : InMsg) (th tl : Bool) (h : (verifySelect s m th tl true).1.log ≠ s.log) :
    GateMsg s.cfg m ∧ TimeGate s m ∧ SeqGate s m th tl
      ∧ verifySelect s m th tl true = (s.emit (cbObs s m), callbackVerdict m) := by
  rcases verifySelect_cases s m th tl true with h1 | ⟨_, hg, ht, hs, he⟩
  · rw [h1] at h; exact absurd rfl h
  · exact ⟨hg, ht, hs, he⟩

/-- contrapositive form: a message failing any part of the gate leaves the session untouched by the pipeline (no callback,
    no observation at all); only the reject class is reported -/
theorem C06_gate_verify_blocked (s : Sess) (m : InMsg) (th tl : Bool)
    (h : ¬ (GateMsg s.cfg m ∧ TimeGate s m ∧ SeqGate s m th tl)) : (verifySelect s m th tl true).1 = s := by
  rcases verifySelect_cases s m th tl true with h1 | ⟨_, hg, ht, hs, _⟩
  · exact h1
  · exact absurd ⟨hg, ht, hs⟩ h

/-- the gate is exactly the condition (so the theorem above is not vacuous and nothing else is demanded) -/
theorem C06_gate_verify_passes (s : Sess) (m : InMsg) (th tl : Bool) (hg : GateMsg s.cfg m) (ht : TimeGate s m)
    (hs : SeqGate s m th tl) : verifySelect s m th tl true = (s.emit (cbObs s m), callbackVerdict m) := by
  rw [verifySelect_complete s m th tl true hg.begin hg.comp ht hs]
  exact verifyAppImpl_pass s m hg.valid

/-- **gate, Logon site.**  `handleLogon` notifies OnLogon only if the Logon passes validation, the administrative callback
    accepted it, BeginString / CompIDs / SendingTime hold and its MsgSeqNum is not below the expected number (read after
    the reset the Logon itself may cause). -/
theorem C06_gate_logon (s : Sess) (m : InMsg) (h0 : Obs.onLogon ∉ s.log) (h : Obs.onLogon ∈ (handleLogon s m).1.log) :
    GateMsg s.cfg m ∧ TimeGate s m ∧ callbackVerdict m = none ∧
      ∃ n, getInt m 34 = .val n ∧ (if logonResets s m then 1 else s.store.target) ≤ n :=
  gate_logon s m h0 h

/-- **gate, every history (validation included).**  Every configuration — every validator setting, with or without data
    dictionaries —, initial counters and finite event history: each FromApp, FromAdmin and OnLogon observation of the whole
    trace is about some inbound message of that history (same MsgSeqNum text, same kind) that has the session's BeginString,
    mirrored non-empty CompIDs and that the configured validator accepts (`GateMsg`, whose third component is
    `Valid cfg m`); a FromAdmin for a Logon is only guaranteed validation (it precedes the session-level checks, as
    properties.jsonl exempts).  The SendingTime clause
    depends on the state at the moment of delivery (replay in progress), which observations do not record: it is proved for
    every state at the two delivery sites (`C06_gate_verify`, `C06_gate_logon`), which are the only places that emit these
    observations (this theorem's proof goes through every model function). -/
theorem C06_gate_all_histories (cfg : Cfg) (s0 t0 : Int) (evs : List Ev) :
    ∀ o ∈ traceOf (initSess cfg s0 t0) evs, gateObs cfg (· ∈ msgsOf evs) o :=
  gate_all_histories cfg s0 t0 evs

/-- corollary in the words of the property: if no inbound message of the history passes the message-level gate, nothing
    ever reaches the application, no non-Logon administrative message reaches FromAdmin and no session is established -/
theorem C06_nothing_without_gate (cfg : Cfg) (s0 t0 : Int) (evs : List Ev) (h : ∀ m ∈ msgsOf evs, ¬ GateMsg cfg m) :
    ∀ o ∈ traceOf (initSess cfg s0 t0) evs,
      (∀ q t, o ≠ .fromApp q t) ∧ (∀ k q, o = .fromAdmin k q → k = "A") ∧ o ≠ .onLogon := by
  intro o ho
  have hq := C06_gate_all_histories cfg s0 t0 evs o ho
  refine ⟨?_, ?_, ?_⟩
  · rintro q t rfl
    obtain ⟨m, hm, _, _, hg⟩ := hq
    exact h m hm hg
  · rintro k q rfl
    obtain ⟨m, hm, _, _, _, hg⟩ := hq
    by_cases hk : k = "A"
    · exact hk
    · exact absurd (hg hk) (h m hm)
  · rintro rfl
    obtain ⟨m, hm, _, hg, _⟩ := hq
    exact h m hm hg

/-- **SendingTime, every history** (contrapositive form; observations do not record whether a replay was in progress, so
    the clause is stated for histories in which replay cannot start).  Latency checking enabled and every inbound message
    of the history has a SendingTime that is missing, unreadable or outside the ±120 s window: then in every configuration,
    from any initial counters and for every event history nothing reaches the application, no administrative message other
    than a Logon reaches FromAdmin, and no Logon ever establishes the session — whatever the messages' other fields are. -/
theorem C06_time_gate_all_histories (cfg : Cfg) (s0 t0 : Int) (evs : List Ev) (hl : cfg.skipLatency = false)
    (h : ∀ m ∈ msgsOf evs, ¬ TimeOK m) :
    ∀ o ∈ traceOf (initSess cfg s0 t0) evs,
      (∀ q t, o ≠ .fromApp q t) ∧ (∀ k q, o = .fromAdmin k q → k = "A") ∧ o ≠ .onLogon := by
  intro o ho
  have hc := cold_histories cfg s0 t0 evs hl h o ho
  refine ⟨?_, ?_, ?_⟩
  · rintro q t rfl; exact hc
  · rintro k q rfl; exact hc
  · rintro rfl; exact hc


/-! ## the validation gate (the configured validator: five settings, data dictionaries)

`validate cfg m` is the verdict of `s.Validator.Validate(msg)`: `none`, or the validator's `(reason, RefTagID)` as a plain
session-level reject.  `verifyMsgAgainstAppImpl` runs it before `FromAdmin` / `FromApp`, on every path that ends in a
callback (`verifySelect … true` for every kind but Logon, `handleLogon` for a Logon). -/

/-- **gate, validation, delivery site.**  A message the validator rejects leaves the session untouched by the
    verification pipeline, whatever the other checks say: no callback, no observation at all. -/
theorem C06_gate_validation_site (s : Sess) (m : InMsg) (th tl : Bool) (h : validate s.cfg m ≠ none) :
    (verifySelect s m th tl true).1 = s :=
  C06_gate_verify_blocked s m th tl (fun hg => h hg.1.valid)

/-- and when the checks in front of it pass, the verdict handed to `processReject` is the validator's own -/
theorem C06_gate_validation_verdict (s : Sess) (m : InMsg) (th tl : Bool) (r : Rej) (hb : BeginOK s.cfg m) (hc : CompOK s.cfg m)
    (ht : TimeGate s m) (hs : SeqGate s m th tl) (hv : validate s.cfg m = some r) :
    verifySelect s m th tl true = (s, some r) := by
  rw [verifySelect_complete s m th tl true hb hc ht hs]
  simp only [if_true]
  unfold verifyAppImpl
  rw [hv]

/-- **gate, validation, Logon site.**  A Logon the validator rejects is not shown to FromAdmin and establishes nothing:
    `handleLogon` reports the validator's verdict and the session is untouched (but for the store refresh of an acceptor
    with RefreshOnLogon, which precedes validation in the code). -/
theorem C06_gate_validation_logon (s : Sess) (m : InMsg) (r : Rej) (hv : validate s.cfg m = some r) :
    ((handleLogon s m).1 = s ∨ (handleLogon s m).1 = s.emit .refresh)
    ∧ ((handleLogon s m).2 = some (.rej r) ∨ (handleLogon s m).2 = some .other) := by
  rw [handleLogon_eq, hv]
  split
  · exact ⟨Or.inl rfl, Or.inr rfl⟩
  · refine ⟨?_, Or.inl rfl⟩
    show logonS1 s = s ∨ logonS1 s = s.emit .refresh
    unfold logonS1
    split
    · exact Or.inr rfl
    · exact Or.inl rfl

/-- **gate, validation, every history.**  Every configuration (validator settings and dictionaries included), initial
    counters and finite event history: each FromApp, each FromAdmin — a Logon's too — and each OnLogon of the whole trace is
    about an inbound message of that history (same MsgSeqNum text, same kind) on which the validator has no objection.
    Contrapositive: a message on which the validator model rejects yields no callback observation for it. -/
theorem C06_gate_validation (cfg : Cfg) (s0 t0 : Int) (evs : List Ev) :
    ∀ o ∈ traceOf (initSess cfg s0 t0) evs,
      (∀ q t, o = .fromApp q t → ∃ m ∈ msgsOf evs, seqText m = q ∧ isAdminKind (kindOf m) = false ∧ validate cfg m = none) ∧
      (∀ k q, o = .fromAdmin k q → ∃ m ∈ msgsOf evs, seqText m = q ∧ kindOf m = k ∧ validate cfg m = none) ∧
      (o = .onLogon → ∃ m ∈ msgsOf evs, kindOf m = "A" ∧ validate cfg m = none) := by
  intro o ho
  have hq := C06_gate_all_histories cfg s0 t0 evs o ho
  refine ⟨?_, ?_, ?_⟩
  · rintro q t rfl
    obtain ⟨m, hm, h1, h2, hg⟩ := hq
    exact ⟨m, hm, h1, h2, hg.valid⟩
  · rintro k q rfl
    obtain ⟨m, hm, h1, h2, hv, _⟩ := hq
    exact ⟨m, hm, h1, h2, hv⟩
  · rintro rfl
    obtain ⟨m, hm, h1, hg, _⟩ := hq
    exact ⟨m, hm, h1, hg.valid⟩

/-- in the words of the property: when the validator rejects every inbound message of a history, nothing reaches the
    application or the administrative callback (not even a Logon) and no session is established, ever -/
theorem C06_nothing_without_validation (cfg : Cfg) (s0 t0 : Int) (evs : List Ev) (h : ∀ m ∈ msgsOf evs, validate cfg m ≠ none) :
    ∀ o ∈ traceOf (initSess cfg s0 t0) evs, isCb o = false := by
  intro o ho
  obtain ⟨h1, h2, h3⟩ := C06_gate_validation cfg s0 t0 evs o ho
  cases o with
  | fromApp q t => obtain ⟨m, hm, _, _, hv⟩ := h1 q t rfl; exact absurd hv (h m hm)
  | fromAdmin k q => obtain ⟨m, hm, _, _, hv⟩ := h2 k q rfl; exact absurd hv (h m hm)
  | onLogon => obtain ⟨m, hm, _, hv⟩ := h3 rfl; exact absurd hv (h m hm)
  | _ => rfl

/-- **reaction to a validator reject.**  Every state, every kind but Logon (a SequenceReset: readable GapFillFlag): a message
    whose BeginString, CompIDs and SendingTime are in order, carrying the expected MsgSeqNum, on which the validator reports
    `(reason, refTag)` is answered with a session-level Reject carrying exactly that reason and tag, and its sequence number
    is consumed (the validator's reasons are 0 1 2 4 5 6 11 13 14 16, never the two that end the session with a Logout:
    `validate_reason_ok`, proved through every stage of the validator model). -/
theorem C06_reaction_validation (s : Sess) (m : InMsg) (reason : Nat) (refTag : Option Nat) (hk : kindOf m ≠ "A")
    (h4 : kindOf m = "4" → getBool m 123 ≠ .garbled) (hb : BeginOK s.cfg m) (hc : CompOK s.cfg m) (ht : TimeGate s m)
    (hn : getInt m 34 = .val s.store.target) (hv : validate s.cfg m = some (.plain reason refTag false)) :
    inSessionFixMsgIn s m = (incrTarget (doReject s m reason refTag false), .inSession) := by
  have hr := validate_reason_ok hv
  have hs : SeqGate s m (seqChecked m) (seqChecked m) := ⟨fun _ => ⟨_, hn, Int.le_refl _⟩, fun _ => ⟨_, hn, Int.le_refl _⟩⟩
  rw [inSessionFixMsgIn_reject s s m _ hk h4 (C06_gate_validation_verdict s m _ _ _ hb hc ht hs hv)]
  unfold processReject
  have h910 : (reason == 9 || reason == 10) = false := by simp [hr.1, hr.2]
  simp only [h910, Bool.false_eq_true, if_false]

/-- what the validator objects to is always a plain session-level reject (never a business reject, never a sequence or
    Logon verdict): the hypothesis `hv` of `C06_reaction_validation` covers every rejection -/
theorem C06_validation_verdict_shape (cfg : Cfg) (m : InMsg) (r : Rej) (h : validate cfg m = some r) :
    ∃ reason refTag, r = .plain reason refTag false :=
  validate_plain h

/-- without a data dictionary the validator is `validateFieldContent` alone — under ITS two settings -/
theorem C06_validation_default (cfg : Cfg) (m : InMsg) (h : cfg.validator.app = none) :
    validate cfg m = rejOfV (
      if !(toPMsg cfg.validator.tr m).hdr.contains 35 then Validate.rej 1 35
      else Validate.validateFieldContent (toPMsg cfg.validator.tr m) cfg.validator.settings.checkHaveValues cfg.validator.settings.checkOrder) :=
  validate_noDict cfg m h

/-- with a data dictionary it is the validator of C15 on the parsed message, under all five settings -/
theorem C06_validation_dictionary (cfg : Cfg) (m : InMsg) (app : Validate.VDict) (h : cfg.validator.app = some app) :
    validate cfg m = rejOfV (Validate.validate app cfg.validator.tr cfg.validator.settings (toPMsg cfg.validator.tr m)) := by
  unfold validate runValidator
  rw [h]

/-! ## the reactions (decision table, one theorem per row)

`inSessionFixMsgIn s m` is the handler of every logged-on state (InSession, Pending; Resend and Logout wrap it).  The
identity / time rows hold for every kind but Logon (for a SequenceReset: with a readable GapFillFlag), in EVERY state `s`;
the sequence rows hold for the kinds whose MsgSeqNum is checked for "too low" (`SeqChecked`: everything but Logon, Logout,
ResendRequest and a SequenceReset-Reset).  Each row gives the exact result; `C06_obs_*` below turn the result into the
observations of a live session (logged on, connected, nothing queued) and the effect on the expected number. -/

/-- wrong BeginString ⇒ Logout only -/
theorem C06_reaction_beginstring (s : Sess) (m : InMsg) (b : String) (hk : kindOf m ≠ "A")
    (h4 : kindOf m = "4" → getBool m 123 ≠ .garbled) (h8 : m.f.get? 8 = some b) (hb : b ≠ bsName s.cfg.bs) :
    inSessionFixMsgIn s m = (initiateLogout s, .logout) :=
  reaction_early s m .badBeginString hk h4 (earlyCheck_begin (by simp [checkBeginString, h8, hb]))

/-- CompID mismatch (both present and non-empty) ⇒ Reject with reason 9, then Logout -/
theorem C06_reaction_compid (s : Sess) (m : InMsg) (a b : String) (hk : kindOf m ≠ "A")
    (h4 : kindOf m = "4" → getBool m 123 ≠ .garbled) (hb : BeginOK s.cfg m)
    (h49 : m.f.get? 49 = some a) (h56 : m.f.get? 56 = some b) (ha : a.isEmpty = false) (hbb : b.isEmpty = false)
    (hne : a ≠ s.cfg.target ∨ b ≠ s.cfg.sender) :
    inSessionFixMsgIn s m = (initiateLogout (doReject s m 9 none false), .logout) :=
  reaction_early s m (.plain 9 none false) hk h4 (earlyCheck_comp hb (by
    have : (s.cfg.sender != b || s.cfg.target != a) = true := by rcases hne with h | h <;> simp [Ne.symm h]
    simp [checkCompID, h49, h56, ha, hbb, this]))

/-- SendingTime out of the ±120 s window (checking enabled, no replay in progress) ⇒ Reject with reason 10, then Logout -/
theorem C06_reaction_sendingtime (s : Sess) (m : InMsg) (d : Int) (hk : kindOf m ≠ "A")
    (h4 : kindOf m = "4" → getBool m 123 ≠ .garbled) (hb : BeginOK s.cfg m) (hc : CompOK s.cfg m)
    (hl : s.cfg.skipLatency = false) (hr : curResend s = none) (h52 : getTime m 52 = .val d) (hd : d ≤ -120 ∨ 120 ≤ d) :
    inSessionFixMsgIn s m = (initiateLogout (doReject s m 10 none false), .logout) :=
  reaction_early s m (.plain 10 none false) hk h4 (earlyCheck_time hb hc hr (by
    have : (decide (d ≤ -120) || decide (d ≥ 120)) = true := by simpa using hd
    simp [checkSendingTime, hl, h52, this]))

/-- MsgSeqNum below the expected number without PossDupFlag=Y (everything else in order) ⇒ Logout only -/
theorem C06_reaction_toolow (s : Sess) (m : InMsg) (n : Int) (hk : SeqChecked m) (hb : BeginOK s.cfg m) (hc : CompOK s.cfg m)
    (ht : TimeGate s m) (h34 : getInt m 34 = .val n) (hn : n < s.store.target)
    (h43 : getBool m 43 = .missing ∨ getBool m 43 = .val false) :
    inSessionFixMsgIn s m = (initiateLogout s, .logout) :=
  (reaction_low s m (.tooLow n s.store.target) hk hb hc ht (by simp [checkTooLow, h34, hn])).trans
    (processReject_tooLow_noPossDup s m _ _ h43)

/-- SenderCompID (49) missing ⇒ plain Reject, reason 1, RefTagID 49; the message's number is consumed -/
theorem C06_reaction_49_missing (s : Sess) (m : InMsg) (hk : kindOf m ≠ "A") (h4 : kindOf m = "4" → getBool m 123 ≠ .garbled)
    (hb : BeginOK s.cfg m) (h49 : m.f.get? 49 = none) :
    inSessionFixMsgIn s m = (incrTarget (doReject s m 1 (some 49) false), .inSession) :=
  reaction_early s m (reqMissing 49) hk h4 (earlyCheck_comp hb (by simp [checkCompID, h49]))

/-- TargetCompID (56) missing ⇒ plain Reject, reason 1, RefTagID 56 -/
theorem C06_reaction_56_missing (s : Sess) (m : InMsg) (a : String) (hk : kindOf m ≠ "A")
    (h4 : kindOf m = "4" → getBool m 123 ≠ .garbled) (hb : BeginOK s.cfg m) (h49 : m.f.get? 49 = some a) (h56 : m.f.get? 56 = none) :
    inSessionFixMsgIn s m = (incrTarget (doReject s m 1 (some 56) false), .inSession) :=
  reaction_early s m (reqMissing 56) hk h4 (earlyCheck_comp hb (by simp [checkCompID, h49, h56]))

/-- SenderCompID (49) empty ⇒ plain Reject, reason 4 (tag specified without a value), RefTagID 49 -/
theorem C06_reaction_49_empty (s : Sess) (m : InMsg) (b : String) (hk : kindOf m ≠ "A")
    (h4 : kindOf m = "4" → getBool m 123 ≠ .garbled) (hb : BeginOK s.cfg m) (h49 : m.f.get? 49 = some "")
    (h56 : m.f.get? 56 = some b) (hbb : b.isEmpty = false) :
    inSessionFixMsgIn s m = (incrTarget (doReject s m 4 (some 49) false), .inSession) :=
  reaction_early s m (noValue 49) hk h4 (earlyCheck_comp hb (by simp [checkCompID, h49, h56, hbb]))

/-- TargetCompID (56) empty ⇒ plain Reject, reason 4, RefTagID 56 -/
theorem C06_reaction_56_empty (s : Sess) (m : InMsg) (a : String) (hk : kindOf m ≠ "A")
    (h4 : kindOf m = "4" → getBool m 123 ≠ .garbled) (hb : BeginOK s.cfg m) (h49 : m.f.get? 49 = some a) (h56 : m.f.get? 56 = some "") :
    inSessionFixMsgIn s m = (incrTarget (doReject s m 4 (some 56) false), .inSession) :=
  reaction_early s m (noValue 56) hk h4 (earlyCheck_comp hb (by simp [checkCompID, h49, h56]))

/-- SendingTime (52) missing ⇒ plain Reject, reason 1, RefTagID 52 -/
theorem C06_reaction_52_missing (s : Sess) (m : InMsg) (hk : kindOf m ≠ "A") (h4 : kindOf m = "4" → getBool m 123 ≠ .garbled)
    (hb : BeginOK s.cfg m) (hc : CompOK s.cfg m) (hl : s.cfg.skipLatency = false) (hr : curResend s = none)
    (h52 : getTime m 52 = .missing) :
    inSessionFixMsgIn s m = (incrTarget (doReject s m 1 (some 52) false), .inSession) :=
  reaction_early s m (reqMissing 52) hk h4 (earlyCheck_time hb hc hr (by simp [checkSendingTime, hl, h52]))

/-- SendingTime (52) not a timestamp (this includes an empty value) ⇒ plain Reject, reason 6, RefTagID 52 -/
theorem C06_reaction_52_garbled (s : Sess) (m : InMsg) (hk : kindOf m ≠ "A") (h4 : kindOf m = "4" → getBool m 123 ≠ .garbled)
    (hb : BeginOK s.cfg m) (hc : CompOK s.cfg m) (hl : s.cfg.skipLatency = false) (hr : curResend s = none)
    (h52 : getTime m 52 = .garbled) :
    inSessionFixMsgIn s m = (incrTarget (doReject s m 6 (some 52) false), .inSession) :=
  reaction_early s m (badFormat 52) hk h4 (earlyCheck_time hb hc hr (by simp [checkSendingTime, hl, h52]))

/-- MsgSeqNum (34) missing ⇒ plain Reject, reason 1, RefTagID 34 -/
theorem C06_reaction_34_missing (s : Sess) (m : InMsg) (hk : SeqChecked m) (hb : BeginOK s.cfg m) (hc : CompOK s.cfg m)
    (ht : TimeGate s m) (h34 : getInt m 34 = .missing) :
    inSessionFixMsgIn s m = (incrTarget (doReject s m 1 (some 34) false), .inSession) :=
  reaction_low s m (reqMissing 34) hk hb hc ht (by simp [checkTooLow, h34])

/-- MsgSeqNum (34) not a number ⇒ plain Reject, reason 6, RefTagID 34 -/
theorem C06_reaction_34_garbled (s : Sess) (m : InMsg) (hk : SeqChecked m) (hb : BeginOK s.cfg m) (hc : CompOK s.cfg m)
    (ht : TimeGate s m) (h34 : getInt m 34 = .garbled) :
    inSessionFixMsgIn s m = (incrTarget (doReject s m 6 (some 34) false), .inSession) :=
  reaction_low s m (badFormat 34) hk hb hc ht (by simp [checkTooLow, h34])

/-! ## the reactions as observations of a live session (logged on, connected, nothing queued: `Live s`) -/

/-- the Logout reaction in a live session: exactly one Logout is written, numbered with the next outbound number; the
    expected inbound number is unchanged -/
theorem C06_obs_logout (s : Sess) (hs : Live s) :
    (initiateLogout s).log = .wire { stamp s (mkOut "5" []) with seq := s.store.sender }
      :: savedObs s s.store.sender { stamp s (mkOut "5" []) with seq := s.store.sender } :: s.log
    ∧ (initiateLogout s).store.target = s.store.target := by
  rw [initiateLogout_live s hs]
  exact ⟨hs.sent_log _, rfl⟩

/-- the Reject-then-Logout reaction in a live session: the Reject (numbered S) then the Logout (numbered S+1), nothing else;
    the expected inbound number is unchanged -/
theorem C06_obs_reject_logout (s : Sess) (m : InMsg) (r : Nat) (t : Option Nat) (hs : Live s) :
    (initiateLogout (doReject s m r t false)).log =
      .wire { stamp s (mkOut "5" []) with seq := s.store.sender + 1 }
      :: savedObs s (s.store.sender + 1) { stamp s (mkOut "5" []) with seq := s.store.sender + 1 }
      :: .wire { stamp s ((rejectMsg s.cfg m r t false).inReplyTo m) with seq := s.store.sender }
      :: savedObs s s.store.sender { stamp s ((rejectMsg s.cfg m r t false).inReplyTo m) with seq := s.store.sender } :: s.log
    ∧ (initiateLogout (doReject s m r t false)).store.target = s.store.target := by
  rw [doReject_live s m r t hs, initiateLogout_live _ (hs.sent _), (hs.sent _).sent_log, hs.sent_log]
  exact ⟨rfl, rfl⟩

/-- the plain-Reject reaction in a live session: one Reject is written and the expected inbound number advances by one -/
theorem C06_obs_reject (s : Sess) (m : InMsg) (r : Nat) (t : Option Nat) (hs : Live s) :
    (incrTarget (doReject s m r t false)).log =
      .incT :: .wire { stamp s ((rejectMsg s.cfg m r t false).inReplyTo m) with seq := s.store.sender }
      :: savedObs s s.store.sender { stamp s ((rejectMsg s.cfg m r t false).inReplyTo m) with seq := s.store.sender } :: s.log
    ∧ (incrTarget (doReject s m r t false)).store.target = s.store.target + 1 := by
  rw [doReject_live s m r t hs]
  exact ⟨congrArg _ (hs.sent_log _), rfl⟩

/-! ## the shape of a Reject

`rejectMsg cfg m reason refTag business` is the message `doReject` hands to the sender (numbered and written by
`sendInReplyTo`, see `C06_obs_*`: the wire observation is `{ stamp s ((rejectMsg …).inReplyTo m) with seq := … }`: same kind and
fields, header tag 369 = the rejected message's MsgSeqNum when EnableLastMsgSeqNumProcessed is on).  49/56 of the outbound
header are the session's own identity (not observed as fields of `OutMsg`; the string-level monitor checks them). -/

/-- a Reject quotes the offending MsgSeqNum (RefSeqNum, 45) whenever the inbound one is readable, and only then -/
theorem C06_reject_refseq (cfg : Cfg) (m : InMsg) (reason : Nat) (refTag : Option Nat) (business : Bool) :
    (rejectMsg cfg m reason refTag business).f.get? 45 = match getInt m 34 with | .val n => some (toString n) | _ => none :=
  rejectMsg_get cfg m reason refTag business 45

/-- routing fields are exactly the reversal of the inbound ones: for each pair of `reversePairs` (50→57, 57→50, 142→143,
    143→142, 115→128, 128→115, 116→129, 129→116 — the list the monitor uses) the Reject carries the destination tag iff the
    inbound message has the source tag with a non-empty value, and then with that value -/
theorem C06_reject_routing (cfg : Cfg) (m : InMsg) (reason : Nat) (refTag : Option Nat) (business : Bool) (src dst : Nat)
    (h : (src, dst) ∈ reversePairs) :
    (rejectMsg cfg m reason refTag business).f.get? dst = (m.f.get? src).filter (fun v => !v.isEmpty) := by
  simp only [reversePairs, List.mem_cons, Prod.mk.injEq, List.not_mem_nil, or_false] at h
  rcases h with ⟨rfl, rfl⟩ | ⟨rfl, rfl⟩ | ⟨rfl, rfl⟩ | ⟨rfl, rfl⟩ | ⟨rfl, rfl⟩ | ⟨rfl, rfl⟩ | ⟨rfl, rfl⟩ | ⟨rfl, rfl⟩ <;>
    exact rejectMsg_get cfg m reason refTag business _

/-- the FIX.4.1+ pairs (144→145, 145→144) are reversed the same way unless the inbound BeginString is FIX.4.0 (or absent),
    in which case they are not copied -/
theorem C06_reject_routing41 (cfg : Cfg) (m : InMsg) (reason : Nat) (refTag : Option Nat) (business : Bool) (src dst : Nat)
    (h : (src, dst) ∈ reversePairs41) :
    (rejectMsg cfg m reason refTag business).f.get? dst =
      match m.f.get? 8 with
      | some b => if b != "FIX.4.0" then (m.f.get? src).filter (fun v => !v.isEmpty) else none
      | none => none := by
  simp only [reversePairs41, List.mem_cons, Prod.mk.injEq, List.not_mem_nil, or_false] at h
  rcases h with ⟨rfl, rfl⟩ | ⟨rfl, rfl⟩ <;> exact rejectMsg_get cfg m reason refTag business _

/-- nothing else travels in the routing part: any other tag of the Reject is one of 373 / 371 / 372 / 380 / 45 -/
theorem C06_reject_no_other_fields (cfg : Cfg) (m : InMsg) (reason : Nat) (refTag : Option Nat) (business : Bool) (t : Nat)
    (h : t ∉ [57, 143, 50, 142, 128, 129, 115, 116, 145, 144, 373, 371, 372, 380, 45]) :
    (rejectMsg cfg m reason refTag business).f.get? t = none := by
  rw [rejectMsg_get, lookup_none_of_tags]; rfl
  rw [rejTable_tags]
  exact fun hm => h ((by decide : ∀ k ∈ rejTags, k ∈ [57, 143, 50, 142, 128, 129, 115, 116, 145, 144, 373, 371, 372, 380, 45]) t hm)

/-- MsgType and reason fields per BeginString: before FIX.4.2 a bare Reject (35=3, no 373/371/372/380); from FIX.4.2 a
    session Reject carries 373 = reason (suppressed for FIX.4.2 when the reason is above 11), 371 = the offending tag when
    there is one, 372 = the rejected MsgType; a business reject is 35=j with 380 = reason and 372 -/
theorem C06_reject_reason_fields (cfg : Cfg) (m : InMsg) (reason : Nat) (refTag : Option Nat) (business : Bool) :
    let r := rejectMsg cfg m reason refTag business
    r.kind = (if cfg.bs ≥ 2 ∧ business = true then "j" else "3")
    ∧ r.f.get? 373 = (if cfg.bs ≥ 2 ∧ business = false ∧ ¬ (reason > 11 ∧ cfg.bs = 2) then some (toString reason) else none)
    ∧ r.f.get? 371 = (if cfg.bs ≥ 2 ∧ business = false then refTag.map toString else none)
    ∧ r.f.get? 372 = (if cfg.bs ≥ 2 then some (kindOf m) else none)
    ∧ r.f.get? 380 = (if cfg.bs ≥ 2 ∧ business = true then some (toString reason) else none) := by
  exact ⟨rejectMsg_kind cfg m reason refTag business, rejectMsg_get cfg m reason refTag business 373,
    rejectMsg_get cfg m reason refTag business 371, rejectMsg_get cfg m reason refTag business 372,
    rejectMsg_get cfg m reason refTag business 380⟩

/-- **the Reject written carries the validator's reason and tag**: 35=3, from FIX.4.2 on 373 = reason (left out by FIX.4.2
    itself above 11: 13 "tag appears more than once", 14 "tag specified out of required order", 16 "incorrect NumInGroup") and
    371 = the tag the validator names; 372 = the rejected MsgType; 45 = the rejected MsgSeqNum -/
theorem C06_reaction_validation_reject (cfg : Cfg) (m : InMsg) (reason : Nat) (refTag : Option Nat) :
    let r := rejectMsg cfg m reason refTag false
    r.kind = "3"
    ∧ r.f.get? 373 = (if cfg.bs ≥ 2 ∧ ¬ (reason > 11 ∧ cfg.bs = 2) then some (toString reason) else none)
    ∧ r.f.get? 371 = (if cfg.bs ≥ 2 then refTag.map toString else none)
    ∧ r.f.get? 45 = (match getInt m 34 with | .val n => some (toString n) | _ => none) := by
  intro r
  obtain ⟨h1, h2, h3, _, _⟩ := C06_reject_reason_fields cfg m reason refTag false
  refine ⟨by simpa using h1, by simpa using h2, by simpa using h3, C06_reject_refseq cfg m reason refTag false⟩

/-! ## non-vacuity (evaluated by the interpreter at build time; String functions do not reduce in the kernel) -/

/-- a live session: acceptor FIX.4.2 SND←TGT after connect and an accepted Logon (expected inbound 2, next outbound 2) -/
def c06Live : Sess := runEvents (initSess {} 1 1) [.connect, .incomingMsg (some demoLogon)]
def c06WiresOf (l : List Obs) : List (String × Int × Fields) :=
  l.filterMap fun o => match o with | .wire m => some (m.kind, m.seq, m.f) | _ => none
/-- reaction of the live session to one message: (wires, callbacks, expected number afterwards, state afterwards) -/
def c06React (f : Fields) : List (String × Int × Fields) × List Obs × Int × String :=
  let r := step c06Live (.incomingMsg (some { f := f }))
  (c06WiresOf r.2.1, r.2.1.filter isCb, r.1.store.target, r.1.st.name)

#guard c06Live.st.name == "InSession" && c06Live.out && c06Live.toSend.isEmpty && c06Live.st.loggedOn   -- `Live c06Live`
-- clean message: delivered
#guard c06React [(8, "FIX.4.2"), (35, "D"), (49, "TGT"), (56, "SND"), (34, "2"), (52, "@0")] == ([], [.fromApp "2" 2], 3, "InSession")
-- wrong BeginString: Logout only, nothing delivered, expected number unchanged
#guard c06React [(8, "FIX.4.1"), (35, "D"), (49, "TGT"), (56, "SND"), (34, "2"), (52, "@0")] == ([("5", 2, [])], [], 2, "Logout")
-- wrong SenderCompID: Reject 9 (sub / location ids reversed, RefSeqNum quoted) then Logout
#guard c06React [(8, "FIX.4.2"), (35, "D"), (49, "XXX"), (56, "SND"), (34, "2"), (52, "@0"), (50, "sub"), (142, "loc")]
  == ([("3", 2, [(57, "sub"), (143, "loc"), (373, "9"), (372, "D"), (45, "2")]), ("5", 3, [])], [], 2, "Logout")
-- stale SendingTime: Reject 10 then Logout
#guard c06React [(8, "FIX.4.2"), (35, "D"), (49, "TGT"), (56, "SND"), (34, "2"), (52, "@500")]
  == ([("3", 2, [(373, "10"), (372, "D"), (45, "2")]), ("5", 3, [])], [], 2, "Logout")
-- too low without PossDup: Logout only
#guard c06React [(8, "FIX.4.2"), (35, "D"), (49, "TGT"), (56, "SND"), (34, "1"), (52, "@0")] == ([("5", 2, [])], [], 2, "Logout")
-- 49 missing / 56 empty / 52 garbled / 34 garbled: plain Reject naming the tag, number consumed, still InSession
#guard c06React [(8, "FIX.4.2"), (35, "D"), (56, "SND"), (34, "2"), (52, "@0")]
  == ([("3", 2, [(373, "1"), (371, "49"), (372, "D"), (45, "2")])], [], 3, "InSession")
#guard c06React [(8, "FIX.4.2"), (35, "D"), (49, "TGT"), (56, ""), (34, "2"), (52, "@0")]
  == ([("3", 2, [(373, "4"), (371, "56"), (372, "D"), (45, "2")])], [], 3, "InSession")
#guard c06React [(8, "FIX.4.2"), (35, "D"), (49, "TGT"), (56, "SND"), (34, "2"), (52, "garb")]
  == ([("3", 2, [(373, "6"), (371, "52"), (372, "D"), (45, "2")])], [], 3, "InSession")
#guard c06React [(8, "FIX.4.2"), (35, "D"), (49, "TGT"), (56, "SND"), (34, "x"), (52, "@0")]
  == ([("3", 2, [(373, "6"), (371, "34"), (372, "D")])], [], 3, "InSession")
-- C06_time_gate_all_histories is about real behaviour: a Logon 500 s off is shown to FromAdmin and then refused (no OnLogon,
-- nothing delivered afterwards), the same Logon in the window establishes the session
#guard (traceOf (initSess {} 1 1) [.connect, .incomingMsg (some { f := [(8, "FIX.4.2"), (35, "A"), (49, "TGT"), (56, "SND"),
          (34, "1"), (52, "@500"), (98, "0"), (108, "30")] }), .incomingMsg (some { f := [(8, "FIX.4.2"), (35, "D"), (49, "TGT"),
          (56, "SND"), (34, "2"), (52, "@500")] })]).filter isCb == [.fromAdmin "A" "1"]
#guard (traceOf (initSess {} 1 1) [.connect, .incomingMsg (some demoLogon)]).filter isCb == [.fromAdmin "A" "1", .onLogon]
-- ### the validation gate is about real behaviour (a hand-built dictionary: header, trailer, Logon, Heartbeat, NewOrderSingle
-- with Symbol (55) required, Side (54) enumerated 1/2, the scripted verdict 9001)
def c06Dict : Validate.VDict :=
  let fld (t : Nat) (req : Bool) : Dict.Part := .fld (.mk t req [] [])
  let hdr := Dict.newMessageDef ([8, 9, 35, 49, 56, 34, 52].map (fld · true) ++ [43, 122, 50].map (fld · false))
  let trl := Dict.newMessageDef [fld 10 true]
  let msgD := Dict.newMessageDef [fld 55 true, fld 54 false, fld 9001 false]
  let msgA := Dict.newMessageDef [fld 98 true, fld 108 true]
  let msg0 := Dict.newMessageDef [fld 112 false]
  { msg? := fun mt => if mt == [68] then some msgD else if mt == [65] then some msgA else if mt == [48] then some msg0 else none
    header := some hdr
    trailer := some trl
    ftype := fun t =>
      if t == 54 then some { proto := some .str, enums := [[49], [50]] }
      else if [9, 34, 98, 108].contains t then some { proto := some .int, enums := [] }
      else if [52, 122].contains t then some { proto := some .ts, enums := [] }
      else if t == 43 then some { proto := some .bool, enums := [] }
      else if [8, 35, 49, 56, 10, 55, 112, 50, 9001].contains t then some { proto := some .str, enums := [] }
      else none }
def c06CfgV (st : Validate.Settings := Validate.defaultSettings) (dict : Bool := true) : Cfg :=
  { validator := { app := if dict then some c06Dict else none, settings := st } }
def c06LiveV (cfg : Cfg) : Sess := runEvents (initSess cfg 1 1) [.connect, .incomingMsg (some demoLogon)]
def c06ReactV (cfg : Cfg) (f : Fields) : List (String × Int × Fields) × List Obs × Int × String :=
  let r := step (c06LiveV cfg) (.incomingMsg (some { f := f }))
  (c06WiresOf r.2.1, r.2.1.filter isCb, r.1.store.target, r.1.st.name)
def c06Hdr (kind : String) (seq : String := "2") : Fields := [(8, "FIX.4.2"), (35, kind), (49, "TGT"), (56, "SND"), (34, seq), (52, "@0")]

#guard (c06LiveV (c06CfgV)).st.name == "InSession"      -- the Logon (98, 108) conforms to the dictionary
-- a conforming order is delivered; the same order without the required Symbol, with a Side outside the enumeration, with a
-- tag the dictionary does not know, with a tag not defined for the type, with a repeated tag: Reject naming (reason, tag),
-- nothing delivered, the number consumed
#guard c06ReactV c06CfgV (c06Hdr "D" ++ [(55, "IBM"), (54, "1")]) == ([], [.fromApp "2" 2], 3, "InSession")
#guard c06ReactV c06CfgV (c06Hdr "D" ++ [(54, "1")])
  == ([("3", 2, [(373, "1"), (371, "55"), (372, "D"), (45, "2")])], [], 3, "InSession")
#guard c06ReactV c06CfgV (c06Hdr "D" ++ [(55, "IBM"), (54, "9")])
  == ([("3", 2, [(373, "5"), (371, "54"), (372, "D"), (45, "2")])], [], 3, "InSession")
#guard c06ReactV c06CfgV (c06Hdr "D" ++ [(55, "IBM"), (207, "zz")])
  == ([("3", 2, [(373, "0"), (371, "207"), (372, "D"), (45, "2")])], [], 3, "InSession")
#guard c06ReactV c06CfgV (c06Hdr "D" ++ [(55, "IBM"), (112, "x")])
  == ([("3", 2, [(373, "2"), (371, "112"), (372, "D"), (45, "2")])], [], 3, "InSession")
#guard c06ReactV c06CfgV (c06Hdr "D" ++ [(55, "IBM"), (55, "IBM")])
  == ([("3", 2, [(371, "55"), (372, "D"), (45, "2")])], [], 3, "InSession")          -- reason 13: no 373 at FIX.4.2
-- the scripted callback is only asked when validation passed: 9001=rej on a conforming order is the application's reject …
#guard c06ReactV c06CfgV (c06Hdr "D" ++ [(55, "IBM"), (9001, "rej")])
  == ([("3", 2, [(373, "5"), (371, "9001"), (372, "D"), (45, "2")])], [.fromApp "2" 2], 3, "InSession")
-- … and is not even asked on a defective one
#guard c06ReactV c06CfgV (c06Hdr "D" ++ [(54, "1"), (9001, "rej")])
  == ([("3", 2, [(373, "1"), (371, "55"), (372, "D"), (45, "2")])], [], 3, "InSession")
-- the settings matter: RejectInvalidMessage=N lets the bad Side through, AllowUnknownMsgFields=Y the unknown tag
#guard c06ReactV (c06CfgV { Validate.defaultSettings with rejectInvalid := false }) (c06Hdr "D" ++ [(55, "IBM"), (54, "9")])
  == ([], [.fromApp "2" 2], 3, "InSession")
#guard c06ReactV (c06CfgV { Validate.defaultSettings with allowUnknown := true }) (c06Hdr "D" ++ [(55, "IBM"), (207, "zz")])
  == ([], [.fromApp "2" 2], 3, "InSession")
-- without a dictionary: a header field behind a body field is refused under ValidateFieldsOutOfOrder (reason 14) and passes
-- without it; an empty value likewise under ValidateFieldsHaveValues
#guard c06ReactV (c06CfgV Validate.defaultSettings false) (c06Hdr "D" ++ [(55, "IBM"), (50, "sub")])
  == ([("3", 2, [(57, "sub"), (371, "50"), (372, "D"), (45, "2")])], [], 3, "InSession")
#guard c06ReactV (c06CfgV { Validate.defaultSettings with checkOrder := false } false) (c06Hdr "D" ++ [(55, "IBM"), (50, "sub")])
  == ([], [.fromApp "2" 2], 3, "InSession")
#guard c06ReactV (c06CfgV Validate.defaultSettings false) (c06Hdr "D" ++ [(55, "")])
  == ([("3", 2, [(373, "4"), (371, "55"), (372, "D"), (45, "2")])], [], 3, "InSession")
#guard c06ReactV (c06CfgV { Validate.defaultSettings with checkHaveValues := false } false) (c06Hdr "D" ++ [(55, "")])
  == ([], [.fromApp "2" 2], 3, "InSession")
-- a Logon the validator refuses (HeartBtInt missing) is not shown to FromAdmin and establishes nothing
#guard (traceOf (initSess c06CfgV 1 1) [.connect, .incomingMsg (some { f := c06Hdr "A" "1" ++ [(98, "0")] })]).filter isCb == []
#guard (traceOf (initSess c06CfgV 1 1) [.connect, .incomingMsg (some { f := c06Hdr "A" "1" ++ [(98, "0"), (108, "30")] })]).filter isCb
  == [.fromAdmin "A" "1", .onLogon]
-- the hypotheses of C06_reaction_validation hold of the live session and the order without Symbol
#guard validate c06CfgV { f := c06Hdr "D" ++ [(54, "1")] } matches some (.plain 1 (some 55) false)
-- the hypotheses of the table rows are satisfiable together (kernel-checked on a symbolic message)
example : SeqChecked { f := [(35, "D")] } := by
  refine ⟨?_, ?_, ?_, ?_⟩ <;> simp [kindOf, Fields.get?]
-- the whole-history monitor really rejects a trace: a delivery with no inbound message behind it
example : ¬ gateObs {} (· ∈ msgsOf []) (.fromApp "2" 2) := by
  rintro ⟨m, hm, _⟩; cases hm

/-!
Clause checklist (properties.jsonl C06 → theorems)
* app message reaches the application / admin (non-Logon) reaches FromAdmin only if BeginString equals, CompIDs mirror,
  SendingTime in window (checking enabled, no replay), validation passes
      : C06_gate_verify (every state, every message, every requested sequence check; exact emitted observation),
        C06_gate_verify_blocked (contrapositive: state untouched), C06_gate_verify_passes (the gate is exactly the condition),
        C06_gate_all_histories + C06_nothing_without_gate (every cfg / counters / history: each callback is about an inbound
        message of the history passing BeginString, CompIDs, validation), C06_time_gate_all_histories (SendingTime)
* … and it passes message validation (every validator setting, with and without data dictionaries)
      : `GateMsg.valid` in all of the above is `validate cfg m = none`, the verdict of the configured validator (C15's model);
        C06_gate_validation_site / _verdict (delivery site), C06_gate_validation_logon (Logon site: not even FromAdmin),
        C06_gate_validation + C06_nothing_without_validation (every history: each callback is about a message the validator
        accepts), C06_reaction_validation + C06_reaction_validation_reject + C06_obs_reject (the Reject carries the
        validator's reason and tag, the number is consumed), C06_validation_verdict_shape, C06_validation_default /
        _dictionary (what `validate` is in the two kinds of configuration); `#guard`s on a hand-built dictionary
* a Logon establishes the session only if …                          : C06_gate_logon (+ OnLogon clause of C06_gate_all_histories)
* wrong BeginString ⇒ Logout, expected number unchanged              : C06_reaction_beginstring + C06_obs_logout
* wrong CompIDs ⇒ Reject 9 then Logout, unchanged                    : C06_reaction_compid + C06_obs_reject_logout
* SendingTime out of window ⇒ Reject 10 then Logout, unchanged       : C06_reaction_sendingtime + C06_obs_reject_logout
* too low without PossDup ⇒ Logout, unchanged                        : C06_reaction_toolow + C06_obs_logout
* field missing / empty / malformed ⇒ plain Reject naming the field  : C06_reaction_49_missing, _56_missing, _49_empty, _56_empty,
                                                                        _52_missing, _52_garbled, _34_missing, _34_garbled + C06_obs_reject
                                                                        (reasons 1 / 4 / 6; the number is consumed: target + 1)
* Rejects quote the offending MsgSeqNum                              : C06_reject_refseq
* … and travel back with the sender's routing fields reversed        : C06_reject_routing, C06_reject_routing41, C06_reject_no_other_fields
* 373 / 371 / 372 / 380 per BeginString                              : C06_reject_reason_fields
* quantifier "every inbound message, every logged-on state, every BeginString, latency and validator setting":
  all theorems are ∀ s m (cfg inside s); the reaction rows need no hypothesis on the state at all (they hold in InSession,
  Pending, Resend — where `curResend` disables the time rows — and Logout alike).
* readings (DESIGN.md §5 C06): an empty BeginString is a wrong one (Logout); empty SendingTime is "garbled" (reason 6);
  a Logon inside a logged-on session goes through `handleLogon` (FromAdmin before the checks), hence `kindOf m ≠ "A"` in the rows;
  a SequenceReset with an unreadable GapFillFlag is rejected for that before anything else (`h4`).
* SendingTime over histories: C06_time_gate_all_histories (no in-window message ⇒ nothing delivered, no session, ever).
  The positive per-observation form ("… or a replay was in progress at that moment") is not expressible over `Obs`, which
  does not record the state at delivery; it is proved for every state at both emitting sites (C06_gate_verify, C06_gate_logon).
  `34=` with an empty value: the model's `getInt` yields `garbled` (row C06_reaction_34_garbled), the Go code panics in `atoi`
  (defect D1, recorded by C09/C14).
-/
