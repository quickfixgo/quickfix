/-
  C01 — "Inbound application messages reach the application in order, exactly once".
  Property theorems only (helper lemmas: Qfx/Lemmas/SessC01.lean; the monitor: Qfx/Spec/SessionTyped.lean).

  properties.jsonl: "Within one sequence-number epoch (from one reset to the next) the application's inbound callback
  sees application messages in strictly increasing MsgSeqNum order and never sees the same number twice; a message is
  handed over only at the moment its MsgSeqNum equals the session's next expected inbound number, which then advances
  by exactly one. The next expected inbound number never moves backwards except through an explicit reset."
-/
import Qfx.Lemmas.SessC01
open Qfx Qfx.Sess

/-- the monitor state agrees with the session: nothing violated, same expected number, every delivery of the epoch below it -/
def C01Good (g : G1) (s : Sess) : Prop :=
  g.ok = true ∧ g.T = s.store.target ∧ (∀ l, g.last = some l → l < g.T) ∧ g.expectInc = false

theorem C01Good_iff_J0 (g : G1) (s : Sess) (hl : s.log = []) : C01Good g s ↔ J0 g s := by
  unfold C01Good J0 J g1Of
  simp only [hl, List.reverse_nil, List.foldl_nil]
  constructor
  · rintro ⟨a, b, c, d⟩; exact ⟨⟨a, b, fun _ => c, fun h => by rw [d] at h; cases h⟩, d⟩
  · rintro ⟨⟨a, b, c, _⟩, d⟩; exact ⟨a, b, c d, d⟩

/-- one event, any state, any event: the monitor accepts the event's observations and stays in agreement -/
theorem C01_step (s : Sess) (e : Ev) (g : G1) (h : C01Good g s) :
    C01Good ((step s e).2.1.foldl g1Step g) (step s e).1 := by
  -- `J0 g s'` reads the monitor off the log of `s'`, which is what `step` hands out as the event's observations
  obtain ⟨⟨a, b, c, _⟩, d⟩ := J0_stepCore g s.clearLog e ((C01Good_iff_J0 g s.clearLog rfl).1 h)
  exact ⟨a, b, c d, d⟩

/-- the concatenated observations of a history -/
def traceOf (s : Sess) : List Ev → List Obs
  | [] => []
  | e :: es => (step s e).2.1 ++ traceOf (step s e).1 es

def runEvents (s : Sess) : List Ev → Sess
  | [] => s
  | e :: es => runEvents (step s e).1 es

theorem C01_run (s : Sess) (evs : List Ev) (g : G1) (h : C01Good g s) :
    C01Good ((traceOf s evs).foldl g1Step g) (runEvents s evs) :=
  run_fold (ok := fun _ => True) ⟨fun _ => rfl, fun _ _ _ => rfl, fun _ => rfl, fun _ _ _ => rfl⟩
    (fun g s e _ h => C01_step s e g h) evs s g (fun _ _ => trivial) h

theorem C01Good_init (cfg : Cfg) (s0 t0 : Int) : C01Good (G1.init t0) (initSess cfg s0 t0) := by
  unfold C01Good
  refine ⟨rfl, rfl, ?_, rfl⟩
  intro l h; simp [G1.init] at h

/-- **C01**, every configuration (role, BeginString, chunk size, reset options, persistence, latency check, heartbeat
    settings), every initial pair of counters, every finite history of events (inbound messages of any kind with any
    header fields, buffered arrivals, timeouts, sends, flushes, connects, disconnects, stops, session-time changes):
    the monitor accepts the whole observation trace, i.e. deliveries are strictly increasing within an epoch, each
    happens exactly at the expected number and is followed by an advance of exactly one, and the expected number never
    moves backwards except through a reset. -/
theorem C01_inorder_exactly_once (cfg : Cfg) (s0 t0 : Int) (evs : List Ev) :
    c01Accepts t0 (traceOf (initSess cfg s0 t0) evs) = true := by
  have hg : C01Good (G1.init t0) (initSess cfg s0 t0) := C01Good_init cfg s0 t0
  obtain ⟨a, _, _, d⟩ := C01_run (initSess cfg s0 t0) evs (G1.init t0) hg
  unfold c01Accepts
  simp only [a, d, Bool.not_false, Bool.and_self]

/-- and the reconstructed expected number is the store's after every history (no untracked change) -/
theorem C01_target_tracked (cfg : Cfg) (s0 t0 : Int) (evs : List Ev) :
    ((traceOf (initSess cfg s0 t0) evs).foldl g1Step (G1.init t0)).T = (runEvents (initSess cfg s0 t0) evs).store.target :=
  (C01_run (initSess cfg s0 t0) evs (G1.init t0) (C01Good_init cfg s0 t0)).2.1

/-! ### the monitor is not vacuous: each clause rejects a trace that violates exactly it (kernel-checked) -/
example : c01Accepts 5 [.fromApp "5" 5, .incT, .fromApp "6" 6, .incT] = true := by decide
example : c01Accepts 5 [.fromApp "5" 5, .incT, .fromApp "5" 5, .incT] = false := by decide          -- delivered twice
example : c01Accepts 5 [.fromApp "6" 5, .incT] = false := by decide                                 -- not the expected number
example : c01Accepts 5 [.fromApp "5" 5, .fromApp "6" 6, .incT] = false := by decide                 -- no advance in between
example : c01Accepts 5 [.fromApp "5" 5, .setT 9] = false := by decide                               -- advance not by one
example : c01Accepts 5 [.setT 3] = false := by decide                                               -- moved backwards
example : c01Accepts 5 [.fromApp "5" 5, .incT, .reset, .fromApp "1" 1, .incT] = true := by decide   -- a reset starts a new epoch

/-- non-vacuity of the theorem: a concrete history really delivers (gap, stash, replay, drain) -/
def demoMsg (seq : Nat) : InMsg :=
  { f := [(8, "FIX.4.2"), (35, "D"), (49, "TGT"), (56, "SND"), (34, toString seq), (52, "@0")] }
def demoLogon : InMsg :=
  { f := [(8, "FIX.4.2"), (35, "A"), (49, "TGT"), (56, "SND"), (34, "1"), (52, "@0"), (98, "0"), (108, "30")] }
-- evaluated by the interpreter at build time (String functions do not reduce in the kernel): the history
-- logon, 3 (too high: stashed), 2 (fills the gap: delivered, then the stash drains) delivers 2 then 3
#guard ((traceOf (initSess {} 1 1) [.connect, .incomingMsg (some demoLogon), .incomingMsg (some (demoMsg 3)),
            .incomingMsg (some (demoMsg 2))]).filter (fun o => match o with | .fromApp _ _ => true | _ => false))
          == [.fromApp "2" 2, .fromApp "3" 3]

/-!
Clause checklist (properties.jsonl C01 → theorems)
* strictly increasing, never the same number twice, per epoch      : C01_inorder_exactly_once (monitor clause `l < n`)
* handed over only when MsgSeqNum = next expected number           : C01_inorder_exactly_once (clauses `n = T`, `t = T`)
* which then advances by exactly one                               : C01_inorder_exactly_once (`expectInc`, `setT` after delivery rejected)
* never moves backwards except through an explicit reset           : C01_inorder_exactly_once (`T ≤ n` on setT) + C01_target_tracked
* quantifier: every reachable state / role / BeginString / chunk   : `∀ cfg s0 t0 evs` (initSess covers both roles; BeginString and chunk are in cfg)
* not modelled: store write failures; EnableNextExpectedMsgSeqNum / EnableLastMsgSeqNumProcessed; data dictionaries in the session
-/
