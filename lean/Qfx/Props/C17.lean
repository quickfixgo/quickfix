/-
  C17 — "A crash never leaves the persistent store ahead of or without its messages."
  Statement (properties.jsonl): if the process dies at any point during a store operation (file store, syncing on),
  reopening succeeds; every message whose save had completed is returned intact; each recovered counter equals its value
  before or after the interrupted operation; when the recovered outbound counter says n was used, message n is
  retrievable intact — no torn or foreign bytes are ever returned for a sequence number.  SQL: a failure of either
  statement of save-and-increment leaves neither the message nor the increment behind.

  The statement is FALSE of the code (DESIGN §9 D12c).  This file holds: the full statement as `C17_full` (a `def`) and its
  refutation `C17_full_false` (torn 19-byte counter, on a 2-op history); `C17_partial`: the whole conclusion for every history,
  every operation and every crash point / cut / mode EXCEPT a process crash inside a counter rewrite; `C17_synced_between_ops`;
  what a raw crash image looked like before the three `fix:` commits (witnesses on concrete states); `C17_sql_atomic`.
  Clause checklist at the end.
-/
import Qfx.Lemmas.StoreCrash
open Qfx Qfx.Store Qfx.Spec.Store

/-- what a fresh syncing store opened on an image reports: NextSenderMsgSeqNum, NextTargetMsgSeqNum, GetMessages over the whole
    `int` range (messages and ok / err / panic).  In the model the open itself cannot fail (no I/O errors are modelled). -/
def C17_view (img : FS) : Int × Int × (List Bytes × IterEnd) := recoveredView img

/-- the conclusion of C17 about a recovered view `v`, for the abstract store before (`pre`) and after (`post`) the interrupted
    operation:
    * every message whose save had completed is returned intact: the whole-range retrieval succeeds and returns the messages
      of `pre` or of `post` (nothing else — so no torn or foreign bytes either);
    * each recovered counter equals its value before or after the operation;
    * if the recovered outbound counter is the advanced one, the messages of `post` are the ones retrievable. -/
def C17_conclusion (pre post : AStore) (v : Int × Int × (List Bytes × IterEnd)) : Prop :=
  (v.2.2 = (values pre.msgs, IterEnd.ok) ∨ v.2.2 = (values post.msgs, IterEnd.ok))
  ∧ (v.1 = pre.sender ∨ v.1 = post.sender) ∧ (v.2.1 = pre.target ∨ v.2.1 = post.target)
  ∧ (v.1 = post.sender → (post.sender : Int) ≠ pre.sender → v.2.2 = (values post.msgs, IterEnd.ok))

/-- the view recovered from the crash image of operation `o` after history `ops` on a syncing file store that started on an
    empty directory: the first `i` primitives of `o` completed, `cut` bytes of the write in flight (if primitive `i` is one)
    reached the file; `mode` = process crash or power loss (everything before `o` was synced, see `C17_synced_between_ops`) -/
def C17_recovered (ops : List Op) (o : Op) (i cut : Nat) (mode : Mode) : Int × Int × (List Bytes × IterEnd) :=
  let w := ((FileW.open true {} 0).run ops).1
  C17_view (crashImage ⟨w.fs, w.fs⟩ (fileOpPrims w.st w.fs w.clock o).2.1 i cut mode)

/-- the full statement: for every history (ascending saves per epoch, numbers within Go's `int`), every operation, every crash
    point, every cut and both modes.  FALSE of the code: `C17_full_false`. -/
def C17_full : Prop :=
  ∀ (ops : List Op) (o : Op) (i cut : Nat) (mode : Mode), Asc none (ops ++ [o]) → FitsRun {} (ops ++ [o]) →
    C17_conclusion (({} : AStore).run ops).1 (((({} : AStore).run ops).1).step o).1 (C17_recovered ops o i cut mode)

/-- the primitives of operation `o` after history `ops` (as reported by the hook of the real store, compared on every run) -/
def C17_prims (ops : List Op) (o : Op) : List Prim :=
  let w := ((FileW.open true {} 0).run ops).1
  (fileOpPrims w.st w.fs w.clock o).2.1

/-- the one recorded window: the process dies INSIDE (`cut ≠ 0`) the in-place rewrite of a counter file -/
def C17_insideCounterWrite (ops : List Op) (o : Op) (i cut : Nat) : Prop :=
  ¬ (cut = 0 ∨ ∃ f off data, (C17_prims ops o)[i]? = some (.write f off data) ∧ f ≠ .sender ∧ f ≠ .target)

/-- **C17_partial** — for EVERY history, every operation, every crash point, every cut and both modes, except a process crash
    inside the in-place rewrite of a 19-byte counter file (the remaining recorded window, `C17_full_false`), the recovered view
    satisfies the whole conclusion: between primitives, inside the body write, inside the index-line write (since the `fix:` that
    drops an incomplete trailing index line on open), inside the session-file write, and at every power-loss point (syncing on). -/
theorem C17_partial (ops : List Op) (o : Op) (i cut : Nat) (mode : Mode)
    (ha : Asc none (ops ++ [o])) (hf : FitsRun {} (ops ++ [o]))
    (hpt : mode = .process → ¬ C17_insideCounterWrite ops o i cut) :
    C17_conclusion (({} : AStore).run ops).1 (((({} : AStore).run ops).1).step o).1 (C17_recovered ops o i cut mode) := by
  have hpt' : mode = .process → NotInCounterWrite (C17_prims ops o) i cut := fun hm => Classical.not_not.1 (hpt hm)
  obtain ⟨⟨hi, ents, B, hR, ha2, hf2⟩, _⟩ := fileR_run ops [o] {} _ ⟨none, [], [], fileR_init true, ha, hf⟩
  have hsync := open_run_sync true {} 0 ops
  exact crash_good _ _ hi ents B o hR hsync ha2.1 hf2.1 i cut mode hpt'

/-- the assumption behind the power-loss images of `C17_recovered` ("everything before `o` was synced"): with syncing on, when an
    operation returns, the durable contents of every file equal the visible contents, and those are the files the next
    operation starts from — for every history. -/
theorem C17_synced_between_ops (ops : List Op) (o : Op) (ha : Asc none (ops ++ [o])) (hf : FitsRun {} (ops ++ [o])) :
    let w := ((FileW.open true {} 0).run ops).1
    let d := applyPrimsD ⟨w.fs, w.fs⟩ (fileOpPrims w.st w.fs w.clock o).2.1
    d.dur = d.vol ∧ d.vol = (w.step o).1.fs := by
  obtain ⟨⟨hi, ents, B, hR, ha2, hf2⟩, _⟩ := fileR_run ops [o] {} _ ⟨none, [], [], fileR_init true, ha, hf⟩
  refine ⟨synced_after _ _ hi ents B o hR (open_run_sync true {} 0 ops) ha2.1 hf2.1, ?_⟩
  rw [applyPrimsD_vol]
  cases o <;> rfl

/-- "a failure of either statement of save-and-increment leaves neither the message nor the increment behind":
    tables and cache unchanged, the operation reports the error. -/
theorem C17_sql_atomic (w : SqlW) (n : Nat) (m : Bytes) (k : Nat) (hk : k = 1 ∨ k = 2) :
    ((w.stepF (some k) (.saveIncr n m)).1 = w) ∧ ((w.stepF (some k) (.saveIncr n m)).2.ok = false) := by
  rcases hk with rfl | rfl
  · simp [SqlW.stepF, fails, obsOf]
  · simp only [SqlW.stepF, fails]
    cases h : w.db.insertMsg n m <;> simp [obsOf]

/-- power loss: bytes of an in-flight write never matter (only synced contents survive) -/
theorem C17_power_cut_irrelevant (d : DFS) (ps : List Prim) (i cut : Nat) :
    crashImage d ps i cut .power = crashImage d ps i 0 .power := by
  rw [crashImage_power, crashImage_power]

/-- counter rewrite, crash between primitives (process crash): the counter file is the old or the new one, never a mixture -/
theorem C17_partial_counter_boundary (d : DFS) (sync : Bool) (f : Ext) (n : Int) (i : Nat) :
    crashImage d (setSeqNumPrims sync f n) i 0 .process = d.vol
    ∨ crashImage d (setSeqNumPrims sync f n) i 0 .process = applyPrim d.vol (.write f 0 (fmt019 n)) := by
  rw [crashImage_boundary, applyPrimsD_vol]
  cases sync <;> rcases i with _ | _ | _ | i <;> simp [setSeqNumPrims, syncIf, applyPrims, applyPrim]

/-- fixed `SaveMessage`, crash between primitives (process crash): the index line is there only if its bytes are -/
theorem C17_partial_save_boundary (d : DFS) (st : FStore) (seq : Int) (msg : Bytes) (i : Nat) :
    let img := crashImage d (saveMessagePrims st d.vol seq msg) i 0 .process
    img = d.vol
    ∨ img = applyPrim d.vol (.write .body (len d.vol.body) msg)
    ∨ img = applyPrims d.vol [.write .body (len d.vol.body) msg, .write .header (len d.vol.header) (headerLine seq (len d.vol.body) msg.length)] := by
  intro img
  have e : img = applyPrims d.vol ((saveMessagePrims st d.vol seq msg).take i) := by
    rw [← applyPrimsD_vol]; exact crashImage_boundary _ _ _
  rw [e, saveMessagePrims]
  -- the syncs that may follow the two writes do not change what a reader sees
  cases st.sync <;> rcases i with _ | _ | _ | _ | _ | i <;> simp [syncBH, applyPrims, applyPrim]

/-- fixed `SaveMessage` with syncing on, power loss at any point (everything was synced before the operation):
    the durable index is the old one, or the new one together with the durable new body -/
theorem C17_partial_save_power (fs : FS) (st : FStore) (hs : st.sync = true) (seq : Int) (msg : Bytes) (i cut : Nat) :
    let full := applyPrims fs [.write .body (len fs.body) msg, .write .header (len fs.header) (headerLine seq (len fs.body) msg.length)]
    let img := crashImage ⟨fs, fs⟩ (saveMessagePrims st fs seq msg) i cut .power
    img.header = fs.header ∨ (img.header = full.header ∧ img.body = full.body) := by
  intro full img
  have e : img = (applyPrimsD ⟨fs, fs⟩ ((saveMessagePrims st fs seq msg).take i)).dur := crashImage_power _ _ _ _
  rw [e, saveMessagePrims, hs]
  rcases i with _ | _ | _ | _ | _ | i <;>
    simp [full, syncBH, applyPrimsD, applyPrimD, applyPrims, applyPrim, FS.set, FS.get]

/-! ## witnesses of the failing windows (concrete histories, replayed on the real store by the `crash` family) -/

private theorem fmt019_9 : fmt019 9 = [48,48,48,48,48,48,48,48,48,48,48,48,48,48,48,48,48,48,57] := by simp [fmt019, padZero, fmtNat, c0]
private theorem fmt019_10 : fmt019 10 = [48,48,48,48,48,48,48,48,48,48,48,48,48,48,48,48,48,49,48] := by simp [fmt019, padZero, fmtNat, c0]
private theorem fmt019_1 : fmt019 1 = [48,48,48,48,48,48,48,48,48,48,48,48,48,48,48,48,48,48,49] := by simp [fmt019, padZero, fmtNat, c0]

def C17w_fs0 : FS := { header := some [], body := some [], session := some (timeText 5),
                         sender := some [48,48,48,48,48,48,48,48,48,48,48,48,48,48,48,48,48,48,57],
                         target := some [48,48,48,48,48,48,48,48,48,48,48,48,48,48,48,48,48,48,49] }

/-- counter 9 → 10, process dies after 18 of the 19 bytes: a fresh store reads 19 -/
theorem C17_witness_torn_counter :
    (populateCache {} (crashImage ⟨C17w_fs0, C17w_fs0⟩ (setSeqNumPrims true .sender 10) 0 18 .process)).2.nextS = 19 := by
  simp only [setSeqNumPrims, fmt019_10]
  decide

def C17w_fs1 : FS := { header := some [49,44,48,44,53,10], body := some [65,65,65,65,65], session := some (timeText 5),
                         sender := some [48,48,48,48,48,48,48,48,48,48,48,48,48,48,48,48,48,48,57],
                         target := some [48,48,48,48,48,48,48,48,48,48,48,48,48,48,48,48,48,48,49] }
def C17w_st : FStore := { sync := true, opened := true }
def C17w_msgB : Bytes := [66,66,66,66,66,66,66,66,66,66,66,66]
def C17w_bigE : Int := 4611686018427387904

private theorem hl_2_5_12 : headerLine 2 5 12 = [50,44,53,44,49,50,10] := by simp [headerLine, fmtD, fmtInt, fmtNat, cComma, cNL]


private theorem savePrims_w : saveMessagePrims C17w_st C17w_fs1 2 C17w_msgB =
    [.write .body 5 C17w_msgB, .write .header 6 [50,44,53,44,49,50,10], .sync .body, .sync .header] := by
  simp [saveMessagePrims, C17w_st, C17w_fs1, C17w_msgB, len, hl_2_5_12, syncBH]

/-- why `dropIncompleteIndexLine` is needed — the raw image with a torn index line, cut inside the offset: reading the header as it
    is fails although save 1 had completed (a fresh store now truncates the header first: `C17_partial`) -/
theorem C17_witness_torn_header_fails :
    let img := crashImage ⟨C17w_fs1, C17w_fs1⟩ (saveMessagePrims C17w_st C17w_fs1 2 C17w_msgB) 1 3 .process
    fileIterate (img.header.getD []) (img.body.getD []) 0 C17w_bigE 0 = ([[65,65,65,65,65]], .err) := by
  simp only [savePrims_w]
  decide

/-- … cut inside the size: read as it is, one byte of a 12-byte message is returned for number 2 -/
theorem C17_witness_torn_header_bytes :
    let img := crashImage ⟨C17w_fs1, C17w_fs1⟩ (saveMessagePrims C17w_st C17w_fs1 2 C17w_msgB) 1 5 .process
    fileIterate (img.header.getD []) (img.body.getD []) 2 2 0 = ([[66]], .ok) := by
  simp only [savePrims_w]
  decide

def C17w_msgC : Bytes := [67,67,67,67,67,67,67,67,67,67]
private theorem hl_2_5_5 : headerLine 2 5 5 = [50,44,53,44,53,10] := by simp [headerLine, fmtD, fmtInt, fmtNat, cComma, cNL]
private theorem hl_2_5_10 : headerLine 2 5 10 = [50,44,53,44,49,48,10] := by simp [headerLine, fmtD, fmtInt, fmtNat, cComma, cNL]

private theorem savePrimsOrig_w : saveMessagePrimsOrig C17w_st C17w_fs1 2 [66,66,66,66,66] =
    [.write .header 6 [50,44,53,44,53,10], .write .body 5 [66,66,66,66,66], .sync .body, .sync .header] := by
  simp [saveMessagePrimsOrig, C17w_st, C17w_fs1, len, hl_2_5_5, syncBH]

/-- the original write order (index line first): the process dies between the two writes of `save 2 "BBBBB"`;
    after the restart the application saves number 2 again ("CCCCCCCCCC"): `GetMessages(2, 2)` now returns
    "CCCCC" — bytes never saved as a message — and "CCCCCCCCCC". -/
theorem C17_witness_header_before_body_orig :
    let img := crashImage ⟨C17w_fs1, C17w_fs1⟩ (saveMessagePrimsOrig C17w_st C17w_fs1 2 [66,66,66,66,66]) 1 0 .process
    let fs2 := applyPrims img [.write .body 5 C17w_msgC, .write .header 12 [50,44,53,44,49,48,10]]
    fileIterate (img.header.getD []) (img.body.getD []) 2 2 0 = ([], .err)
    ∧ fileIterate (fs2.header.getD []) (fs2.body.getD []) 2 2 0 = ([[67,67,67,67,67], C17w_msgC], .ok) := by
  simp only [savePrimsOrig_w]
  decide

/-- with the body written first the same crash point leaves only unreferenced bytes behind -/
theorem C17_fixed_order_same_point :
    let img := crashImage ⟨C17w_fs1, C17w_fs1⟩ (saveMessagePrims C17w_st C17w_fs1 2 C17w_msgB) 1 0 .process
    fileIterate (img.header.getD []) (img.body.getD []) 0 C17w_bigE 0 = ([[65,65,65,65,65]], .ok) := by
  simp only [savePrims_w]
  decide

private theorem torn19 (H B : Bytes) (ct T : Nat) :
    (viewOf (crashImage ⟨goodFS H B ct 9 T, goodFS H B ct 9 T⟩ (setSeqNumPrims true .sender 10) 0 18 .process)).1 = 19 := by
  have e9 : fmt019 ((9 : Nat) : Int) = [48,48,48,48,48,48,48,48,48,48,48,48,48,48,48,48,48,48,57] := fmt019_9
  simp only [setSeqNumPrims, goodFS, e9, fmt019_10]
  rfl

/-- history `setS 9` then `incS`, the process dies after 18 of the 19 bytes of the counter rewrite "…09" → "…10": the file
    reads "…19"; a fresh store reports NextSenderMsgSeqNum = 19, neither 9 nor 10.  (Replayed on the real store: corpus/C17/crash.ops
    case 1.) -/
theorem C17_full_false : ¬ C17_full := by
  intro hfull
  have ha : Asc none ([Op.setS 9] ++ [Op.incS]) := by simp [Asc, ascendingOk]
  have hf : FitsRun {} ([Op.setS 9] ++ [Op.incS]) := by simp [FitsRun, Fits, AStore.step, totalLen, maxInt]
  have hc := (hfull [.setS 9] .incS 0 18 .process ha hf).2.1
  -- the state after `setS 9`
  obtain ⟨⟨hi, ents, B, hR, _, _⟩, _⟩ := fileR_run [Op.setS 9] [.incS] {} _ ⟨none, [], [], fileR_init true, ha, hf⟩
  have hsync := open_run_sync true {} 0 [Op.setS 9]
  have hs9 : (({} : AStore).run [Op.setS 9]).1 = { sender := 9 } := by simp [AStore.run, AStore.step]
  rw [hs9] at hR hc
  simp only [C17_recovered, C17_view, recoveredView_eq] at hc
  generalize ((FileW.open true {} 0).run [Op.setS 9]).1 = w at hc hR hsync
  obtain ⟨⟨c, sync, opened⟩, fs, clock⟩ := w
  have hfs := hR.fs
  have hcs := hR.cs
  simp only at hsync hfs hcs
  subst hsync; subst hfs
  have hc9 : c.nextS + 1 = 10 := by rw [hcs]; rfl
  simp only [fileOpPrims, hc9] at hc
  rw [torn19] at hc
  simp [AStore.step] at hc

/-!
Clause checklist (properties.jsonl C17 → here)
* "reopening the store succeeds": the model's open cannot fail (no I/O errors modelled); monitor clause `reopen_fails` on the real store.
* "every message whose save had completed is returned intact", "each recovered counter equals its value before or after",
  "used ⇒ retrievable", "no torn or foreign bytes": `C17_partial` — the whole conclusion (`C17_conclusion`) for EVERY history, every
  operation, every crash point and cut of a process crash except inside a counter rewrite, and every power-loss point (syncing on;
  its premise is `C17_synced_between_ops`).  The recovered view is what a fresh store reports (`C17_view`, through `recoveredView_eq`).
* the full statement `C17_full` is false: `C17_full_false` (torn 19-byte counter on the history `setS 9; incS`; known finding).
* the three fixes the model follows: body before index line (`saveMessagePrims` vs `saveMessagePrimsOrig`,
  `C17_witness_header_before_body_orig`, `C17_fixed_order_same_point`), header removed before body in Reset (`removePrims` vs
  `removePrimsOrig`), incomplete trailing index line dropped on open (`truncPrims`; raw images: `C17_witness_torn_header_fails`,
  `C17_witness_torn_header_bytes`).  `C17_partial` is about the fixed code and would not hold for the original.
* building blocks kept: C17_power_cut_irrelevant, C17_partial_counter_boundary, C17_partial_save_boundary, C17_partial_save_power.
* SQL: C17_sql_atomic.
-/
