/-
  C05 — "Two engines deliver every application message exactly once across disconnects".
  Model: Qfx.Model.Link (two `Sess` joined by lossy FIFO links, restart on the persistent store).
  Property theorems only; the invariant and its preservation are in Qfx/Lemmas/LinkInv.lean (one engine: LinkK.lean), the
  resynchronisation in Qfx/Lemmas/LinkReplay.lean and LinkSettle.lean.

  properties.jsonl: "When two QuickFIX/Go engines are connected as initiator and acceptor and the connection is cut at
  arbitrary points, or either engine is discarded and recreated on its persistent store, every application message
  accepted for sending on one side is delivered to the other side's application exactly once and in submission order
  once the link stays up for a few heartbeat intervals; nothing is delivered that was not sent."

  Main result: `C05_safety` — after EVERY fault history the payloads handed to one side's application are a PREFIX of
  the payloads the other side accepted for sending (in order, exactly once, nothing that was not sent, nothing skipped),
  for all configurations with persistence on, the reset options off, mirrored CompIDs and the same BeginString
  (any role assignment, chunk size, heartbeat settings, latency check, …), all non-empty payloads, as long as the
  sequence numbers stay within Go's `int`.
  The statement without side conditions (`C05_safety_full`) is FALSE of the model: see the `#guard` below.
-/
import Qfx.Spec.Link
import Qfx.Props.C01
import Qfx.Lemmas.LinkSettle
import Qfx.Lemmas.LinkDegen
open Qfx Qfx.Sess Qfx.Link

theorem isPrefix_iff (a b : List String) : isPrefix a b = true ↔ ∃ t, b = a ++ t := by
  induction a generalizing b with
  | nil => simp [isPrefix]
  | cons x xs ih =>
    cases b with
    | nil => simp [isPrefix]
    | cons y ys =>
      simp only [isPrefix, Bool.and_eq_true, beq_iff_eq, ih, List.cons_append, List.cons.injEq]
      constructor
      · rintro ⟨rfl, t, rfl⟩; exact ⟨t, rfl, rfl⟩
      · rintro ⟨t, rfl, rfl⟩; exact ⟨rfl, t, rfl⟩

/-- the monitor's safety clause gives all four parts of the property at once: in submission order, exactly once,
    nothing that was not sent, nothing skipped -/
theorem C05_prefix_means (sent dlv : List String) (h : isPrefix dlv sent = true) (hnd : sent.Nodup) :
    dlv.Nodup ∧ (∀ p ∈ dlv, p ∈ sent) ∧ dlv = sent.take dlv.length := by
  obtain ⟨t, rfl⟩ := (isPrefix_iff dlv sent).1 h
  refine ⟨(List.nodup_append.1 hnd).1, fun p hp => List.mem_append_left _ hp, ?_⟩
  simp

/-- the links are faithful: number, kind, PossDup flag and payload of a written message are what the peer receives -/
theorem C05_link_faithful (cfg : Cfg) (m : OutMsg) :
    kindOf (toIn cfg m) = m.kind ∧ (toIn cfg m).f.get? 34 = some (toString m.seq)
    ∧ (toIn cfg m).f.get? 8 = some (bsName cfg.bs) ∧ (toIn cfg m).f.get? 49 = some cfg.sender ∧ (toIn cfg m).f.get? 56 = some cfg.target
    ∧ (toIn cfg m).f.get? 43 = m.f.get? 43 ∧ (toIn cfg m).f.get? 9000 = m.f.get? 9000 :=
  ⟨toIn_kind cfg m, toIn_hdr cfg m 34 _ rfl, toIn_hdr cfg m 8 _ rfl, toIn_hdr cfg m 49 _ rfl, toIn_hdr cfg m 56 _ rfl, toIn_get43 cfg m,
    toIn_get_body cfg m 9000 (by decide)⟩

/-- a MsgSeqNum written by one engine is read back by the other, for every number a Go `int` can hold -/
theorem C05_number_round_trip (cfg : Cfg) (m : OutMsg) (h : inInt64 m.seq) : getInt (toIn cfg m) 34 = .val m.seq :=
  getInt_of_get? _ _ _ (toIn_hdr cfg m 34 _ rfl) h

/-- each engine on its own hands messages to its application in order and exactly once (C01), whatever the other
    engine, the links and the faults do: any sequence of `lstep`s is a sequence of `step`s of each side -/
theorem C05_each_side_in_order (cfg : Cfg) (s0 t0 : Int) (evs : List Ev) :
    c01Accepts t0 (traceOf (initSess cfg s0 t0) evs) = true := C01_inorder_exactly_once cfg s0 t0 evs

/-- the state of the link after a fault history -/
def runLink (l : LSt) : List LEv → LSt
  | [] => l
  | e :: es => runLink (lstep l e).1 es

theorem runLink_eq (l : LSt) (evs : List LEv) : runLink l evs = runL l evs := by
  induction evs generalizing l with
  | nil => rfl
  | cons e es ih => exact ih _

/-- along the whole history both engines' next outbound numbers stay at or below Go's largest `int` (the model's numbers
    are unbounded integers, the wire parser wraps at 64 bits: beyond this point the model says nothing about Go) -/
def C05_numbers_fit (l : LSt) (evs : List LEv) : Prop := AllBnd l evs

/-- … which says exactly: in every state the history goes through -/
theorem C05_numbers_fit_iff (l : LSt) (evs : List LEv) :
    C05_numbers_fit l evs ↔ ∀ k, k ≤ evs.length →
      (runLink l (evs.take k)).a.store.sender ≤ maxSeq ∧ (runLink l (evs.take k)).b.store.sender ≤ maxSeq := by
  unfold C05_numbers_fit
  induction evs generalizing l with
  | nil =>
    simp only [AllBnd, Bnd, List.length_nil, Nat.le_zero, List.take_nil, runLink]
    exact ⟨fun h k _ => h, fun h => h 0 rfl⟩
  | cons e es ih =>
    simp only [AllBnd, ih, List.length_cons]
    constructor
    · rintro ⟨h0, h1⟩ k hk
      cases k with
      | zero => exact h0
      | succ k => exact h1 k (by omega)
    · intro h
      exact ⟨h 0 (by omega), fun k hk => h (k + 1) (by omega)⟩

/-- **C05, safety, every fault history.**  Persistence on and all reset options off on both sides, mirrored
    CompIDs, the same BeginString — every other setting free (roles, chunk size, heartbeat settings, latency check,
    RefreshOnLogon, DefaultApplVerID, the five validator settings) with no data dictionary configured (with one, whether the
    peer's traffic passes depends on what the dictionary says) and EnableNextExpectedMsgSeqNum off (with it a Logon is
    followed by a gap fill over whatever the peer's tag 789 reports missing — nothing is replayed; see `cexNxA` below) —
    every history of connects, sends on both sides (non-empty payload ids),
    deliveries of the oldest message in flight, cuts losing everything in flight, restarts of either engine on its
    store, timer events and flushes, as long as the sequence numbers fit a Go `int`: what B's application received is
    a prefix of what A's application submitted, and what A's received a prefix of what B's submitted. -/
theorem C05_safety (cfgA cfgB : Cfg) (evs : List LEv)
    (hst : cfgA.sender = cfgB.target) (hts : cfgA.target = cfgB.sender) (hbs : cfgA.bs = cfgB.bs)
    (hpa : cfgA.persist = true) (hpb : cfgB.persist = true)
    (ha1 : cfgA.resetOnLogon = false) (ha2 : cfgA.resetOnLogout = false) (ha3 : cfgA.resetOnDisconnect = false)
    (hb1 : cfgB.resetOnLogon = false) (hb2 : cfgB.resetOnLogout = false) (hb3 : cfgB.resetOnDisconnect = false)
    (hva : cfgA.validator.app = none) (hvb : cfgB.validator.app = none)
    (hnxa : cfgA.nextExpected = false) (hnxb : cfgB.nextExpected = false)
    (hpay : ∀ side p, LEv.send side p ∈ evs → p ≠ "")
    (hfit : C05_numbers_fit (linkInit cfgA cfgB) evs) :
    let l := runLink (linkInit cfgA cfgB) evs
    safe l.sentA l.sentB l.dlvA l.dlvB = true := by
  intro l
  by_cases hne : cfgA.sender = "" ∨ cfgA.target = ""
  · -- an empty CompID: no Logon is ever accepted, nothing is ever delivered
    have hb : cfgB.sender = "" ∨ cfgB.target = "" := by
      rcases hne with h | h
      · exact Or.inr (by rw [← hst]; exact h)
      · exact Or.inl (by rw [← hts]; exact h)
    have hbad : (cfgA.sender = "" ∨ cfgA.target = "") ∧ (cfgB.sender = "" ∨ cfgB.target = "") := ⟨hne, hb⟩
    have := LInvD_run hbad evs _ (LInvD_init cfgA cfgB) rfl rfl
    rw [← runLink_eq] at this
    exact safe_of_LInvD this
  · have hne1 : cfgA.sender ≠ "" := fun h => hne (Or.inl h)
    have hne2 : cfgA.target ≠ "" := fun h => hne (Or.inr h)
    have hcf : CfgsOK cfgA cfgB := ⟨hpa, hpb, ⟨ha1, ha2, ha3⟩, ⟨hb1, hb2, hb3⟩, hst, hts, hbs, hne1, hne2, hva, hvb, hnxa, hnxb⟩
    have := LInv_run hcf evs _ (LInv_init cfgA cfgB) (evOKL_of_payloads hpay) hfit
    rw [← runLink_eq] at this
    exact safe_of_LInv this

/-- the same, clause by clause, in both directions (payload ids are unique): nothing is delivered that was not
    sent, nothing is delivered twice, and the deliveries are the first submissions in submission order -/
theorem C05_safety_clauses (cfgA cfgB : Cfg) (evs : List LEv)
    (hst : cfgA.sender = cfgB.target) (hts : cfgA.target = cfgB.sender) (hbs : cfgA.bs = cfgB.bs)
    (hpa : cfgA.persist = true) (hpb : cfgB.persist = true)
    (ha1 : cfgA.resetOnLogon = false) (ha2 : cfgA.resetOnLogout = false) (ha3 : cfgA.resetOnDisconnect = false)
    (hb1 : cfgB.resetOnLogon = false) (hb2 : cfgB.resetOnLogout = false) (hb3 : cfgB.resetOnDisconnect = false)
    (hva : cfgA.validator.app = none) (hvb : cfgB.validator.app = none)
    (hnxa : cfgA.nextExpected = false) (hnxb : cfgB.nextExpected = false)
    (hpay : ∀ side p, LEv.send side p ∈ evs → p ≠ "")
    (hfit : C05_numbers_fit (linkInit cfgA cfgB) evs) :
    let l := runLink (linkInit cfgA cfgB) evs
    (∀ p ∈ l.dlvB, p ∈ l.sentA) ∧ (∀ p ∈ l.dlvA, p ∈ l.sentB) ∧
    (l.sentA.Nodup → l.dlvB.Nodup ∧ l.dlvB = l.sentA.take l.dlvB.length) ∧
    (l.sentB.Nodup → l.dlvA.Nodup ∧ l.dlvA = l.sentB.take l.dlvA.length) := by
  intro l
  have h := C05_safety cfgA cfgB evs hst hts hbs hpa hpb ha1 ha2 ha3 hb1 hb2 hb3 hva hvb hnxa hnxb hpay hfit
  simp only [safe, Bool.and_eq_true] at h
  obtain ⟨t1, e1⟩ := (isPrefix_iff _ _).1 h.1
  obtain ⟨t2, e2⟩ := (isPrefix_iff _ _).1 h.2
  refine ⟨fun p hp => ?_, fun p hp => ?_, fun hn => ?_, fun hn => ?_⟩
  · show p ∈ l.sentA; rw [e1]; exact List.mem_append_left _ hp
  · show p ∈ l.sentB; rw [e2]; exact List.mem_append_left _ hp
  · have := C05_prefix_means _ _ h.1 hn; exact ⟨this.1, this.2.2⟩
  · have := C05_prefix_means _ _ h.2 hn; exact ⟨this.1, this.2.2⟩

/-- the invariant behind `C05_safety` after every history (non-empty CompIDs): each store is filed by number with
    well-formed messages; everything queued or in flight was written by the sending engine from its store (a stored
    message, its PossDup copy, or a gap fill over administrative numbers only); the receiver's expected number never
    passes the sender's next number; what was delivered is EXACTLY the payloads of the sender's application messages
    numbered below the receiver's expected number, and what was submitted is the payloads of all of them -/
theorem C05_invariant (cfgA cfgB : Cfg) (evs : List LEv) (hcf : CfgsOK cfgA cfgB)
    (hpay : ∀ side p, LEv.send side p ∈ evs → p ≠ "") (hfit : C05_numbers_fit (linkInit cfgA cfgB) evs) :
    let l := runLink (linkInit cfgA cfgB) evs
    LInv cfgA cfgB l ∧
    l.b.store.target ≤ l.a.store.sender ∧ l.a.store.target ≤ l.b.store.sender ∧
    l.dlvB = appPay (below l.b.store.target l.a.store.msgs) ∧ l.sentA = appPay l.a.store.msgs ∧
    l.dlvA = appPay (below l.a.store.target l.b.store.msgs) ∧ l.sentB = appPay l.b.store.msgs := by
  intro l
  have h : LInv cfgA cfgB l := by
    have := LInv_run hcf evs _ (LInv_init cfgA cfgB) (evOKL_of_payloads hpay) hfit
    rw [← runLink_eq] at this
    exact this
  exact ⟨h, h.ab.t2, h.ba.t2, h.ab.dlv, h.ab.sent, h.ba.dlv, h.ba.sent⟩

/-- the invariant behind `C05_safety`, one link event at a time (for use by other proofs) -/
theorem C05_invariant_step (cfgA cfgB : Cfg) (hcf : CfgsOK cfgA cfgB) (l : LSt) (h : LInv cfgA cfgB l) (e : LEv) (hev : EvOKL e)
    (hb0 : Bnd l) (hb1 : Bnd (lstep l e).1) : LInv cfgA cfgB (lstep l e).1 := LInv_lstep hcf h e hev hb0 hb1

/-! ### the statement without side conditions is false of the model -/

/-- the end-to-end statement with no condition on the payloads, the CompIDs or the numbers -/
def C05_safety_full : Prop :=
  ∀ (cfgA cfgB : Cfg) (evs : List LEv),
    cfgA.initiator = true → cfgB.initiator = false → cfgA.sender = cfgB.target → cfgA.target = cfgB.sender → cfgA.bs = cfgB.bs →
    cfgA.persist = true → cfgB.persist = true →
    cfgA.resetOnLogon = false → cfgA.resetOnLogout = false → cfgA.resetOnDisconnect = false →
    cfgB.resetOnLogon = false → cfgB.resetOnLogout = false → cfgB.resetOnDisconnect = false →
    cfgA.validator.app = none → cfgB.validator.app = none →
    cfgA.nextExpected = false → cfgB.nextExpected = false →
    let l := runLink (linkInit cfgA cfgB) evs
    safe l.sentA l.sentB l.dlvA l.dlvB = true

def cexA : Cfg := { initiator := true, sender := "A", target := "B" }
def cexB : Cfg := { initiator := false, sender := "B", target := "A" }
/-- logon handshake; A submits a message whose only body field has an EMPTY value ("9000="), then a proper one -/
def cexHistory : List LEv :=
  [.connect, .deliver .B, .deliver .A, .send .A "", .flush .A, .deliver .B, .send .A "x", .flush .A, .deliver .B]

-- COUNTEREXAMPLE to `C05_safety_full` (evaluated by the interpreter; String functions do not reduce in the kernel):
-- B's validator rejects the first message as malformed (session Reject, "tag specified without a value"), consumes
-- its number and never hands it to the application; the second one is delivered: dlvB = ["x"] is not a prefix of
-- sentA = ["", "x"].  The configurations satisfy every hypothesis of `C05_safety_full`.
#guard (let l := runLink (linkInit cexA cexB) cexHistory; (l.sentA, l.dlvB)) == (["", "x"], ["x"])
#guard (let l := runLink (linkInit cexA cexB) cexHistory; safe l.sentA l.sentB l.dlvA l.dlvB) == false
#guard cexA.initiator && !cexB.initiator && cexA.sender == cexB.target && cexA.target == cexB.sender && cexA.bs == cexB.bs
  && cexA.persist && cexB.persist && !cexA.resetOnLogon && !cexA.resetOnLogout && !cexA.resetOnDisconnect
  && !cexB.resetOnLogon && !cexB.resetOnLogout && !cexB.resetOnDisconnect && cexA.validator.app.isNone && cexB.validator.app.isNone
  && !cexA.nextExpected && !cexB.nextExpected

/-! ### EnableNextExpectedMsgSeqNum on both engines (hypotheses `hnxa hnxb` of `C05_safety`: the theorems say nothing then)

What the code does (observation, no property speaks about tag 789): the initiator's Logon announces `NextTargetMsgSeqNum()+1`
in tag 789, one more than it expects; a quickfix acceptor in sync with it has exactly that number minus one as its next
outbound number and refuses the Logon ("Tag 789 is higher than expected"): the first logon attempt of two fresh engines
fails with a Logout.  (The Logout takes number 1, so the second attempt is accepted — and leaves the initiator in recovery.) -/
def cexNxA : Cfg := { cexA with nextExpected := true }
def cexNxB : Cfg := { cexB with nextExpected := true }
#guard (let l := runLink (linkInit cexNxA cexNxB) [.connect, .deliver .B]
        (l.b.st.name, l.b2a.map (fun o => (o.kind, o.seq)), l.a2b.length)) == ("Latent", [("5", 1)], 0)
#guard (let l := runLink (linkInit cexNxA cexNxB) [.connect, .deliver .B, .deliver .A, .connect, .deliver .B, .deliver .A]
        (l.a.st.name, l.b.st.name)) == ("Resend", "InSession")
#guard (let l := runLink (linkInit cexA cexB) [.connect, .deliver .B, .deliver .A]; (l.a.st.name, l.b.st.name)) == ("InSession", "InSession")

/-- the mechanism behind the counterexample, for every state: an application message whose payload field is empty,
    arriving exactly at the expected number, is refused by the default validator with ValidateFieldsHaveValues on (its
    default) (Reject, reason 4, RefTagID 9000), its number
    is consumed and it is NOT handed to the application -/
theorem C05_empty_payload_is_consumed (s : Sess) (pcfg : Cfg) (hst : s.cfg.sender = pcfg.target) (hts : s.cfg.target = pcfg.sender)
    (hbs : s.cfg.bs = pcfg.bs) (hs : pcfg.sender ≠ "") (ht : pcfg.target ≠ "") (hn : inInt64 s.store.target)
    (happ : s.cfg.validator.app = none) (hhv : s.cfg.validator.settings.checkHaveValues = true) :
    inSessionFixMsgIn s (toIn pcfg (appMsg s.store.target "")) =
      (incrTarget (doReject s (toIn pcfg (appMsg s.store.target "")) 4 (some 9000) false), .inSession) := by
  have hk : kindOf (toIn pcfg (appMsg s.store.target "")) = "D" := toIn_kind _ _
  have hseq : getInt (toIn pcfg (appMsg s.store.target "")) 34 = .val s.store.target := getInt_of_get? _ _ _ (toIn_hdr _ _ 34 _ rfl) hn
  have hv : verifySelect s (toIn pcfg (appMsg s.store.target "")) true true true = (s, some (noValue 9000)) := by
    rw [verifySelect_complete s _ true true true (by unfold BeginOK; rw [toIn_hdr _ _ 8 _ rfl, hbs])
      (by unfold CompOK; rw [toIn_hdr _ _ 49 _ rfl, toIn_hdr _ _ 56 _ rfl, hst, hts]; exact ⟨rfl, rfl, String.isEmpty_eq_false_iff.2 hs, String.isEmpty_eq_false_iff.2 ht⟩)
      (Or.inr (Or.inr ⟨0, getTime_at0 _ _ (toIn_hdr _ _ 52 _ rfl), by omega, by omega⟩))
      ⟨fun _ => ⟨_, hseq, Int.le_refl _⟩, fun _ => ⟨_, hseq, Int.le_refl _⟩⟩]
    simp only [if_true]
    unfold verifyAppImpl
    rw [validate_empty_payload s.cfg pcfg _ hs ht happ hhv]
  rw [inSession_other s _ (by rw [hk]; decide) (by rw [hk]; decide) (by rw [hk]; decide) (by rw [hk]; decide) (by rw [hk]; decide), hv]
  simp [processReject, noValue]

/-! ### non-vacuity of `C05_safety` (interpreter): a history with a cut, a restart, a gap, a resend and a gap fill -/

instance (l : LSt) : Decidable (Bnd l) := by unfold Bnd; infer_instance
instance decAllBnd : (l : LSt) → (evs : List LEv) → Decidable (AllBnd l evs)
  | l, [] => by unfold AllBnd; infer_instance
  | l, e :: es => by unfold AllBnd; exact @instDecidableAnd _ _ _ (decAllBnd (lstep l e).1 es)

def demoHistory : List LEv :=
  [.connect, .deliver .B, .deliver .A,                       -- logon handshake
   .send .A "a1", .flush .A, .deliver .B,                    -- a1 delivered
   .send .A "a2", .flush .A, .send .B "b1", .flush .B,       -- a2, b1 in flight …
   .cut,                                                     -- … and lost
   .restart .B,                                              -- B recreated on its store
   .send .A "a3",                                            -- queued while down
   .connect, .deliver .B, .deliver .A,                       -- logon again: each side sees a gap and queues a ResendRequest
   .flush .A, .flush .B,                                     -- the requests go out
   .deliver .B, .deliver .B, .deliver .B,                    -- B answers: b1 resent, gap fill over its administrative messages
   .deliver .A, .deliver .A, .deliver .A, .deliver .A,       -- A answers: a2, a3 resent, gap fill; A gets b1
   .deliver .B, .deliver .B, .deliver .B, .deliver .B]       -- B gets a2, a3

instance (l : LSt) (evs : List LEv) : Decidable (C05_numbers_fit l evs) := decAllBnd l evs

#guard decide (C05_numbers_fit (linkInit cexA cexB) demoHistory)
#guard (let l := runLink (linkInit cexA cexB) demoHistory; (l.sentA, l.dlvB, l.sentB, l.dlvA)) == (["a1", "a2", "a3"], ["a1", "a2", "a3"], ["b1"], ["b1"])

/-- the FULL liveness statement (not proved in this generality: ResendRequest chunking is not covered).  From every state
    a fault history can reach, some schedule of settling events — a reconnect (cut, connect), deliveries, run-loop flushes
    of the send queue — makes delivered = submitted in both directions without submitting anything new.  Hypotheses beyond
    those of `C05_safety`: the roles, non-empty CompIDs, a DefaultApplVerID when the transport is FIXT.1.1 (otherwise no
    Logon is ever accepted), head-room for the numbers the resynchronisation itself uses. -/
def C05_liveness_full : Prop :=
  ∀ (cfgA cfgB : Cfg) (evs : List LEv),
    CfgsOK cfgA cfgB → cfgA.initiator = true → cfgB.initiator = false →
    (cfgA.bs = 5 → cfgA.applVer ≠ "" ∧ cfgB.applVer ≠ "") →
    (∀ side p, LEv.send side p ∈ evs → p ≠ "") → C05_numbers_fit (linkInit cfgA cfgB) evs →
    let l := runLink (linkInit cfgA cfgB) evs
    (l.a.store.sender + l.b.store.sender) * 2 + 3 ≤ maxSeq →
    ∃ sched : List LEv, (∀ e ∈ sched, SettleEv e) ∧
      let l' := runLink l sched
      l'.dlvB = l'.sentA ∧ l'.dlvA = l'.sentB ∧ l'.sentA = l.sentA ∧ l'.sentB = l.sentB

/-- **liveness (a): no gap.**  Any link state satisfying the invariant in which both engines are logged on and each link
    carries exactly the peer's messages from the receiver's expected number up to the sender's next number (`Seg`:
    application messages, heartbeats, rejects, PossDup copies, gap fills — nothing that needs an answer): delivering
    everything in flight makes delivered = submitted in both directions, with nothing left in flight. -/
theorem C05_liveness_nogap (cfgA cfgB : Cfg) (hcf : CfgsOK cfgA cfgB) (l : LSt) (h : LInv cfgA cfgB l) (hb : Bnd l)
    (hsa : RecvAt l.a.st l.a.store.target) (hsb : RecvAt l.b.st l.b.store.target) (hoa : l.a.out = true) (hob : l.b.out = true)
    (hab : Seg l.a.store l.b.store.target l.a2b l.a.store.sender) (hba : Seg l.b.store l.a.store.target l.b2a l.b.store.sender) :
    let l' := runLink l (List.replicate l.a2b.length (.deliver .B) ++ List.replicate l.b2a.length (.deliver .A))
    l'.dlvB = l'.sentA ∧ l'.dlvA = l'.sentB ∧ l'.a2b = [] ∧ l'.b2a = [] ∧ LInv cfgA cfgB l' := by
  intro l'
  have := settle_nogap hcf l h hb hsa hsb hab hba
  rw [← runLink_eq] at this
  exact this

/-- **liveness (b), any state: reconnect, no chunking.**  Configurations as for safety plus the roles, chunk size 0 on both
    sides and a DefaultApplVerID under FIXT.  From ANY link state that satisfies the invariants (`LInv`, every used number
    stored, not outside the session time), with three numbers of head-room: the schedule
    `cut, connect, deliver B, deliver A, flush A, flush B` followed by deliveries only (each side's ResendRequest, then
    each replay) ends `Settled`: delivered = submitted in both directions, nothing in flight, both engines in session —
    whatever the gaps (none, on either side, on both sides), and nothing new is submitted. -/
theorem C05_liveness_reconnect_state (cfgA cfgB : Cfg) (hl : LiveCfg cfgA cfgB) (l : LSt) (h : LInv cfgA cfgB l) (hf : LFull l)
    (ht : InTime l) (hb : Bnd l)
    (hb3 : (lstep l .cut).1.a.store.sender + 3 ≤ maxSeq ∧ (lstep l .cut).1.b.store.sender + 3 ≤ maxSeq) :
    ∃ sched, (∀ e ∈ sched, SettleEv e) ∧ Settled cfgA cfgB (runLink l sched) ∧
      (runLink l sched).sentA = l.sentA ∧ (runLink l sched).sentB = l.sentB := by
  obtain ⟨sched, h1, h2, h3, h4⟩ := settle_reconnect hl h hf ht hb hb3
  exact ⟨sched, h1, by rw [runLink_eq]; exact h2, by rw [runLink_eq]; exact h3, by rw [runLink_eq]; exact h4⟩

/-- **liveness (b)/(d), every fault history, no chunking.**  After EVERY fault history (non-empty payloads, numbers within
    Go's `int`, three numbers of head-room after the cut) there is a settling schedule — a reconnect, the Logon exchange,
    one flush per side, deliveries — after which both delivered lists EQUAL the submitted lists, nothing is in flight and
    both engines are in session. -/
theorem C05_liveness_reconnect (cfgA cfgB : Cfg) (evs : List LEv) (hl : LiveCfg cfgA cfgB)
    (hpay : ∀ side p, LEv.send side p ∈ evs → p ≠ "") (hfit : C05_numbers_fit (linkInit cfgA cfgB) evs) :
    let l := runLink (linkInit cfgA cfgB) evs
    (lstep l .cut).1.a.store.sender + 3 ≤ maxSeq ∧ (lstep l .cut).1.b.store.sender + 3 ≤ maxSeq →
    ∃ sched : List LEv, (∀ e ∈ sched, SettleEv e) ∧
      let l' := runLink l sched
      l'.dlvB = l'.sentA ∧ l'.dlvA = l'.sentB ∧ l'.a2b = [] ∧ l'.b2a = [] ∧ l'.a.st = .inSession ∧ l'.b.st = .inSession ∧
      l'.sentA = l.sentA ∧ l'.sentB = l.sentB := by
  intro l hb3
  have hl' : l = runL (linkInit cfgA cfgB) evs := runLink_eq _ _
  have hinv : LInv cfgA cfgB l := by rw [hl']; exact LInv_run hl.ok evs _ (LInv_init cfgA cfgB) (evOKL_of_payloads hpay) hfit
  have hfull : LFull l := by rw [hl']; exact LFull_run hl.ok.pa hl.ok.pb evs _ rfl rfl (LFull_init cfgA cfgB)
  have htime : InTime l := by rw [hl']; exact InTime_run evs _ (InTime_init cfgA cfgB)
  have hbnd : Bnd l := by rw [hl']; exact AllBnd.last hfit
  obtain ⟨sched, h1, h2, h3, h4⟩ := C05_liveness_reconnect_state cfgA cfgB hl l hinv hfull htime hbnd hb3
  exact ⟨sched, h1, h2.db, h2.da, h2.ea, h2.eb, h2.sa, h2.sb, h3, h4⟩

/-! ### non-vacuity of the liveness theorems (interpreter) -/

/-- a faulty history: traffic lost in both directions by a cut, B recreated on its store, messages accepted while down
    on both sides -/
def faultyHistory : List LEv :=
  [.connect, .deliver .B, .deliver .A, .send .A "a1", .flush .A, .deliver .B,
   .send .A "a2", .flush .A, .send .B "b1", .flush .B, .cut, .restart .B, .send .A "a3", .send .B "b2"]

/-- the schedule of `C05_liveness_reconnect` for it (gaps on both sides): reconnect, Logons, flushes, the two
    ResendRequests, then A's replay (3 elements) and B's replay (3 elements) -/
def settleSchedule : List LEv :=
  [.cut, .connect, .deliver .B, .deliver .A, .flush .A, .flush .B, .deliver .B, .deliver .A,
   .deliver .B, .deliver .B, .deliver .B, .deliver .A, .deliver .A, .deliver .A]

def liveA : Cfg := { initiator := true, sender := "A", target := "B", chunk := 0 }
def liveB : Cfg := { initiator := false, sender := "B", target := "A", chunk := 0 }

#guard decide (C05_numbers_fit (linkInit liveA liveB) (faultyHistory ++ settleSchedule))
#guard (let l := runLink (linkInit liveA liveB) faultyHistory; (l.sentA, l.dlvB, l.sentB, l.dlvA)) == (["a1", "a2", "a3"], ["a1"], ["b1", "b2"], [])
#guard (let l := runLink (runLink (linkInit liveA liveB) faultyHistory) settleSchedule
        (l.sentA, l.dlvB, l.sentB, l.dlvA, l.a2b.length, l.b2a.length, l.a.st.name, l.b.st.name)) ==
       (["a1", "a2", "a3"], ["a1", "a2", "a3"], ["b1", "b2"], ["b1", "b2"], 0, 0, "InSession", "InSession")

-- why the schedule contains a reconnect: with deliveries, flushes and heartbeat timers alone a link can stay stuck for ever
-- (here: B was recreated while the connection stayed up — A waits for an answer to its TestRequest, B waits for a Logon).
-- The real engines behave the same on these ops (corpus/C05/stuck-without-timeouts.ops, `qfxh link -replay`); they get
-- out by their own peer / logon / logout timeouts, which end in a disconnect, i.e. the reconnect of the schedule.
def stuckHistory : List LEv :=
  [.connect, .deliver .B, .deliver .A, .timer .B .logoutTimeout, .timer .B .logonTimeout, .send .B "p2", .deliver .B, .deliver .B,
   .timer .A .peerTimeout, .restart .B, .deliver .B, .flush .B, .connect]
def quietRound : List LEv :=
  [.deliver .B, .deliver .A, .flush .A, .flush .B, .deliver .B, .deliver .A, .timer .A .needHeartbeat, .timer .B .needHeartbeat,
   .deliver .B, .deliver .A]
#guard (let l := runLink (runLink (linkInit liveA liveB) stuckHistory) (quietRound ++ quietRound ++ quietRound)
        (l.sentB, l.dlvA, l.a.st.name, l.b.st.name)) == (["p2"], [], "Pending:InSession", "Logon")
-- … and FIXT.1.1 without a DefaultApplVerID never logs on (hypothesis `LiveCfg.va` / `vb`):
#guard (let l := runLink (runLink (linkInit { liveA with bs := 5 } { liveB with bs := 5 }) faultyHistory) settleSchedule
        (l.sentA, l.dlvB)) == (["a1", "a2", "a3"], [])

/-! ### what the silence of the monitor means (used by BOTH families that evaluate it on real engines: `link`, where the
    model also predicts every observation, and `sock`, where the schedule is real and the monitor alone decides) -/

/-- before settling the monitor is silent exactly when the safety clause of `C05_safety` holds of the observed lists -/
theorem C05_monitor_silent_iff_safe (sa sb da db : List String) :
    monLink false sa sb da db = [] ↔ safe sa sb da db = true := by
  unfold monLink safe
  cases h1 : isPrefix db sa <;> cases h2 : isPrefix da sb <;> simp

theorem C05_isPrefix_self (a : List String) : isPrefix a a = true := by
  induction a with
  | nil => rfl
  | cons x xs ih => simp [isPrefix, ih]

theorem C05_isPrefix_len_eq (a b : List String) (h : isPrefix a b = true) (hl : a.length = b.length) : a = b := by
  obtain ⟨t, e⟩ := (isPrefix_iff a b).1 h
  have : t = [] := by
    have hlen := congrArg List.length e
    simp at hlen
    apply List.eq_nil_of_length_eq_zero
    omega
  simp [e, this]

/-- after settling the monitor is silent exactly when both applications received exactly what the other side submitted -/
theorem C05_monitor_settled_silent_iff (sa sb da db : List String) :
    monLink true sa sb da db = [] ↔ (db = sa ∧ da = sb) := by
  constructor
  · intro h
    unfold monLink at h
    cases h1 : isPrefix db sa <;> cases h2 : isPrefix da sb <;> simp [h1, h2] at h
    exact ⟨C05_isPrefix_len_eq _ _ h1 h.1, C05_isPrefix_len_eq _ _ h2 h.2⟩
  · rintro ⟨rfl, rfl⟩
    simp [monLink, C05_isPrefix_self]

/-!
Clause checklist (properties.jsonl C05)
* nothing is delivered that was not sent                              : C05_safety (monitor clause `safe`), C05_safety_clauses (1st, 2nd part)
* delivered exactly once (no payload twice)                            : C05_safety, C05_safety_clauses (`Nodup`)
* in submission order, nothing skipped                                 : C05_safety, C05_safety_clauses (`dlv = sent.take dlv.length`)
* "connection cut at arbitrary points (losing any suffix in flight)"   : `LEv.cut` after any number of `LEv.deliver` — every history is covered
* "either engine discarded and recreated on its persistent store"      : `LEv.restart` (persist = true on both sides is a hypothesis)
* "sequence resets disabled"                                           : hypotheses resetOnLogon / resetOnLogout / resetOnDisconnect = false
* the invariant itself (expected number vs. next number, delivered = payloads below the expected number) : C05_invariant, C05_invariant_step
* per engine: in order and exactly once by number                      : C05_each_side_in_order (C01)
* the links carry messages faithfully; numbers survive the wire        : C05_link_faithful, C05_number_round_trip
* why the payload condition is needed, for every state                 : C05_empty_payload_is_consumed
* side conditions of C05_safety, all satisfiable (demoHistory, #guard) : non-empty payload ids (an empty tag value is rejected
    as malformed by the peer and consumed: `cexHistory`, the statement without this condition `C05_safety_full` is FALSE);
    numbers within Go's `int` (`C05_numbers_fit`).  (Empty CompIDs need no condition: no Logon is then ever accepted
    and nothing is delivered — Lemmas/LinkDegen.lean.)
* "every message … is delivered … once the link stays up for a few heartbeat intervals" (liveness):
    - no gap, everything in flight gets delivered                                  : C05_liveness_nogap
    - from EVERY reachable state, after a reconnect, ResendRequestChunkSize = 0     : C05_liveness_reconnect (reachable), C05_liveness_reconnect_state
      (gaps on neither / either / both sides; schedule = cut, connect, both Logons, one flush per side, deliveries)
    - with chunking (chunk size > 0)                                                : NOT proved — `def C05_liveness_full`; sampled by the `link`
      family (monitor clause `C05.not_all_delivered_after_settle`) and 27 000 generated histories of the Lean model (chunk 0–3), all settle
    - side conditions: roles, DefaultApplVerID under FIXT (else no Logon is accepted: #guard), head-room for the numbers; the schedule needs the
      reconnect (or the peer / logon / logout timeouts): heartbeats alone can leave a link stuck (`stuckHistory`, same on the real engines)
* the socket / goroutine layer (acceptor.go, initiator.go, connection.go, the run loop): NOT modelled.  The `sock` family runs two
    real engines behind real sockets and a fault-injecting proxy and evaluates the SAME `monLink` on each round
    (`C05_monitor_silent_iff_safe`, `C05_monitor_settled_silent_iff` say what its silence means); one round = one schedule: SAMPLED
-/
