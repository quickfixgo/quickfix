/-
  C15 — validation accepts conforming messages and names the defect otherwise.

  Theorems about the validator model `Qfx.Validate.validate` (mirror of validation.go), for EVERY dictionary view
  `VDict`, every parsed message and all 2^5 settings (no sampling).  `tr`/`app` are the transport / application
  dictionaries of `validatePipeline` (FIX 4.x: both the same dictionary; FIXT: admin types use the transport one twice).

  Clause checklist (statement of C15 → theorem):
    accepts conforming                 C15_accepts (+ _fix, _fixt, _sections): instance trees WITH repeating groups (`Inst`, `InstOK`,
                                       `EntryOK` of Spec/ValidateTree.lean), nested groups included, with validateWalk's own budget
                                       `walkFuel` shown adequate for dictionaries whose member lists are shorter than 3998
                                       (`fd.maxWidth + 3 ≤ 4000`; the walk of an instance needs ≤ wire fields × (maxWidth + 3) fuel);
                                       core lemma C15_visit_conforming (explicit fuel) / C15_visit_conforming_ex, C15_walk_conforming;
                                       group-free special case C15_accepts_flat (+ _fix, _fixt)
    unknown msg type                   C15_defect_unknown_msgtype, C15_defect_unknown_msgtype_fixt
    required missing (top level)       C15_defect_required_missing_body, C15_defect_required_missing_header
    required missing (in group entry)  C15_defect_group_required_missing (visitField level: mid-entry, end of a non-last entry — the
                                       `fix:` — and end of the last entry), C15_defect_group_required_missing_pipeline (top-level group);
                                       something must follow the entry (`es2 ≠ [] ∨ rest ≠ []`): when the field list ends right after
                                       the incomplete last entry the loop — Go's `for len(fieldStack) > 0` as well — ends silently;
                                       on a parsed message the trailer always follows
    tag not in dictionary              C15_defect_not_in_dictionary (+ C15_relaxed_not_in_dictionary)
    empty value                        C15_defect_empty_value (RejectInvalidMessage route); CheckFieldsHaveValues route:
                                       C15_defect_empty_value_content (first empty field), C15_defect_empty_value_pipeline
    bad enum / bad format              C15_defect_bad_enum, C15_defect_bad_format
    duplicate tag                      C15_defect_duplicate_tag
    tag not defined for type           C15_defect_not_defined_for_type_walk, C15_defect_not_defined_for_type (pipeline; plain prefix),
                                       C15_relaxed_not_defined_for_type
    group count mismatch               C15_defect_group_count (16), C15_defect_group_count_unreadable (6), C15_defect_group_count_pipeline
    member out of order                C15_defect_member_order: TOP-LEVEL group, two adjacent PLAIN members of an entry swapped
                                       (`EntrySwapped`; the delimiter is not one of them), displaced tag < 5000 and not a top-level
                                       field of its section, unknown fields not tolerated ⇒ reject with reason 1, 16 or 2 (⊆ the
                                       spec's {15,14,16,1,2}).  Nested groups and swaps involving the delimiter: monitor only
    header/body/trailer order          C15_defect_section_order, C15_defect_section_order_pipeline, C15_defect_section_order_behind_trailer,
                                       C15_orig_accepts_body_behind_trailer (witness for the repaired defect)
    settings that relax                C15_relaxed_reject_invalid, C15_relaxed_content, C15_relaxed_not_in_dictionary,
                                       C15_relaxed_not_defined_for_type
    generic                            C15_pipeline_to_walk (stages before the walk), C15_defect_walk_first (first failing top-level field)
  Five of the theorems restate a lemma of Lemmas/Validate.lean / ValidateGroups.lean under the property's name.
  Statements differ from the informal ones in: the field after an instance must be outside the definition's MEMBER tags
  (`HeadNotIn fd.childTags`, weaker than `∉ fd.allTags`); fuel bounds are explicit, never existential, in the pipeline theorems.
-/
import Qfx.Lemmas.ValidateGroups
open Qfx Qfx.Dict Qfx.Validate

/-- what a conforming message without repeating groups is, for the pipeline over (`tr`, `app`) -/
structure C15_ConformingFlat (tr app : VDict) (m : PMsg) (mt : Bytes) (h b t : MDef) : Prop where
  hdef : tr.header = some h
  bdef : app.msg? mt = some b
  tdef : tr.trailer = some t
  reqH : ∀ x ∈ h.reqTags, x ∈ m.hdr
  reqB : ∀ x ∈ b.reqTags, x ∈ m.body
  reqT : ∀ x ∈ t.reqTags, x ∈ m.trl
  sectioned : Sectioned m.fields
  values : AllValues m.fields
  nodup : (m.fields.map (·.tag)).Nodup
  typed : ∀ f ∈ m.fields, ∃ ft p, (if isHeaderTag f.tag || isTrailerTag f.tag then tr else app).ftype f.tag = some ft ∧
            (ft.enums = [] ∨ f.value ∈ ft.enums) ∧ ft.proto = some p ∧ protoReads p f.value = true
  plain : ∀ f ∈ m.fields, PlainDefined tr b f

theorem C15_walk_fuel (m : PMsg) : m.fields.length + 2 < walkFuel m := by
  unfold walkFuel; omega

/-- the three dictionary-independent stages and the per-field stage pass on a conforming flat message -/
theorem C15_accepts_flat (tr app : VDict) (s : Settings) (m : PMsg) (mt : Bytes) (h b t : MDef)
    (c : C15_ConformingFlat tr app m mt h b t) : validatePipeline tr app s mt m = .ok () := by
  rw [validatePipeline_walk ⟨c.hdef, c.bdef, c.tdef, c.reqH, c.reqB, c.reqT⟩ c.sectioned c.values
    (fun f hf _ => validateField_ok_of_typed (c.values f hf) (c.typed f hf)),
    walkLoop_flat tr app s b m.fields _ (Nat.lt_of_succ_lt (C15_walk_fuel m)) c.nodup c.plain,
    ite_self]

/-- FIX 4.x validator (`NewValidator(settings, dd, nil)`) accepts every conforming flat message under all settings -/
theorem C15_accepts_flat_fix (d : VDict) (s : Settings) (m : PMsg) (mt : Bytes) (h b t : MDef)
    (h35 : 35 ∈ m.hdr) (hmt : m.msgType = some mt) (c : C15_ConformingFlat d d m mt h b t) :
    validate d none s m = .ok () := by
  simp [validate, h35, hmt, C15_accepts_flat d d s m mt h b t c]

/-- FIXT validator on an application message -/
theorem C15_accepts_flat_fixt (app tr : VDict) (s : Settings) (m : PMsg) (mt : Bytes) (h b t : MDef)
    (h35 : 35 ∈ m.hdr) (hmt : m.msgType = some mt) (hadm : isAdminMsgType mt = false)
    (c : C15_ConformingFlat tr app m mt h b t) :
    validate app (some tr) s m = .ok () := by
  simp [validate, h35, hmt, hadm, C15_accepts_flat tr app s m mt h b t c]

/-- an unknown MsgType is named with reason 11 whatever the settings and the rest of the message (FIX 4.x validator) -/
theorem C15_defect_unknown_msgtype (app : VDict) (s : Settings) (m : PMsg) (mt : Bytes)
    (h35 : 35 ∈ m.hdr) (hmt : m.msgType = some mt) (hunk : app.msg? mt = none) :
    validate app none s m = .error (.reject ⟨11, none⟩) := by
  simp [validate, h35, hmt, validatePipeline, validateMsgType, hunk, bind, Except.bind]

/-- … and by the FIXT validator for a non-admin type unknown to the application dictionary -/
theorem C15_defect_unknown_msgtype_fixt (app tr : VDict) (s : Settings) (m : PMsg) (mt : Bytes)
    (h35 : 35 ∈ m.hdr) (hmt : m.msgType = some mt) (hadm : isAdminMsgType mt = false) (hunk : app.msg? mt = none) :
    validate app (some tr) s m = .error (.reject ⟨11, none⟩) := by
  simp [validate, h35, hmt, hadm, validatePipeline, validateMsgType, hunk, bind, Except.bind]

/-- the result is one of the expected identifications of the planted kind -/
theorem C15_unknown_msgtype_expected (t : Nat) : expected .unknownMsgType t ⟨11, none⟩ = true := by
  simp [expected]

/-- a single required body tag missing from the Body map is named (reason 1, that tag), under all settings -/
theorem C15_defect_required_missing_body (tr app : VDict) (s : Settings) (m : PMsg) (mt : Bytes) (h b t : MDef) (x : Nat)
    (hdef : tr.header = some h) (bdef : app.msg? mt = some b) (tdef : tr.trailer = some t)
    (reqH : ∀ y ∈ h.reqTags, y ∈ m.hdr)
    (hx : x ∈ b.reqTags) (hmiss : x ∉ m.body) (honly : ∀ y ∈ b.reqTags, y ≠ x → y ∈ m.body) :
    validatePipeline tr app s mt m = .error (.reject ⟨1, some x⟩) := by
  have h2 : validateRequired tr app mt m = .error (.reject ⟨1, some x⟩) := by
    simp only [validateRequired, hdef, bdef, tdef, bind, Except.bind]
    rw [requiredFieldMap_ok reqH, requiredFieldMap_single hx hmiss honly]
  simp only [validatePipeline_eq bdef, h2, bind, Except.bind]

/-- a single required header tag missing from the Header map is named -/
theorem C15_defect_required_missing_header (tr app : VDict) (s : Settings) (m : PMsg) (mt : Bytes) (h b t : MDef) (x : Nat)
    (hdef : tr.header = some h) (bdef : app.msg? mt = some b) (tdef : tr.trailer = some t)
    (hx : x ∈ h.reqTags) (hmiss : x ∉ m.hdr) (honly : ∀ y ∈ h.reqTags, y ≠ x → y ∈ m.hdr) :
    validatePipeline tr app s mt m = .error (.reject ⟨1, some x⟩) := by
  have h2 : validateRequired tr app mt m = .error (.reject ⟨1, some x⟩) := by
    simp only [validateRequired, hdef, bdef, tdef, bind, Except.bind]
    rw [requiredFieldMap_single hx hmiss honly]
  simp only [validatePipeline_eq bdef, h2, bind, Except.bind]

/--
  Field-level defects: the message is as a conforming flat one up to the per-field stage, its fields are
  `pre ++ f :: post`, everything in `pre` is well-typed and `f` fails `validateField` with `e`: then, with
  RejectInvalidMessage on, the verdict is exactly `e`.
-/
theorem C15_defect_field (tr app : VDict) (s : Settings) (m : PMsg) (mt : Bytes) (h b t : MDef)
    (pre post : List TV) (f : TV) (e : Stop)
    (hdef : tr.header = some h) (bdef : app.msg? mt = some b) (tdef : tr.trailer = some t)
    (reqH : ∀ x ∈ h.reqTags, x ∈ m.hdr) (reqB : ∀ x ∈ b.reqTags, x ∈ m.body) (reqT : ∀ x ∈ t.reqTags, x ∈ m.trl)
    (sectioned : Sectioned m.fields) (values : ValuesOK s.checkHaveValues m.fields)
    (hri : s.rejectInvalid = true) (hfs : m.fields = pre ++ f :: post)
    (hpre : ∀ g ∈ pre, g.tag ≠ 35 → validateField (if isHeaderTag g.tag || isTrailerTag g.tag then tr else app) s g = .ok ())
    (h35 : f.tag ≠ 35)
    (hf : validateField (if isHeaderTag f.tag || isTrailerTag f.tag then tr else app) s f = .error e) :
    validatePipeline tr app s mt m = .error e := by
  simp only [validatePipeline_fields ⟨hdef, bdef, tdef, reqH, reqB, reqT⟩ sectioned values, hri, if_true, hfs,
    validateFields_first hpre h35 hf, bind, Except.bind]

/-- a value outside the declared enumeration is named: reason 5, that tag -/
theorem C15_defect_bad_enum (d : VDict) (s : Settings) (f : TV) (ft : FType) (hv : f.value ≠ [])
    (hd : d.ftype f.tag = some ft) (hne : ft.enums ≠ []) (hnot : f.value ∉ ft.enums)
    (htok : ft.multi = false ∨ ∃ tok ∈ splitOn32 f.value [], tok ∉ ft.enums) :
    validateField d s f = .error (.reject ⟨5, some f.tag⟩) ∧ expected .badEnum f.tag ⟨5, some f.tag⟩ = true :=
  ⟨validateField_bad_enum d s f ft hv hd hne hnot htok, by simp [expected]⟩

/-- a value not in the declared type's grammar is named: reason 6, that tag -/
theorem C15_defect_bad_format (d : VDict) (s : Settings) (f : TV) (ft : FType) (p : Proto) (hv : f.value ≠ [])
    (hd : d.ftype f.tag = some ft) (henum : ft.enums = [] ∨ f.value ∈ ft.enums)
    (hp : ft.proto = some p) (hbad : protoReads p f.value = false) :
    validateField d s f = .error (.reject ⟨6, some f.tag⟩) ∧ expected .badFormat f.tag ⟨6, some f.tag⟩ = true :=
  ⟨validateField_bad_format d s f ft p hv hd henum hp hbad, by simp [expected]⟩

/-- a tag unknown to the dictionary is named (reason 0) exactly when the settings do not tolerate it -/
theorem C15_defect_not_in_dictionary (d : VDict) (s : Settings) (f : TV) (hv : f.value ≠ [])
    (hu : d.ftype f.tag = none) (hs : undefinedTolerated s f.tag = false) :
    validateField d s f = .error (.reject ⟨0, some f.tag⟩) ∧ expected .notInDictionary f.tag ⟨0, some f.tag⟩ = true :=
  ⟨validateField_undefined d s f hv hu hs, by simp [expected]⟩

theorem C15_relaxed_not_in_dictionary (d : VDict) (s : Settings) (f : TV) (hv : f.value ≠ [])
    (hu : d.ftype f.tag = none) (hs : undefinedTolerated s f.tag = true) :
    validateField d s f = .ok () :=
  validateField_undefined_tolerated d s f hv hu hs

/-- an empty value is named by the per-field stage: reason 4, that tag -/
theorem C15_defect_empty_value (d : VDict) (s : Settings) (f : TV) (h : f.value = []) :
    validateField d s f = .error (.reject ⟨4, some f.tag⟩) ∧ expected .emptyValue f.tag ⟨4, some f.tag⟩ = true :=
  ⟨validateField_empty d s f h, by simp [expected]⟩

/-- a repeated top-level tag is named: reason 13, that tag (group-free prefix, RejectInvalidMessage on) -/
theorem C15_defect_duplicate_tag (tr app : VDict) (s : Settings) (m : PMsg) (mt : Bytes) (h b t : MDef)
    (pre post : List TV) (f : TV)
    (hdef : tr.header = some h) (bdef : app.msg? mt = some b) (tdef : tr.trailer = some t)
    (reqH : ∀ x ∈ h.reqTags, x ∈ m.hdr) (reqB : ∀ x ∈ b.reqTags, x ∈ m.body) (reqT : ∀ x ∈ t.reqTags, x ∈ m.trl)
    (sectioned : Sectioned m.fields) (values : AllValues m.fields)
    (hri : s.rejectInvalid = true) (hfs : m.fields = pre ++ f :: post)
    (typed : ∀ g ∈ m.fields, g.tag ≠ 35 → validateField (if isHeaderTag g.tag || isTrailerTag g.tag then tr else app) s g = .ok ())
    (nodup : (pre.map (·.tag)).Nodup) (plain : ∀ g ∈ pre, PlainDefined tr b g)
    (hdup : f.tag ∈ pre.map (·.tag)) :
    validatePipeline tr app s mt m = .error (.reject ⟨13, some f.tag⟩) := by
  obtain ⟨g, hg, e⟩ := List.mem_map.mp hdup
  obtain ⟨md, _, hmd, _⟩ := plain g hg
  have hdefd : (defFor tr b f.tag).isSome = true := by
    have e' : g.tag = f.tag := e
    rw [← e', hmd]; rfl
  rw [validatePipeline_walk ⟨hdef, bdef, tdef, reqH, reqB, reqT⟩ sectioned values typed, hri, if_pos rfl, hfs]
  exact walkLoop_duplicate tr app s b pre _ f post (walkFuel_prefix hfs) nodup plain hdup hdefd

/-- RejectInvalidMessage off: the verdict is decided by the first three rules only (types, enums, walk are not consulted) -/
theorem C15_relaxed_reject_invalid (tr app : VDict) (s : Settings) (mt : Bytes) (m : PMsg) (h : s.rejectInvalid = false) :
    validatePipeline tr app s mt m =
      (do validateMsgType app mt; validateRequired tr app mt m; validateFieldContent m s.checkHaveValues s.checkOrder) := by
  simp only [validatePipeline, h, bind, Except.bind]
  cases validateMsgType app mt <;> simp
  cases validateRequired tr app mt m <;> simp
  cases validateFieldContent m s.checkHaveValues s.checkOrder <;> simp [pure, Except.pure]

/-- CheckFieldsHaveValues and CheckFieldsOutOfOrder both off: validateFieldContent passes anything -/
theorem C15_relaxed_content (m : PMsg) : validateFieldContent m false false = .ok () := by
  simp [validateFieldContent]

/-- non-vacuity: a (tiny) dictionary and message satisfying `C15_ConformingFlat`, accepted by `decide`-free evaluation -/
def C15_exDict : VDict :=
  { msg? := fun mt => if mt = [48] then some (newMessageDef [.fld (.mk 112 false [] [])]) else none
    header := some (newMessageDef [.fld (.mk 8 true [] []), .fld (.mk 35 true [] [])])
    trailer := some (newMessageDef [.fld (.mk 10 true [] [])])
    ftype := fun t => if t = 8 ∨ t = 35 ∨ t = 10 ∨ t = 112 then some { proto := some .str, enums := [] } else none }

def C15_exMsg : PMsg :=
  { fields := [⟨8, [70]⟩, ⟨35, [48]⟩, ⟨112, [65]⟩, ⟨10, [48]⟩], hdr := [8, 35], body := [112], trl := [10] }

/-- Bool observer of a verdict (so that closed examples are `decide`d) -/
def C15_verdictIs (v : V Unit) (o : Option Reject) : Bool :=
  match v, o with
  | .ok _, none => true
  | .error (.reject r), some r' => r == r'
  | _, _ => false

example : C15_verdictIs (validate C15_exDict none defaultSettings C15_exMsg) none = true := by decide
example : C15_verdictIs (validate C15_exDict none defaultSettings
    { C15_exMsg with fields := [⟨8, [70]⟩, ⟨35, [48]⟩, ⟨112, []⟩, ⟨10, [48]⟩] }) (some ⟨4, some 112⟩) = true := by decide
example : C15_verdictIs (validate C15_exDict none defaultSettings
    { C15_exMsg with fields := [⟨8, [70]⟩, ⟨35, [48]⟩, ⟨112, [65]⟩, ⟨112, [65]⟩, ⟨10, [48]⟩] }) (some ⟨13, some 112⟩) = true := by decide

def C15_isOk {α} : V α → Bool | .ok _ => true | _ => false
def C15_isRej {α} (v : V α) (r : Reject) : Bool := match v with | .error (.reject r') => r' == r | _ => false

def C15_wDict : VDict :=
  { msg? := fun _ => none, header := none, trailer := none
    ftype := fun t => if t = 18 then some { proto := some .str, enums := [[73], [84]], multi := true }
                      else if t = 35 then some { proto := some .str, enums := [[48]] } else none }

/-- D13: `18=I T` with `I` and `T` declared — rejected (5, 18) by the original check, accepted by the fixed one -/
theorem C15_multiple_value_orig_witness :
    C15_isRej (validateFieldOrig C15_wDict defaultSettings ⟨18, [73, 32, 84]⟩) ⟨5, some 18⟩ = true ∧
    C15_isOk (validateField C15_wDict defaultSettings ⟨18, [73, 32, 84]⟩) = true ∧
    C15_isRej (validateField C15_wDict defaultSettings ⟨18, [73, 32, 88]⟩) ⟨5, some 18⟩ = true := by decide

/-- MsgType `BR` not in the transport enumeration: rejected (5, 35) by the original per-field stage, skipped by the fixed one -/
theorem C15_msgtype_enum_orig_witness :
    C15_isRej (validateFieldsOrig C15_wDict C15_wDict defaultSettings [⟨35, [66, 82]⟩]) ⟨5, some 35⟩ = true ∧
    C15_isOk (validateFields C15_wDict C15_wDict defaultSettings [⟨35, [66, 82]⟩]) = true := by decide

/-- group 73 with members 11 (delimiter) and 6, both required -/
def C15_wGroup : FDef := .mk 73 false [.mk 11 true [] [], .mk 6 true [] []] [11, 6]

/-- `73=2 | 11=a | 11=b 6=c | 10=x`: member 6 missing at the end of the FIRST entry — accepted by the original walk,
    named (1, 6) by the fixed one -/
theorem C15_group_tail_orig_witness :
    C15_isOk (visitFieldOrig 20 C15_wGroup [⟨73, [50]⟩, ⟨11, [97]⟩, ⟨11, [98]⟩, ⟨6, [99]⟩, ⟨10, [120]⟩]) = true ∧
    C15_isRej (visitField 20 C15_wGroup [⟨73, [50]⟩, ⟨11, [97]⟩, ⟨11, [98]⟩, ⟨6, [99]⟩, ⟨10, [120]⟩]) ⟨1, some 6⟩ = true := by
  decide

/-- the CheckFieldsHaveValues route names the FIRST empty field (whatever RejectInvalidMessage says) -/
theorem C15_defect_empty_value_content :
    ∀ (m : PMsg) (ord : Bool) (pre post : List TV) (f : TV), m.fields = pre ++ f :: post → Sectioned m.fields →
      AllValues pre → f.value = [] → validateFieldContent m true ord = .error (.reject ⟨4, some f.tag⟩) := by
  intro m ord pre post f hfs hs hval he
  rw [hfs] at hs
  simp only [validateFieldContent, Bool.not_true, Bool.false_and, Bool.false_eq_true, if_false, hfs]
  exact contentLoop_first_empty ord pre post f hs hval he

/-- … and so does the whole pipeline, RejectInvalidMessage on or off -/
theorem C15_defect_empty_value_pipeline (tr app : VDict) (s : Settings) (m : PMsg) (mt : Bytes) (h b t : MDef)
    (pre post : List TV) (f : TV)
    (hdef : tr.header = some h) (bdef : app.msg? mt = some b) (tdef : tr.trailer = some t)
    (reqH : ∀ x ∈ h.reqTags, x ∈ m.hdr) (reqB : ∀ x ∈ b.reqTags, x ∈ m.body) (reqT : ∀ x ∈ t.reqTags, x ∈ m.trl)
    (hfs : m.fields = pre ++ f :: post) (sectioned : Sectioned m.fields) (hval : AllValues pre) (he : f.value = [])
    (hchk : s.checkHaveValues = true) :
    validatePipeline tr app s mt m = .error (.reject ⟨4, some f.tag⟩) ∧
      checks .emptyValue f.tag s = true ∧ expected .emptyValue f.tag ⟨4, some f.tag⟩ = true :=
  ⟨validatePipeline_content_error ⟨hdef, bdef, tdef, reqH, reqB, reqT⟩
      (by rw [hchk]; exact C15_defect_empty_value_content m s.checkOrder pre post f hfs sectioned hval he),
    by simp [checks, hchk], by simp [expected]⟩

/-- a header tag after the body has begun is named: reason 14, that tag (CheckFieldsOutOfOrder on) -/
theorem C15_defect_section_order (m : PMsg) (hv : Bool) (h b₁ rest : List TV) (x : TV)
    (hfs : m.fields = h ++ b₁ ++ [x] ++ rest) (hne : b₁ ≠ [])
    (hh : ∀ f ∈ h, isHeaderTag f.tag = true)
    (hb : ∀ f ∈ b₁, isHeaderTag f.tag = false ∧ isTrailerTag f.tag = false)
    (hx : isHeaderTag x.tag = true) (hval : AllValues (h ++ b₁ ++ [x])) :
    validateFieldContent m hv true = .error (.reject ⟨14, some x.tag⟩) := by
  have e : m.fields = h ++ (b₁ ++ x :: rest) := by rw [hfs]; simp
  have hval' : ValuesOK hv (h ++ (b₁ ++ [x])) := by
    have := hval.valuesOK hv
    simpa using this
  simp only [validateFieldContent, Bool.not_true, Bool.and_false, Bool.false_eq_true, if_false, e]
  exact contentLoop_section_order hv h b₁ rest x hne hval' hh hb hx

/-- a body field behind a trailer field is named: reason 14, that tag (CheckFieldsOutOfOrder on) — also when no body field
    precedes the trailer field (the case the original loop let through, see the witness below) -/
theorem C15_defect_section_order_behind_trailer (m : PMsg) (hv : Bool) (h b t rest : List TV) (t₁ x : TV)
    (hfs : m.fields = h ++ b ++ (t₁ :: t) ++ [x] ++ rest)
    (hh : ∀ f ∈ h, isHeaderTag f.tag = true)
    (hb : ∀ f ∈ b, isHeaderTag f.tag = false ∧ isTrailerTag f.tag = false)
    (ht₁ : isTrailerTag t₁.tag = true) (ht : ∀ f ∈ t, isTrailerTag f.tag = true)
    (hx : isHeaderTag x.tag = false ∧ isTrailerTag x.tag = false) (hval : AllValues (h ++ b ++ (t₁ :: t) ++ [x])) :
    validateFieldContent m hv true = .error (.reject ⟨14, some x.tag⟩) := by
  have e : m.fields = h ++ (b ++ (t₁ :: t ++ x :: rest)) := by rw [hfs]; simp
  have hval' : ValuesOK hv (h ++ (b ++ (t₁ :: t ++ [x]))) := by
    have := hval.valuesOK hv
    simpa using this
  simp only [validateFieldContent, Bool.not_true, Bool.and_false, Bool.false_eq_true, if_false, e]
  exact contentLoop_behind_trailer hv h b t rest t₁ x hval' hh hb ht₁ ht hx

/-- the loop before the `fix:` accepted `8 9 35 | 89 | 36 | 10`: a trailer field directly behind the header did not
    start the trailer, so the body field behind it went unnoticed -/
theorem C15_orig_accepts_body_behind_trailer :
    (fieldContentLoopOrig true true [⟨8, [70]⟩, ⟨9, [49]⟩, ⟨35, [52]⟩, ⟨89, [50]⟩, ⟨36, [51]⟩, ⟨10, [48]⟩] true false).toBool = true
    ∧ (fieldContentLoop true true [⟨8, [70]⟩, ⟨9, [49]⟩, ⟨35, [52]⟩, ⟨89, [50]⟩, ⟨36, [51]⟩, ⟨10, [48]⟩] true false).toBool = false := by
  decide

/-- … and by the whole pipeline when CheckFieldsOutOfOrder is on, RejectInvalidMessage on or off -/
theorem C15_defect_section_order_pipeline (tr app : VDict) (s : Settings) (m : PMsg) (mt : Bytes) (hd b t : MDef)
    (h b₁ rest : List TV) (x : TV)
    (hdef : tr.header = some hd) (bdef : app.msg? mt = some b) (tdef : tr.trailer = some t)
    (reqH : ∀ y ∈ hd.reqTags, y ∈ m.hdr) (reqB : ∀ y ∈ b.reqTags, y ∈ m.body) (reqT : ∀ y ∈ t.reqTags, y ∈ m.trl)
    (hfs : m.fields = h ++ b₁ ++ [x] ++ rest) (hne : b₁ ≠ [])
    (hh : ∀ f ∈ h, isHeaderTag f.tag = true)
    (hb : ∀ f ∈ b₁, isHeaderTag f.tag = false ∧ isTrailerTag f.tag = false)
    (hx : isHeaderTag x.tag = true) (hval : AllValues (h ++ b₁ ++ [x])) (hord : s.checkOrder = true) :
    validatePipeline tr app s mt m = .error (.reject ⟨14, some x.tag⟩) ∧
      checks .sectionOrder x.tag s = true ∧ expected .sectionOrder x.tag ⟨14, some x.tag⟩ = true :=
  ⟨validatePipeline_content_error ⟨hdef, bdef, tdef, reqH, reqB, reqT⟩
      (by rw [hord]; exact C15_defect_section_order m s.checkHaveValues h b₁ rest x hfs hne hh hb hx hval),
    by simp [checks, hord], by simp [expected]⟩

/-- the walk names a top-level tag its section's definition does not list: reason 2, that tag -/
theorem C15_defect_not_defined_for_type_walk (tr app : VDict) (s : Settings) (body : MDef) (pre post : List TV) (f : TV)
    (fuel : Nat) (md : MDef) (hf : pre.length + 2 ≤ fuel) (hnd : (pre.map (·.tag)).Nodup)
    (hnew : f.tag ∉ pre.map (·.tag)) (hplain : ∀ g ∈ pre, PlainDefined tr body g)
    (hd : defFor tr body f.tag = some md) (hu : md.field? f.tag = none) (hc : checkFieldNotDefined s f.tag = false) :
    walkLoop tr app s body fuel (pre ++ f :: post) [] = .error (.reject ⟨2, some f.tag⟩) :=
  walkLoop_not_defined tr app s body pre post f fuel md hf hnd hnew hplain hd hu hc

/-- the pipeline: everything before the walk passes, the prefix is plain ⇒ (2, that tag) -/
theorem C15_defect_not_defined_for_type (tr app : VDict) (s : Settings) (m : PMsg) (mt : Bytes) (h b t : MDef)
    (pre post : List TV) (f : TV) (md : MDef)
    (hdef : tr.header = some h) (bdef : app.msg? mt = some b) (tdef : tr.trailer = some t)
    (reqH : ∀ x ∈ h.reqTags, x ∈ m.hdr) (reqB : ∀ x ∈ b.reqTags, x ∈ m.body) (reqT : ∀ x ∈ t.reqTags, x ∈ m.trl)
    (sectioned : Sectioned m.fields) (values : AllValues m.fields)
    (hri : s.rejectInvalid = true) (hfs : m.fields = pre ++ f :: post)
    (typed : ∀ g ∈ m.fields, g.tag ≠ 35 → validateField (if isHeaderTag g.tag || isTrailerTag g.tag then tr else app) s g = .ok ())
    (nodup : (pre.map (·.tag)).Nodup) (hnew : f.tag ∉ pre.map (·.tag)) (plain : ∀ g ∈ pre, PlainDefined tr b g)
    (hd : defFor tr b f.tag = some md) (hu : md.field? f.tag = none) (hc : undefinedTolerated s f.tag = false) :
    validatePipeline tr app s mt m = .error (.reject ⟨2, some f.tag⟩) ∧
      checks .notDefinedForType f.tag s = true ∧ expected .notDefinedForType f.tag ⟨2, some f.tag⟩ = true := by
  refine ⟨?_, by simp [checks, hri, hc], by simp [expected]⟩
  rw [validatePipeline_walk ⟨hdef, bdef, tdef, reqH, reqB, reqT⟩ sectioned values typed, hri, if_pos rfl, hfs]
  exact walkLoop_not_defined tr app s b pre post f _ md (Nat.le_of_lt (walkFuel_prefix hfs)) nodup hnew plain hd hu hc

/-- settings that tolerate the undefined tag: the walk records it and goes on as it does after any other field -/
theorem C15_relaxed_not_defined_for_type (tr app : VDict) (s : Settings) (body : MDef) (fuel : Nat) (f : TV)
    (post : List TV) (seen : List Nat) (md : MDef) (hd : defFor tr body f.tag = some md) (hu : md.field? f.tag = none)
    (hns : f.tag ∉ seen) (hc : undefinedTolerated s f.tag = true) :
    walkLoop tr app s body (fuel + 1) (f :: post) seen = walkLoop tr app s body fuel post (f.tag :: seen) := by
  have : checkFieldNotDefined s f.tag = true := hc
  simp [walkLoop_cons tr app s body fuel f post seen hd, hns, hu, this]

/-!
  `K` bounds the member lists of the definition tree: `fd.maxWidth + 3 ≤ K`; the walk of an instance needs at most
  (number of its wire fields) × `K` units of fuel (call-chain depth).  validateWalk's budget `walkFuel m` is
  (number of wire fields + 2) × 4000 + 16, hence adequate for every dictionary whose member lists are shorter than 3998. -/

/-- a conforming instance is consumed exactly, under an explicit fuel bound; the field that follows only has to be
    outside the MEMBER tags of the definition (`childTags`; weaker than `∉ allTags`) -/
theorem C15_visit_conforming (K : Nat) (fd : FDef) (i : Inst) (rest : List TV) (fuel : Nat) (hok : InstOK fd i)
    (hw : fd.maxWidth + 3 ≤ K) (hnd : fd.TagsNodup) (hrest : HeadNotIn fd.childTags rest)
    (hf : i.wire.length * K ≤ fuel) : visitField fuel fd (i.wire ++ rest) = .ok rest :=
  visitField_conforming K fd i rest fuel hok hw hnd hrest hf

/-- the same, in the "enough fuel" form -/
theorem C15_visit_conforming_ex (fd : FDef) (i : Inst) (rest : List TV) (hok : InstOK fd i) (hnd : fd.TagsNodup)
    (hrest : rest = [] ∨ ∃ f r, rest = f :: r ∧ f.tag ∉ fd.allTags) :
    ∃ N, ∀ fuel, N ≤ fuel → visitField fuel fd (i.wire ++ rest) = .ok rest := by
  refine ⟨i.wire.length * (fd.maxWidth + 3), fun fuel hf =>
    visitField_conforming (fd.maxWidth + 3) fd i rest fuel hok (Nat.le_refl _) hnd ?_ hf⟩
  rcases hrest with rfl | ⟨f', r', rfl, hn⟩
  · exact nofun
  · exact headNotIn_field (fun hm => hn (childTags_sub_allTags fd hm)) _

/-- the walk of a message made of conforming top-level instances (plain fields and groups, any section) passes -/
theorem C15_walk_conforming (tr app : VDict) (s : Settings) (body : MDef) (K : Nat) (items : List Inst) (fuel : Nat)
    (hok : WalkOK tr body K [] items) (hnd : (items.map Inst.tag).Nodup) (hf : (wireL items).length * K + 1 ≤ fuel) :
    walkLoop tr app s body fuel (wireL items) [] = .ok () :=
  walkLoop_conforming tr app s body K items fuel hok hnd hf

/-- the stages before the walk pass: the verdict is the walk's (RejectInvalidMessage on) or acceptance (off) -/
theorem C15_pipeline_to_walk (tr app : VDict) (s : Settings) (m : PMsg) (mt : Bytes) (h b t : MDef)
    (hdef : tr.header = some h) (bdef : app.msg? mt = some b) (tdef : tr.trailer = some t)
    (reqH : ∀ x ∈ h.reqTags, x ∈ m.hdr) (reqB : ∀ x ∈ b.reqTags, x ∈ m.body) (reqT : ∀ x ∈ t.reqTags, x ∈ m.trl)
    (sectioned : Sectioned m.fields) (values : AllValues m.fields)
    (typed : ∀ g ∈ m.fields, g.tag ≠ 35 → validateField (if isHeaderTag g.tag || isTrailerTag g.tag then tr else app) s g = .ok ()) :
    validatePipeline tr app s mt m =
      if s.rejectInvalid then walkLoop tr app s b (walkFuel m) m.fields [] else .ok () :=
  validatePipeline_walk ⟨hdef, bdef, tdef, reqH, reqB, reqT⟩ sectioned values typed

/-- what a conforming message is, repeating groups included: its wire fields are those of top-level instances `items`
    (plain fields and groups of header, body and trailer), each conforming to the definition validateWalk finds -/
structure C15_Conforming (tr app : VDict) (m : PMsg) (mt : Bytes) (h b t : MDef) (items : List Inst) : Prop where
  hdef : tr.header = some h
  bdef : app.msg? mt = some b
  tdef : tr.trailer = some t
  reqH : ∀ x ∈ h.reqTags, x ∈ m.hdr
  reqB : ∀ x ∈ b.reqTags, x ∈ m.body
  reqT : ∀ x ∈ t.reqTags, x ∈ m.trl
  sectioned : Sectioned m.fields
  values : AllValues m.fields
  typed : ∀ f ∈ m.fields, ∃ ft p, (if isHeaderTag f.tag || isTrailerTag f.tag then tr else app).ftype f.tag = some ft ∧
            (ft.enums = [] ∨ f.value ∈ ft.enums) ∧ ft.proto = some p ∧ protoReads p f.value = true
  wire : m.fields = wireL items
  nodup : (items.map Inst.tag).Nodup
  walk : WalkOK tr b 4000 [] items

/-- C15 "accepts conforming", repeating groups included, with validateWalk's own fuel budget -/
theorem C15_accepts (tr app : VDict) (s : Settings) (m : PMsg) (mt : Bytes) (h b t : MDef) (items : List Inst)
    (c : C15_Conforming tr app m mt h b t items) : validatePipeline tr app s mt m = .ok () := by
  rw [C15_pipeline_to_walk tr app s m mt h b t c.hdef c.bdef c.tdef c.reqH c.reqB c.reqT c.sectioned c.values]
  · cases s.rejectInvalid
    · rfl
    · have := walkLoop_budget tr app s b m items [] 0 _ (by rw [c.wire, List.append_nil]) c.walk c.nodup (Nat.le_refl _)
        (WalkIn.nil.mono (by decide))
      rwa [List.append_nil, ← c.wire] at this
  · exact fun f hf _ => validateField_ok_of_typed (c.values f hf) (c.typed f hf)

theorem C15_accepts_fix (d : VDict) (s : Settings) (m : PMsg) (mt : Bytes) (h b t : MDef) (items : List Inst)
    (h35 : 35 ∈ m.hdr) (hmt : m.msgType = some mt) (c : C15_Conforming d d m mt h b t items) :
    validate d none s m = .ok () := by
  simp [validate, h35, hmt, C15_accepts d d s m mt h b t items c]

theorem C15_accepts_fixt (app tr : VDict) (s : Settings) (m : PMsg) (mt : Bytes) (h b t : MDef) (items : List Inst)
    (h35 : 35 ∈ m.hdr) (hmt : m.msgType = some mt) (hadm : isAdminMsgType mt = false)
    (c : C15_Conforming tr app m mt h b t items) :
    validate app (some tr) s m = .ok () := by
  simp [validate, h35, hmt, hadm, C15_accepts tr app s m mt h b t items c]

/-- the same for a message given as plain header fields, body instances, plain trailer fields -/
theorem C15_accepts_sections (tr app : VDict) (s : Settings) (m : PMsg) (mt : Bytes) (h b t : MDef)
    (hdrFields trlFields : List TV) (is : List Inst)
    (hdef : tr.header = some h) (bdef : app.msg? mt = some b) (tdef : tr.trailer = some t)
    (reqH : ∀ x ∈ h.reqTags, x ∈ m.hdr) (reqB : ∀ x ∈ b.reqTags, x ∈ m.body) (reqT : ∀ x ∈ t.reqTags, x ∈ m.trl)
    (sectioned : Sectioned m.fields) (values : AllValues m.fields)
    (typed : ∀ f ∈ m.fields, ∃ ft p, (if isHeaderTag f.tag || isTrailerTag f.tag then tr else app).ftype f.tag = some ft ∧
            (ft.enums = [] ∨ f.value ∈ ft.enums) ∧ ft.proto = some p ∧ protoReads p f.value = true)
    (hfs : m.fields = hdrFields ++ wireL is ++ trlFields)
    (plainH : ∀ f ∈ hdrFields, PlainDefined tr b f) (plainT : ∀ f ∈ trlFields, PlainDefined tr b f)
    (nodup : (hdrFields.map (·.tag) ++ is.map Inst.tag ++ trlFields.map (·.tag)).Nodup)
    (hbody : ∀ pre i post, is = pre ++ i :: post → ∃ md fd, defFor tr b i.tag = some md ∧ md.field? i.tag = some fd ∧
        InstOK fd i ∧ fd.TagsNodup ∧ fd.maxWidth + 3 ≤ 4000 ∧ HeadNotIn fd.childTags (wireL post ++ trlFields)) :
    validatePipeline tr app s mt m = .ok () := by
  have htl : WalkOK tr b 4000 [] (trlFields.map TV.toInst) := by
    have := walkOK_plain_append tr b 4000 (by omega) [] [] WalkOK.nil trlFields plainT
    simpa using this
  have hb : WalkOK tr b 4000 [] (is ++ trlFields.map TV.toInst) := by
    apply walkOK_body tr b 4000 [] _ htl is
    intro pre i post e
    obtain ⟨md, fd, h1, h2, h3, h4, h5, h6⟩ := hbody pre i post e
    exact ⟨md, fd, h1, h2, h3, h4, h5, by simpa [wireL_plain] using h6⟩
  have hall := walkOK_plain_append tr b 4000 (by omega) [] _ hb hdrFields plainH
  apply C15_accepts tr app s m mt h b t (hdrFields.map TV.toInst ++ (is ++ trlFields.map TV.toInst))
  exact
    { hdef := hdef, bdef := bdef, tdef := tdef, reqH := reqH, reqB := reqB, reqT := reqT, sectioned := sectioned
      values := values, typed := typed
      wire := by rw [hfs]; simp [wireL_append, wireL_plain]
      nodup := by
        rw [List.map_append, List.map_append, map_tag_plain, map_tag_plain, ← List.append_assoc]
        exact nodup
      walk := hall }

/-- a verdict of the walk on the first non-conforming top-level field is the verdict of the pipeline: the prefix `pre`
    conforms, the definition `fd` of the next field `f` stops with `e` for every fuel ≥ `N`, and validateWalk's budget
    covers the prefix and `N` -/
theorem C15_defect_walk_first (tr app : VDict) (s : Settings) (m : PMsg) (mt : Bytes) (h b t : MDef)
    (pre : List Inst) (f : TV) (rest : List TV) (md : MDef) (fd : FDef) (e : Stop) (N : Nat)
    (hdef : tr.header = some h) (bdef : app.msg? mt = some b) (tdef : tr.trailer = some t)
    (reqH : ∀ x ∈ h.reqTags, x ∈ m.hdr) (reqB : ∀ x ∈ b.reqTags, x ∈ m.body) (reqT : ∀ x ∈ t.reqTags, x ∈ m.trl)
    (sectioned : Sectioned m.fields) (values : AllValues m.fields)
    (typed : ∀ g ∈ m.fields, g.tag ≠ 35 → validateField (if isHeaderTag g.tag || isTrailerTag g.tag then tr else app) s g = .ok ())
    (hri : s.rejectInvalid = true) (hfs : m.fields = wireL pre ++ f :: rest)
    (hok : WalkOK tr b 4000 (f :: rest) pre) (hnd : (pre.map Inst.tag).Nodup) (hnew : f.tag ∉ pre.map Inst.tag)
    (hd : defFor tr b f.tag = some md) (hfd : md.field? f.tag = some fd)
    (hv : ∀ k, N ≤ k → visitField k fd (f :: rest) = .error e)
    (hN : N ≤ (rest.length + 1) * 4000) :
    validatePipeline tr app s mt m = .error e := by
  rw [C15_pipeline_to_walk tr app s m mt h b t hdef bdef tdef reqH reqB reqT sectioned values typed, hri, if_pos rfl, hfs]
  exact walkLoop_budget tr app s b m pre (f :: rest) N _ hfs hok hnd hN
    ((WalkIn.stop hv hd hfd (by rwa [List.mem_reverse])).mono (Nat.le_succ _))

/-- group count mismatch: the counter reads as `n`, the group has another number of (conforming) entries ⇒ reason 16 at
    the counter's tag, for enough fuel -/
theorem C15_defect_group_count (K : Nat) (fd d0 : FDef) (ds : List FDef) (t : Nat) (c : Bytes)
    (es : List (List Inst)) (rest : List TV) (fuel : Nat) (n : Int)
    (hfields : fd.fields = d0 :: ds) (hcount : readCount c = some n) (hn : n ≠ (es.length : Int))
    (hdel : ∀ e ∈ es, ∃ i0 r, e = i0 :: r ∧ i0.tag = d0.tag) (hents : ∀ e ∈ es, EntryOK (d0 :: ds) e)
    (hw : fd.maxWidth + 3 ≤ K) (hnd : fd.TagsNodup) (hrest : HeadNotIn fd.childTags rest)
    (hf : (Inst.grp t c es).wire.length * K ≤ fuel) :
    visitField fuel fd ((Inst.grp t c es).wire ++ rest) = .error (.reject ⟨16, some t⟩) ∧
      expected .groupCount t ⟨16, some t⟩ = true :=
  ⟨visitField_count_mismatch K fd d0 ds t c es rest fuel n hfields hcount hn hdel hents hw hnd hrest hf, by simp [expected]⟩

/-- a counter that does not read as a number ⇒ reason 6 at the counter's tag -/
theorem C15_defect_group_count_unreadable (fd : FDef) (cnt : TV) (st : List TV) (fuel : Nat) (hgrp : fd.isGroup = true)
    (hcount : readCount cnt.value = none) (hf : 2 ≤ fuel) :
    visitField fuel fd (cnt :: st) = .error (.reject ⟨6, some cnt.tag⟩) :=
  visitField_count_unreadable fd cnt st fuel hgrp hcount hf

/-- group count mismatch on a top-level group of a message: the verdict of the pipeline is (16, counter tag) -/
theorem C15_defect_group_count_pipeline (tr app : VDict) (s : Settings) (m : PMsg) (mt : Bytes) (h b t : MDef)
    (pre : List Inst) (md : MDef) (fd d0 : FDef) (ds : List FDef) (gt : Nat) (c : Bytes) (es : List (List Inst))
    (rest : List TV) (n : Int)
    (hdef : tr.header = some h) (bdef : app.msg? mt = some b) (tdef : tr.trailer = some t)
    (reqH : ∀ x ∈ h.reqTags, x ∈ m.hdr) (reqB : ∀ x ∈ b.reqTags, x ∈ m.body) (reqT : ∀ x ∈ t.reqTags, x ∈ m.trl)
    (sectioned : Sectioned m.fields) (values : AllValues m.fields)
    (typed : ∀ g ∈ m.fields, g.tag ≠ 35 → validateField (if isHeaderTag g.tag || isTrailerTag g.tag then tr else app) s g = .ok ())
    (hri : s.rejectInvalid = true) (hfs : m.fields = wireL pre ++ ((Inst.grp gt c es).wire ++ rest))
    (hok : WalkOK tr b 4000 ((Inst.grp gt c es).wire ++ rest) pre) (hnd : (pre.map Inst.tag).Nodup)
    (hnew : gt ∉ pre.map Inst.tag)
    (hd : defFor tr b gt = some md) (hfd : md.field? gt = some fd)
    (hfields : fd.fields = d0 :: ds) (hcount : readCount c = some n) (hn : n ≠ (es.length : Int))
    (hdel : ∀ e ∈ es, ∃ i0 r, e = i0 :: r ∧ i0.tag = d0.tag) (hents : ∀ e ∈ es, EntryOK (d0 :: ds) e)
    (hw : fd.maxWidth + 3 ≤ 4000) (hfnd : fd.TagsNodup) (hrest : HeadNotIn fd.childTags rest) :
    validatePipeline tr app s mt m = .error (.reject ⟨16, some gt⟩) ∧ checks .groupCount gt s = true ∧
      expected .groupCount gt ⟨16, some gt⟩ = true := by
  refine ⟨?_, by simp [checks, hri], by simp [expected]⟩
  rw [C15_pipeline_to_walk tr app s m mt h b t hdef bdef tdef reqH reqB reqT sectioned values typed, hri, if_pos rfl, hfs]
  exact walkLoop_group_error tr app s b pre md fd gt c es rest _ m hfs hok hnd hnew hd hfd
    (fun k hk => visitField_count_mismatch 4000 fd d0 ds gt c es rest k n hfields hcount hn hdel hents hw hfnd hrest hk)

/-- a required member without instance inside a group entry ⇒ reason 1 at that member's tag, for enough fuel:
    `es1` conforming entries, then the entry `e` (`EntryMissing d`: it starts with the delimiter and conforms except that
    the required `d` is absent — mid-entry or at its end), then anything that starts like entries (`es2`) and a field `rest`
    begins with that is no member tag; something must follow (`es2 ≠ [] ∨ rest ≠ []`: the Go loop, like the model, ends
    silently when the fields are exhausted; on a parsed message the trailer always follows) -/
theorem C15_defect_group_required_missing (K : Nat) (fd d0 : FDef) (ds : List FDef) (t : Nat) (c : Bytes)
    (es1 es2 : List (List Inst)) (e : List Inst) (d : FDef) (rest : List TV) (fuel : Nat) (n : Int)
    (hfields : fd.fields = d0 :: ds) (hcount : readCount c = some n)
    (hdel1 : ∀ e' ∈ es1, ∃ i0 r, e' = i0 :: r ∧ i0.tag = d0.tag) (hok1 : ∀ e' ∈ es1, EntryOK (d0 :: ds) e')
    (hdel : ∃ i0 r, e = i0 :: r ∧ i0.tag = d0.tag) (hmiss : EntryMissing d (d0 :: ds) e)
    (hdel2 : ∀ e' ∈ es2, ∃ i0 r, e' = i0 :: r ∧ i0.tag = d0.tag)
    (hrest : HeadNotIn fd.childTags rest) (hne : es2 ≠ [] ∨ rest ≠ [])
    (hw : fd.maxWidth + 3 ≤ K) (hnd : fd.TagsNodup)
    (hf : (Inst.grp t c (es1 ++ e :: es2)).wire.length * K ≤ fuel) :
    visitField fuel fd ((Inst.grp t c (es1 ++ e :: es2)).wire ++ rest) = .error (.reject ⟨1, some d.tag⟩) ∧
      expected (.requiredMissing true) d.tag ⟨1, some d.tag⟩ = true :=
  ⟨visitField_required_missing K fd d0 ds t c es1 es2 e d rest fuel n hfields hcount hdel1 hok1 hdel hmiss hdel2 hrest hne
    hw hnd hf, by simp [expected]⟩

/-- … and on a top-level group of a message the verdict of the pipeline is (1, that member's tag) -/
theorem C15_defect_group_required_missing_pipeline (tr app : VDict) (s : Settings) (m : PMsg) (mt : Bytes) (h b t : MDef)
    (pre : List Inst) (md : MDef) (fd d0 : FDef) (ds : List FDef) (gt : Nat) (c : Bytes)
    (es1 es2 : List (List Inst)) (e : List Inst) (d : FDef) (rest : List TV) (n : Int)
    (hdef : tr.header = some h) (bdef : app.msg? mt = some b) (tdef : tr.trailer = some t)
    (reqH : ∀ x ∈ h.reqTags, x ∈ m.hdr) (reqB : ∀ x ∈ b.reqTags, x ∈ m.body) (reqT : ∀ x ∈ t.reqTags, x ∈ m.trl)
    (sectioned : Sectioned m.fields) (values : AllValues m.fields)
    (typed : ∀ g ∈ m.fields, g.tag ≠ 35 → validateField (if isHeaderTag g.tag || isTrailerTag g.tag then tr else app) s g = .ok ())
    (hri : s.rejectInvalid = true)
    (hfs : m.fields = wireL pre ++ ((Inst.grp gt c (es1 ++ e :: es2)).wire ++ rest))
    (hok : WalkOK tr b 4000 ((Inst.grp gt c (es1 ++ e :: es2)).wire ++ rest) pre) (hnd : (pre.map Inst.tag).Nodup)
    (hnew : gt ∉ pre.map Inst.tag)
    (hd : defFor tr b gt = some md) (hfd : md.field? gt = some fd)
    (hfields : fd.fields = d0 :: ds) (hcount : readCount c = some n)
    (hdel1 : ∀ e' ∈ es1, ∃ i0 r, e' = i0 :: r ∧ i0.tag = d0.tag) (hok1 : ∀ e' ∈ es1, EntryOK (d0 :: ds) e')
    (hdel : ∃ i0 r, e = i0 :: r ∧ i0.tag = d0.tag) (hmiss : EntryMissing d (d0 :: ds) e)
    (hdel2 : ∀ e' ∈ es2, ∃ i0 r, e' = i0 :: r ∧ i0.tag = d0.tag)
    (hrest : HeadNotIn fd.childTags rest) (hne : es2 ≠ [] ∨ rest ≠ [])
    (hw : fd.maxWidth + 3 ≤ 4000) (hfnd : fd.TagsNodup) :
    validatePipeline tr app s mt m = .error (.reject ⟨1, some d.tag⟩) ∧ checks (.requiredMissing true) d.tag s = true ∧
      expected (.requiredMissing true) d.tag ⟨1, some d.tag⟩ = true := by
  refine ⟨?_, by simp [checks, hri], by simp [expected]⟩
  rw [C15_pipeline_to_walk tr app s m mt h b t hdef bdef tdef reqH reqB reqT sectioned values typed, hri, if_pos rfl, hfs]
  exact walkLoop_group_error tr app s b pre md fd gt c (es1 ++ e :: es2) rest _ m hfs hok hnd hnew hd hfd
    (fun k hk => visitField_required_missing 4000 fd d0 ds gt c es1 es2 e d rest k n hfields hcount hdel1 hok1 hdel hmiss
      hdel2 hrest hne hw hfnd hk)

/-- fuel arithmetic (generic in the per-field factor `K`; `walkFuel` is the instance `K = 4000`) -/
theorem C15_fuel_arith (K L W R : Nat) : (L + W) * K + 2 ≤ (L + (W + R) + 2) * K + 16 := by
  simp only [Nat.add_mul]
  omega

/-- member out of order inside an entry of a TOP-LEVEL group: the entry `e` of group `gt` has two adjacent plain members
    swapped (`EntrySwapped a q`, `a` the displaced field; not the delimiter), the entries before it conform, the counter is
    the number of entries; the displaced tag is below 5000, is not defined at top level and unknown fields are not
    tolerated.  Then, with RejectInvalidMessage on, the pipeline rejects with one of the reasons the spec allows for
    this defect — in fact 1 (a required member is found missing), 16 (the group is seen as ended early) or 2 (the
    displaced field is seen as a top-level field the message type does not define). -/
theorem C15_defect_member_order (tr app : VDict) (s : Settings) (m : PMsg) (mt : Bytes) (h b t : MDef)
    (pre : List Inst) (md md' : MDef) (fd d0 : FDef) (ds : List FDef) (gt : Nat) (c : Bytes)
    (es1 es2 : List (List Inst)) (e : List Inst) (a : TV) (q : List Inst) (rest : List TV)
    (hdef : tr.header = some h) (bdef : app.msg? mt = some b) (tdef : tr.trailer = some t)
    (reqH : ∀ x ∈ h.reqTags, x ∈ m.hdr) (reqB : ∀ x ∈ b.reqTags, x ∈ m.body) (reqT : ∀ x ∈ t.reqTags, x ∈ m.trl)
    (sectioned : Sectioned m.fields) (values : AllValues m.fields)
    (typed : ∀ g ∈ m.fields, g.tag ≠ 35 → validateField (if isHeaderTag g.tag || isTrailerTag g.tag then tr else app) s g = .ok ())
    (hri : s.rejectInvalid = true) (hau : s.allowUnknown = false) (halt : a.tag < 5000)
    (hfs : m.fields = wireL pre ++ ((Inst.grp gt c (es1 ++ e :: es2)).wire ++ rest))
    (hok : WalkOK tr b 4000 ((Inst.grp gt c (es1 ++ e :: es2)).wire ++ rest) pre) (hnd : (pre.map Inst.tag).Nodup)
    (hnew : gt ∉ pre.map Inst.tag) (hanew : a.tag ∉ pre.map Inst.tag)
    (hd : defFor tr b gt = some md) (hfd : md.field? gt = some fd)
    (hda : defFor tr b a.tag = some md') (hua : md'.field? a.tag = none)
    (hfields : fd.fields = d0 :: ds) (hcount : readCount c = some ((es1 ++ e :: es2).length : Int))
    (hdel1 : ∀ e' ∈ es1, ∃ i0 r, e' = i0 :: r ∧ i0.tag = d0.tag) (hok1 : ∀ e' ∈ es1, EntryOK (d0 :: ds) e')
    (hdel : ∃ i0 r, e = i0 :: r ∧ i0.tag = d0.tag) (hsw : EntrySwapped a q (d0 :: ds) e)
    (hw : fd.maxWidth + 3 ≤ 4000) (hfnd : fd.TagsNodup) :
    ∃ r : Reject, validatePipeline tr app s mt m = .error (.reject r) ∧ (r.reason = 1 ∨ r.reason = 16 ∨ r.reason = 2) ∧
      expected .memberOrder a.tag r = true ∧ checks .memberOrder a.tag s = true := by
  have hca : checkFieldNotDefined s a.tag = false := by
    simp [checkFieldNotDefined, userDefinedTagMin, halt, hau]
  obtain ⟨r, hr, hwalk⟩ := walkLoop_member_swapped tr app s b pre md md' fd d0 ds gt c es1 es2 e a q rest m hfs hok hnd hnew
    hanew hd hfd hda hua hca hfields hcount hdel1 hok1 hdel hsw hw hfnd
  refine ⟨r, ?_, hr, ?_, by simp [checks, hri, hau]⟩
  · rw [C15_pipeline_to_walk tr app s m mt h b t hdef bdef tdef reqH reqB reqT sectioned values typed, hri, if_pos rfl, hfs]
    exact hwalk
  · simp only [expected]
    rcases hr with h1 | h1 | h1 <;> rw [h1] <;> decide

/-- `73=2 | 11=a 6=c | 11=b 6=d` -/
def C15_exGroupInst : Inst := .grp 73 [50] [[.fld 11 [97], .fld 6 [99]], [.fld 11 [98], .fld 6 [100]]]

theorem C15_exGroup_wellformed : C15_wGroup.TagsNodup ∧ C15_wGroup.maxWidth + 3 ≤ 5 := by
  refine ⟨?_, by decide⟩
  show C15_wGroup.allTags.Nodup
  decide

theorem C15_exGroup_conforms : InstOK C15_wGroup C15_exGroupInst := by
  refine InstOK.grp (d0 := .mk 11 true [] []) (ds := [.mk 6 true [] []]) rfl rfl (by decide) ?_ ?_
  · intro e he
    simp only [List.mem_cons, List.not_mem_nil, or_false] at he
    rcases he with rfl | rfl <;> exact ⟨_, _, rfl, rfl⟩
  · intro e he
    simp only [List.mem_cons, List.not_mem_nil, or_false] at he
    rcases he with rfl | rfl <;>
      exact EntryOK.take (InstOK.fld rfl rfl) (EntryOK.take (InstOK.fld rfl rfl) (EntryOK.nil (by simp)))

/-- the conforming instance followed by the trailer is consumed exactly, by the general theorem … -/
theorem C15_exGroup_accepted (fuel : Nat) (hf : 25 ≤ fuel) :
    visitField fuel C15_wGroup (C15_exGroupInst.wire ++ [⟨10, [120]⟩]) = .ok [⟨10, [120]⟩] := by
  apply C15_visit_conforming 5 C15_wGroup C15_exGroupInst _ fuel C15_exGroup_conforms C15_exGroup_wellformed.2
    C15_exGroup_wellformed.1
  · exact headNotIn_field (by decide) _
  · have : C15_exGroupInst.wire.length = 5 := by decide
    rw [this]; exact hf
/-- … and by evaluation of the model -/
example : C15_isOk (visitField 25 C15_wGroup (C15_exGroupInst.wire ++ [⟨10, [120]⟩])) = true := by decide

/-- the message of `C15_group_tail_orig_witness` (`73=2 | 11=a | 11=b 6=c | 10=x`: member 6 missing at the end of the first
    entry) as an instance of `C15_defect_group_required_missing`: (1, 6) for every fuel ≥ 25 -/
theorem C15_group_tail_by_theorem (fuel : Nat) (hf : 25 ≤ fuel) :
    visitField fuel C15_wGroup [⟨73, [50]⟩, ⟨11, [97]⟩, ⟨11, [98]⟩, ⟨6, [99]⟩, ⟨10, [120]⟩] =
      .error (.reject ⟨1, some 6⟩) := by
  have h := (C15_defect_group_required_missing 5 C15_wGroup (.mk 11 true [] []) [.mk 6 true [] []] 73 [50] []
    [[.fld 11 [98], .fld 6 [99]]] [.fld 11 [97]] (.mk 6 true [] []) [⟨10, [120]⟩] fuel 2 rfl (by decide)
    (by simp) (by simp) ⟨_, _, rfl, rfl⟩
    (EntryMissing.take (InstOK.fld rfl rfl) (EntryMissing.miss rfl (EntryOK.nil (by simp))))
    (List.forall_mem_singleton.2 ⟨_, _, rfl, rfl⟩)
    (headNotIn_field (by decide) _)
    (Or.inl (by simp)) C15_exGroup_wellformed.2 C15_exGroup_wellformed.1
    (by
      have : (Inst.grp 73 [50] ([] ++ [Inst.fld 11 [97]] :: [[Inst.fld 11 [98], Inst.fld 6 [99]]])).wire.length = 4 := by
        decide
      rw [this]; omega)).1
  exact h

/-- closed examples through the whole validator: message type `D` with the repeating group 73 in its body -/
def C15_exDictG : VDict :=
  { msg? := fun mt => if mt = [68] then some (newMessageDef [.fld C15_wGroup]) else none
    header := some (newMessageDef [.fld (.mk 8 true [] []), .fld (.mk 35 true [] [])])
    trailer := some (newMessageDef [.fld (.mk 10 true [] [])])
    ftype := fun t => if t = 73 then some { proto := some .int, enums := [] }
                      else if t = 8 ∨ t = 35 ∨ t = 10 ∨ t = 11 ∨ t = 6 then some { proto := some .str, enums := [] } else none }

def C15_exMsgG (body : List TV) : PMsg :=
  { fields := [⟨8, [70]⟩, ⟨35, [68]⟩] ++ body ++ [⟨10, [48]⟩], hdr := [8, 35], body := [73], trl := [10] }

example : C15_verdictIs (validate C15_exDictG none defaultSettings
    (C15_exMsgG [⟨73, [50]⟩, ⟨11, [97]⟩, ⟨6, [99]⟩, ⟨11, [98]⟩, ⟨6, [100]⟩])) none = true := by decide
example : C15_verdictIs (validate C15_exDictG none defaultSettings
    (C15_exMsgG [⟨73, [51]⟩, ⟨11, [97]⟩, ⟨6, [99]⟩, ⟨11, [98]⟩, ⟨6, [100]⟩])) (some ⟨16, some 73⟩) = true := by decide
example : C15_verdictIs (validate C15_exDictG none defaultSettings
    (C15_exMsgG [⟨73, [50]⟩, ⟨11, [97]⟩, ⟨11, [98]⟩, ⟨6, [100]⟩])) (some ⟨1, some 6⟩) = true := by decide
example : C15_verdictIs (validate C15_exDictG none defaultSettings
    (C15_exMsgG [⟨73, [50]⟩, ⟨11, [97]⟩, ⟨6, [99]⟩, ⟨11, [98]⟩])) (some ⟨1, some 6⟩) = true := by decide
