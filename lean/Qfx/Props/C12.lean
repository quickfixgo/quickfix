/-
  C12 — "Stream framing is independent of how the bytes arrive", and the framer part of C09
  ("no bytes from the wire can crash the engine": no panic, no hang in parser.go).

  Model: Qfx.Model.Framer (parser.go function by function: buffer window, bigBuffer, shift / grow, re-scan after
  every refill; the reader serves a list of chunks, a chunk larger than the room in several reads, an empty
  chunk as a (0, nil) read, io.EOF with or after the last bytes).
  Spec:  Qfx.Spec.Framer.framesWhole — frames and terminal error as a function of the whole byte stream.
-/
import Qfx.Lemmas.FramerExact
import Qfx.Lemmas.FramerMem
open Qfx Qfx.Framer Qfx.Spec

/-- "The sequence of message frames (and the terminal error) extracted from a byte stream depends only on the
    stream's content, not on how it is split into reads": for EVERY reader — any list of chunks (empty reads included, so
    the hypothesis `∀ c ∈ cs, c ≠ []` of the design is not needed), the final error delivered with or after the last
    bytes, ending with io.EOF or with any other error `endErr` — what `readLoop`/`ReadMessage` extract is the
    whole-stream function of the concatenation (and of the error the reader ends with). -/
theorem C12_chunk_independent_reader (rd : Reader) :
    framesRead rd = framesWholeE rd.endErr rd.chunks.flatten := by
  unfold framesRead framesReadG framesWholeE
  rw [runG_eq _ _ (inv_init _), abs_init]
  rfl

/-- the statement of the design: a reader that ends with io.EOF -/
theorem C12_chunk_independent (eofd : Bool) (cs : List Bytes) :
    framesChunked eofd cs = framesWhole cs.flatten :=
  C12_chunk_independent_reader { chunks := cs, eofd := eofd }

/-- the same for the tree before the `fix:` commit: framing was chunk-independent there too — including the panic -/
theorem C12_chunk_independent_orig (eofd : Bool) (cs : List Bytes) :
    framesChunkedOrig eofd cs = framesWholeG false "eof" cs.flatten := by
  unfold framesChunkedOrig framesChunkedG framesReadG
  rw [runG_eq _ _ (inv_init _), abs_init]
  rfl

/-- two partitions of one stream (and two EOF conventions) give the same frames and the same terminal error -/
theorem C12_any_two_partitions (e1 e2 : Bool) (cs1 cs2 : List Bytes) (h : cs1.flatten = cs2.flatten) :
    framesChunked e1 cs1 = framesChunked e2 cs2 := by
  rw [C12_chunk_independent, C12_chunk_independent, h]

/-- … and two readers that end with the same error -/
theorem C12_any_two_readers (r1 r2 : Reader) (h : r1.chunks.flatten = r2.chunks.flatten) (he : r1.endErr = r2.endErr) :
    framesRead r1 = framesRead r2 := by
  rw [C12_chunk_independent_reader, C12_chunk_independent_reader, h, he]

/-- "For a stream made of well-formed messages separated by arbitrary bytes that do not contain a BeginString marker,
    the frames are exactly those messages, in order and byte-identical" (and the stream ends with EOF).
    `ps.ok`: every message satisfies `wfFrame` ("8=" v SOH "9=" decimal |body| SOH body "10=" ck SOH, body ending with SOH,
    v and ck free of SOH — the CheckSum value itself is irrelevant to the framer), every separator — including the
    leading and the trailing one, each taken as a whole — has no "8=".  A separator may end with '8', contain SOH,
    "10=", "9=" …; bodies are arbitrary (they may contain "8=", SOH "10=", SOH "9="). -/
theorem C12_exact (ps : Parts) (h : ps.ok = true) :
    framesWhole ps.stream = { frames := ps.msgs, end_ := .err "eof" } :=
  framesWhole_parts "eof" ps.ms ps.j0 h

/-- … under every partition of that stream into reads -/
theorem C12_exact_chunked (ps : Parts) (h : ps.ok = true) (eofd : Bool) (cs : List Bytes) (hcs : cs.flatten = ps.stream) :
    framesChunked eofd cs = { frames := ps.msgs, end_ := .err "eof" } := by
  rw [C12_chunk_independent, hcs, C12_exact ps h]

/-- … for every reader of that stream, whatever error it ends with -/
theorem C12_exact_reader (ps : Parts) (h : ps.ok = true) (rd : Reader) (hcs : rd.chunks.flatten = ps.stream) :
    framesRead rd = { frames := ps.msgs, end_ := .err rd.endErr } := by
  rw [C12_chunk_independent_reader, hcs]
  exact framesWhole_parts rd.endErr ps.ms ps.j0 h

/-- `wfFrame` is exactly the stated grammar: "8=" v SOH "9=" ds SOH body' SOH "10=" ck SOH with v, ck free of SOH,
    ds a non-empty digit string whose value is the body length |body'|+1, offsets within Go's `int`
    (so the hypothesis of `C12_exact` is neither narrower nor wider than "well-formed" as far as a framer can tell) -/
theorem C12_wfFrame_iff (m : Bytes) :
    wfFrame m = true ↔
    ∃ v ds body' ck, m = frameThen v ds body' ck [] ∧ (∀ x ∈ v, x ≠ 1) ∧ ds ≠ [] ∧ ds.all isDigit = true ∧
      digitsVal ds = body'.length + 1 ∧ (∀ x ∈ ck, x ≠ 1) ∧ m.length < 9223372036854775807 := by
  constructor
  · exact wfFrame_shape m
  · rintro ⟨v, ds, body', ck, e, hv, hne, hdd, hval, hck, hlen⟩
    subst e
    exact wfFrame_of_shape v ds body' ck hv hne hdd hval hck hlen

/-- the search primitive of the whole-stream spec is "first occurrence at or after `off`" -/
theorem C12_findFrom_first_occurrence (off : Nat) (d s : Bytes) (i : Nat) :
    findFrom off d s = some i ↔
      (off ≤ i ∧ i ≤ s.length ∧ d <+: s.drop i ∧ ∀ k, off ≤ k → k < i → ¬ d <+: s.drop k) :=
  findFrom_some_iff off d s i

/-- the decomposition the monitor builds from the tokens of a `parts` op is a decomposition of the very stream read -/
theorem C12_parts_stream (toks : List (Bool × Bytes)) : (mkParts toks).stream = (toks.map (·.2)).flatten :=
  mkParts_stream toks

/-- framer part of C09: whatever the bytes and the chunking, the parser does not panic (no slice expression out of
    range, none reading stale bytes between len and cap) and never asks the reader for zero bytes (which would spin);
    termination of every loop is by construction (`findIdx`: well-founded on unread chunks, `runG`: on buffered +
    unread bytes) — `framesChunked` is a total function. -/
theorem C12_no_fault_reader (rd : Reader) (w : String) : (framesRead rd).end_ ≠ .fault w := by
  rw [C12_chunk_independent_reader]
  exact framesWholeG_no_fault _ _ w

theorem C12_no_fault (eofd : Bool) (cs : List Bytes) (w : String) :
    (framesChunked eofd cs).end_ ≠ .fault w :=
  C12_no_fault_reader { chunks := cs, eofd := eofd } w

/-- …so every stream ends with an error value of `ReadMessage` (the reader's error or a BodyLength error) -/
theorem C12_ends_with_error (rd : Reader) : ∃ c, (framesRead rd).end_ = .err c := by
  cases h : (framesRead rd).end_ with
  | err c => exact ⟨c, rfl⟩
  | fault w => exact (C12_no_fault_reader rd w h).elim

/-- buffer management at the level of the backing array (`bigBuffer` with its stale bytes, `buffer` = window [lo, lo+len)):
    `readMore` — shift to the front by memmove, reallocation, read into `buffer[len:cap]` — acts on (window contents,
    spare capacity, len(bigBuffer)) exactly as `Qfx.Framer.readMore` does on the model state, and keeps the window inside
    the array; so the model's `buf`/`spare`/`big` are a faithful image of Go's slices. -/
theorem C12_readMore_refines_array (m : M) (h : m.Inv) :
    match fillM (growM m) with
    | .ok (n, e, m') => readMore m.toP = .ok (n, e, m'.toP) ∧ m'.Inv
    | .err x => readMore m.toP = .err x
    | .fault w => readMore m.toP = .fault w :=
  readMoreM_toP m h

/-- … and so does the re-slicing `p.buffer = p.buffer[k:]` (k ≤ len) -/
theorem C12_slice_refines_array (k : Nat) (m : M) (h : m.Inv) (hk : k ≤ m.len) :
    (sliceM k m).toP = { m.toP with buf := m.toP.buf.drop k } ∧ (sliceM k m).Inv :=
  sliceM_toP k m h hk

/-- the whole parser written on the backing array (`Qfx/Model/FramerMem.lean`: `findIdxM` … `runGM`, same control flow, the
    window `bigBuffer[lo:lo+len]` in place of the model's `buf`) extracts the same frames and terminal error — hence the
    whole-stream function of the content: shifting, growing and reading behind the window never corrupt a frame. -/
theorem C12_array_level (rd : Reader) : framesReadM rd = framesWholeE rd.endErr rd.chunks.flatten := by
  rw [framesReadM_eq]; exact C12_chunk_independent_reader rd

/-! non-vacuity: a Heartbeat is a well-formed frame; junk ending in '8' is a legal separator; two reads that cut
    the message inside "9=" give that message -/
-- closed witnesses: the kernel evaluates `wfFrame` on the 26 bytes directly; evaluating it in the elaborator first is the dear part
example : wfFrame (asciiOf "8=FIX.4.2\x019=5\x0135=0\x0110=161\x01") = true := by decide +kernel
example : noBegin (asciiOf "\r\n=8 8") = true := by decide
example : noBegin (asciiOf "x8=") = false := by decide
example : framesChunked true [asciiOf "zz88=FIX.4.2\x019", asciiOf "=5\x0135=0\x0110=161\x01 8"] =
    { frames := [asciiOf "8=FIX.4.2\x019=5\x0135=0\x0110=161\x01"], end_ := .err "eof" } :=
  C12_exact_chunked ⟨asciiOf "zz8", [(asciiOf "8=FIX.4.2\x019=5\x0135=0\x0110=161\x01", asciiOf " 8")]⟩ (by decide +kernel) true _ (by decide +kernel)

/-- the defect repaired by the `fix:` commit: with the original arithmetic `offset + length` wraps negative … -/
theorem C12_orig_overflow_witness : wrap64 ((15 : Int) + 9223372036854775807) < 0 := by decide

/-- … and a negative offset passes the `offset > len(buffer)` test and panics in `p.buffer[offset:]` -/
theorem C12_orig_negative_offset_faults (off : Int) (h : off < 0) (d : Bytes) (p : P) :
    findIndexAfterOffset off d p = .fault "slice bounds out of range" := by
  simp [findIndexAfterOffset, h]

/-
  Clause checklist (property text → theorem)
  * "frames (and the terminal error) depend only on the stream's content, not on how it is split into reads"
        C12_chunk_independent_reader (all chunk lists, empty reads, both EOF conventions, any final error),
        C12_chunk_independent, C12_any_two_partitions, C12_any_two_readers
  * "for every partition … one byte at a time, split inside tags, lengths and checksums, chunks larger than the
     internal buffer, messages larger than the buffer"
        the same theorems: `cs` is arbitrary; a chunk larger than the room is served in pieces by `Reader.read`;
        the buffer grows by `grow` for frames larger than bigBuffer
  * "well-formed messages separated by arbitrary bytes without a BeginString marker ⇒ frames are exactly those
     messages, in order and byte-identical"
        C12_exact, C12_exact_chunked, C12_exact_reader (with C12_wfFrame_iff: what counts as well-formed; C12_findFrom_first_occurrence:
        the spec's search is declaratively the first occurrence)
  * C09 (framer part) "no panic / no hang"
        C12_no_fault_reader, C12_no_fault, C12_ends_with_error; termination: `findIdx`, `runG`, `framesWholeG` are total functions
        accepted by Lean's termination checker (well-founded on unread chunks / buffered+unread bytes)
  * model fidelity (buffer window inside bigBuffer, copy-to-front, growth): C12_readMore_refines_array,
    C12_slice_refines_array — the model's buffer primitives are images of the array-level operations;
    C12_array_level — the parser written on the backing array equals the whole-stream spec too
  * the tree before the fix: C12_chunk_independent_orig (still chunk independent), C12_orig_overflow_witness +
    C12_orig_negative_offset_faults (why it panicked)
-/
