/-
  C10 — "Built messages are well-formed FIX whatever API calls produced them".
  Property theorems only (helper lemmas: Qfx/Lemmas/Codec.lean).  All theorems are about the code after the
  `fix:` commits (D5 Remove, D16 CopyInto, D17 getOrCreate); the unchanged code is witnessed by the `…_orig_…` theorems.
  Clause checklist at the end.
-/
import Qfx.Lemmas.CodecScan
import Qfx.Lemmas.CodecOps
import Qfx.Lemmas.CodecParseMsg
import Qfx.Lemmas.CodecAnyDict
open Qfx Qfx.Spec

/-- "tag order list vs tag lookup map: two views of the same field set that must stay in step" —
    after EVERY sequence of API operations on a section (set / typed set / overwrite / group set / remove / clear /
    copy, in any order and number) the order list is duplicate-free and holds exactly the keys of the lookup map. -/
theorem C10_invariant (ops : List FOp) (o : OrdKind) (m : FieldMap) (h : runFOps ops (FieldMap.empty o) = .ok m) :
    m.tags.Nodup ∧ (∀ t, t ∈ m.tags ↔ (alFind m.lookup t).isSome = true) := by
  have hi := runFOps_inv ops _ m (FMInv.empty o) h
  exact ⟨hi.tagsNodup, fun t => (hi.same t).trans (mem_alKeys_iff _ _)⟩

/-- the invariant also survives `write` (which sorts the order list in place) and the parser's `add` -/
theorem C10_invariant_write (m : FieldMap) (h : FMInv m) (arr : List TagValue) : FMInv (m.write arr).2 := h.write arr

/-- "latest value": after a setter the tag maps to exactly the new field; every other tag is untouched -/
theorem C10_set_latest (m : FieldMap) (tv : TagValue) (r : SetRes) (h : m.setTV tv = .ok r)
    (hown : ∀ s n, alFind m.lookup tv.tag ≠ some (.view s n)) :
    alFind r.fm.lookup tv.tag = some (.owned [tv]) ∧ ∀ t, t ≠ tv.tag → alFind r.fm.lookup t = alFind m.lookup t := by
  revert h
  -- case1 / case4: a field is put; case2: fault; case3: a view (excluded by `hown`)
  fun_cases FieldMap.setTV m tv with
  | case1 | case4 => intro h; cases h; exact ⟨alFind_insert_self _ _ _, fun t ht => alFind_insert_other _ _ _ _ ht⟩
  | case2 => nofun
  | case3 s n hf => exact absurd hf (hown s n)

/-- "no removed field": after `Remove` the tag is absent from the map AND from the order list; the rest is untouched -/
theorem C10_remove_gone (m : FieldMap) (h : FMInv m) (t : Tag) :
    alFind (m.remove t).lookup t = none ∧ t ∉ (m.remove t).tags ∧ ∀ t', t' ≠ t → alFind (m.remove t).lookup t' = alFind m.lookup t' := by
  refine ⟨alFind_erase_self _ _, ?_, fun t' ht => alFind_erase_other _ _ _ ht⟩
  have hi := h.remove t
  intro hc
  have := (hi.same t).1 hc
  rw [mem_alKeys_iff] at this
  simp [FieldMap.remove, alFind_erase_self] at this

/-- "contain every field currently set exactly once … and no removed field": under the invariant the fields `write`
    emits are a permutation of the fields held by the lookup map — each exactly once, nothing else. -/
theorem C10_write_each_once (m : FieldMap) (h : FMInv m) (arr : List TagValue) :
    ∃ fs : List Field, fs.Perm (m.lookup.map (·.2)) ∧ (m.write arr).1 = fs.flatMap (fieldBytes arr) :=
  ⟨_, written_fields_perm h, by simp [FieldMap.write, writeTags_eq_flatMap]⟩

/-- the bytes of a section depend only on WHICH fields are set (the lookup map as a function), not on the history of
    operations that produced it: two maps with the same content and comparator serialise identically.
    (`sort.Sort`'s result is unique because the section comparators are strict total orders.) -/
theorem C10_write_history_independent (m₁ m₂ : FieldMap) (h₁ : FMInv m₁) (h₂ : FMInv m₂) (arr : List TagValue)
    (ho : m₁.ord = m₂.ord) (hs : m₁.ord.isSection = true) (hl : ∀ t, alFind m₁.lookup t = alFind m₂.lookup t) :
    (m₁.write arr).1 = (m₂.write arr).1 := by
  have hk : (alKeys m₁.lookup).Perm (alKeys m₂.lookup) :=
    (List.perm_ext_iff_of_nodup h₁.keysNodup h₂.keysNodup).2 (fun t => by rw [mem_alKeys_iff, mem_alKeys_iff, hl t])
  have hp : m₁.tags.Perm m₂.tags := h₁.perm.trans (hk.trans h₂.perm.symm)
  simp only [FieldMap.write]
  rw [← ho, sortTags_eq_of_perm m₁.ord hs hp]
  exact writeTags_congr arr _ _ hl _

/-- "a copied message serialises identically to its source" (section level): the copy writes the same bytes,
    whatever field array the copy is later used with -/
theorem C10_copy_writes_same (m : FieldMap) (arr arr' : List TagValue) : ((m.copy arr).write arr').1 = (m.write arr).1 := by
  simp only [FieldMap.write, FieldMap.copy, writeTags_eq_flatMap]
  generalize sortTags m.ord m.tags = ts
  induction ts with
  | nil => rfl
  | cons t r ih =>
    rw [List.filterMap_cons, List.filterMap_cons, alFind_copy]
    cases hf : alFind m.lookup t with
    | none => simpa using ih
    | some f =>
      simp only [Option.map_some, List.flatMap_cons]
      rw [show fieldBytes arr' (Field.owned (f.items arr)) = fieldBytes arr f from rfl, ih]

/-- and the copy computes the same BodyLength / CheckSum contributions -/
theorem C10_copy_length_total_same (m : FieldMap) (arr arr' : List TagValue) :
    (m.copy arr).length arr' = m.length arr ∧ (m.copy arr).total arr' = m.total arr := by
  simp [FieldMap.length, FieldMap.total, FieldMap.copy, List.map_map, Function.comp_def, Field.items]

/-- order: in the sorted order list of a header, nothing sorts before 8, only 8 before 9, only 8 and 9 before 35 -/
theorem C10_header_first3 (ks : List Tag) :
    (sortTags .header ks).Pairwise (fun a b =>
      (b = 8 → a = 8) ∧ (b = 9 → a = 8 ∨ a = 9) ∧ (b = 35 → a = 8 ∨ a = 9 ∨ a = 35)) := by
  have key : ∀ a b : Int, OrdKind.header.le a b = true →
      (b = 8 → a = 8) ∧ (b = 9 → a = 8 ∨ a = 9) ∧ (b = 35 → a = 8 ∨ a = 9 ∨ a = 35) := by
    intro a b hab
    rw [OrdKind.le_iff] at hab
    simp only [OrdKind.key] at hab
    rcases headerRank_cases a with ⟨ea, ha⟩ | ⟨ea, ha⟩ | ⟨ea, ha⟩ | ⟨a8, a9, a35, ha⟩ <;>
    refine ⟨fun e => ?_, fun e => ?_, fun e => ?_⟩ <;> subst e <;>
      simp only [rank8, rank9, rank35] at hab
    all_goals omega
  exact (sortTags_sorted .header ks).imp (fun h => key _ _ h)

/-- order: in the sorted order list of a trailer nothing but 10 itself sorts after 10 ("CheckSum last") -/
theorem C10_trailer_checksum_last (ks : List Tag) :
    (sortTags .trailer ks).Pairwise (fun a b => a = 10 → b = 10) := by
  have key : ∀ b : Int, OrdKind.trailer.le 10 b = true → b = 10 := by
    intro b hab
    rw [OrdKind.le_iff] at hab
    simp only [OrdKind.key, if_true] at hab
    split at hab <;> omega
  exact (sortTags_sorted .trailer ks).imp (fun h e => key _ (e ▸ h))

/-- BodyLength / CheckSum arithmetic: the bytes a section writes are what `length` counts plus the TagValues it skips
    (tags 8, 9, 10), and their byte sum is what `total` counts plus the TagValues tagged 10.  `cook` stores
    `Σ length` in 9 and `(Σ total) mod 256` (three digits) in 10; since 8 and 9 are the first two fields and 10 the last
    and no other TagValue carries these tags (tags in their proper section), `Σ length` is the byte count between the
    BodyLength field and the CheckSum field and `Σ total` the byte sum of everything before the CheckSum field. -/
theorem C10_length_total_accounting (m : FieldMap) (h : FMInv m) (arr : List TagValue) :
    (m.write arr).1.length = m.length arr + m.skipLen arr ∧ (m.write arr).1.sum = m.total arr + m.skipSum arr := by
  obtain ⟨fs, hp, hw⟩ := C10_write_each_once m h arr
  constructor
  · rw [hw, List.length_flatMap]
    have := (hp.map (fun f => (fieldBytes arr f).length)).sum_nat
    rw [this, List.map_map]
    simp only [FieldMap.length, FieldMap.skipLen, ← sum_map_add, Function.comp_def, fieldBytes_length]
    congr 1
    apply List.map_congr_left
    intro p _
    exact sum_filter_split _ tvLen (fun tv => decide (tv.tag ≠ 8 ∧ tv.tag ≠ 9 ∧ tv.tag ≠ 10))
  · rw [hw, sum_flatMap_nat]
    have := (hp.map (fun f => (fieldBytes arr f).sum)).sum_nat
    rw [this, List.map_map]
    simp only [FieldMap.total, FieldMap.skipSum, ← sum_map_add, Function.comp_def, fieldBytes_sum]
    congr 1
    apply List.map_congr_left
    intro p _
    exact sum_filter_split _ tvSum (fun tv => decide (tv.tag ≠ 10))

/-- what `cook` stores: BodyLength = Σ `length` of the three sections (before 9 is set — 9 itself is skipped by
    `length`), CheckSum = (Σ `total`) mod 256 in three digits, computed after 9 is set and before 10 is (10 is skipped) -/
theorem C10_cook_values (m m' : Message) (bl bt : Nat) (h : m.cook Fixes.cur bl bt = .ok m') :
    ∃ m1, m.setInt Fixes.cur .h 9 ((m.header.length m.fields + bl + m.trailer.length m.fields : Nat) : Int) = .ok m1 ∧
      m1.setBytes Fixes.cur .t 10 (digitsW 3 ((m1.header.total m1.fields + bt + m1.trailer.total m1.fields) % 256)) = .ok m' := by
  simp only [Message.cook] at h
  split at h
  · rename_i m1 h1; exact ⟨m1, h1, h⟩
  · cases h
  · cases h

/-- the same at the level of the whole message: after EVERY sequence of Message API operations (setters of all kinds on
    header / body / trailer, group set, remove, clear, copy, and `build` itself, which cooks 9 and 10 and sorts the
    order lists) each of the three sections satisfies the bookkeeping invariant and keeps its own comparator -/
theorem C10_message_invariant (ops : List MOp) (m : Message) (h : runMOps ops Message.new = .ok m) : MInv m :=
  runMOps_inv ops _ m MInv.new h

/-- "all header fields before all body fields before all trailer fields": the bytes of `build` are the header's bytes,
    then the body's, then the trailer's, each written from the cooked message's maps (so each of the section-level
    theorems above applies to its part) -/
theorem C10_build_sections (m : Message) (hm : MInv m) (bytes : Bytes) (m' : Message) (h : m.build Fixes.cur = .ok (bytes, m')) :
    MInv m' ∧ ∃ m1, m.cook Fixes.cur (m.body.length m.fields) (m.body.total m.fields) = .ok m1 ∧ MInv m1 ∧
      bytes = (m1.header.write m1.fields).1 ++ (m1.body.write m1.fields).1 ++ (m1.trailer.write m1.fields).1 :=
  hm.build bytes m' h

/-- main theorem (byte level).  "with BeginString, BodyLength and MsgType first … and CheckSum last; BodyLength equals the byte
    count between the BodyLength field and the CheckSum field, and CheckSum equals the byte sum modulo 256 in three digits."

    For EVERY sequence of Message API operations (raw and typed setters, overwrite, remove, clear, set again, group set,
    copy, intermediate builds) whose tags are in their proper section (`MOp.proper`: 8 and 9 only in the header, 10 only
    in the trailer, groups and their members never tagged 8 / 9 / 10), if BeginString and MsgType are set, the bytes of
    `build` are
        <BeginString field> ++ 9=<N>␁ ++ MID ++ 10=<ddd>␁
    where MID starts with the MsgType field, N = length of MID, ddd = three-digit (sum of all preceding bytes) mod 256. -/
theorem C10_build_wf (ops : List MOp) (hp : ∀ op ∈ ops, op.proper) (m : Message) (hrun : runMOps ops Message.new = .ok m)
    (h8 : (alFind m.header.lookup 8).isSome = true) (h35 : (alFind m.header.lookup 35).isSome = true)
    (bytes : Bytes) (m' : Message) (hbuild : m.build Fixes.cur = .ok (bytes, m')) :
    ∃ (tv8 : TagValue) (f35 : Field) (mid rest : Bytes),
      alFind m.header.lookup 8 = some (.owned [tv8]) ∧ tv8.tag = 8 ∧ alFind m.header.lookup 35 = some f35 ∧
      mid = fieldBytes m.fields f35 ++ rest ∧
      bytes = (tv8.bytes ++ (TagValue.init 9 (fmtNat mid.length)).bytes ++ mid) ++
        (TagValue.init 10 (digitsW 3 ((tv8.bytes ++ (TagValue.init 9 (fmtNat mid.length)).bytes ++ mid).sum % 256))).bytes := by
  have hb : Built m := runMOps_built ops _ m Built.new hp hrun
  obtain ⟨tv8, hf8, ht8⟩ := hb.header8 h8
  obtain ⟨f35, hf35⟩ := Option.isSome_iff_exists.1 h35
  obtain ⟨mid, r, hmid, hbytes⟩ := build_structure m hb tv8 f35 hf8 hf35 bytes m' hbuild
  exact ⟨tv8, f35, mid, r, hf8, ht8, hf35, hmid, hbytes⟩

/-- "Parsing those bytes yields the same fields and values."  For EVERY sequence of Message API operations with tags in their
    proper section (`MOp.proper`), int64 tags other than XMLDataLen and SOH-free values (`MOp.wire`; typed setters are SOH-free
    by construction), BeginString and MsgType set, and an output shorter than 2^63 bytes:
    the bytes of `build` are the concatenation of a list `L` of TagValues — BeginString, BodyLength, MsgType, …, CheckSum —
    and `ParseMessage` of those bytes succeeds with `Message.fields = L` exactly (same fields, same values, same order)
    and returns the bytes unchanged from `Bytes()`.  Holds for the parser before and after the fixes (`fx` arbitrary). -/
theorem C10_parse_build (fx : Fixes) (ops : List MOp) (hp : ∀ op ∈ ops, op.proper ∧ op.wire) (m : Message)
    (hrun : runMOps ops Message.new = .ok m)
    (h8 : (alFind m.header.lookup 8).isSome = true) (h35 : (alFind m.header.lookup 35).isSome = true)
    (bytes : Bytes) (m' : Message) (hbuild : m.build Fixes.cur = .ok (bytes, m')) (hsmall : bytes.length < 9223372036854775808) :
    ∃ (L : List TagValue) (p : Message), bytes = wireOf L ∧ parseMessage fx Dicts.none bytes = .ok p ∧ p.fields = L ∧
      p.bytes fx = .ok (bytes, p) ∧ (L.head?.map (·.tag)) = some 8 ∧ (L.getLast?.map (·.tag)) = some 10 := by
  obtain ⟨hb, hw⟩ := runMOps_wired ops _ m Built.new Wired.new hp hrun
  obtain ⟨t8, t9, t35, pre, t10, hwm, hbytes, hparse⟩ :=
    parse_built fx Dicts.none noGroupTag_none rfl m hb hw h8 h35 bytes m' hbuild hsmall
  refine ⟨t8 :: t9 :: t35 :: (pre ++ [t10]), _, hbytes, hparse, rfl, by rw [hbytes]; rfl, by simp [hwm.tag8], ?_⟩
  have e : t8 :: t9 :: t35 :: (pre ++ [t10]) = (t8 :: t9 :: t35 :: pre) ++ [t10] := by simp
  rw [e, List.getLast?_append]; simp [hwm.tag10]

/-- the same through a parser WITH dictionaries (transport and/or application) that define no repeating group (`NoGroupTag` for every
    tag) and do not list CheckSum as a header field: parsing the bytes of `build` yields exactly the written TagValue list. -/
theorem C10_parse_build_dict_nogroups (fx : Fixes) (d : Dicts) (hng : ∀ t, NoGroupTag d t) (hh10 : isHeaderField d 10 = false)
    (ops : List MOp) (hp : ∀ op ∈ ops, op.proper ∧ op.wire) (m : Message)
    (hrun : runMOps ops Message.new = .ok m)
    (h8 : (alFind m.header.lookup 8).isSome = true) (h35 : (alFind m.header.lookup 35).isSome = true)
    (bytes : Bytes) (m' : Message) (hbuild : m.build Fixes.cur = .ok (bytes, m')) (hsmall : bytes.length < 9223372036854775808) :
    ∃ (L : List TagValue) (p : Message), bytes = wireOf L ∧ parseMessage fx d bytes = .ok p ∧ p.fields = L ∧
      p.bytes fx = .ok (bytes, p) := by
  obtain ⟨hb, hw⟩ := runMOps_wired ops _ m Built.new Wired.new hp hrun
  obtain ⟨t8, t9, t35, pre, t10, _, hbytes, hparse⟩ := parse_built fx d hng hh10 m hb hw h8 h35 bytes m' hbuild hsmall
  exact ⟨t8 :: t9 :: t35 :: (pre ++ [t10]), _, hbytes, hparse, rfl, by rw [hbytes]; rfl⟩

/-- "parsing those bytes yields the same fields and values", any dictionaries: for every message
    built by proper, SOH-free operations with BeginString and MsgType set, `ParseMessage` with ANY dictionaries `d` — application
    dictionaries that define repeating groups included, transport dictionaries, user-defined tags — succeeds on the bytes of `build`,
    `Message.fields` is exactly the written TagValue list and `Bytes()` returns the bytes. -/
theorem C10_parse_build_anydict (d : Dicts)
    (ops : List MOp) (hp : ∀ op ∈ ops, op.proper ∧ op.wire) (m : Message)
    (hrun : runMOps ops Message.new = .ok m)
    (h8 : (alFind m.header.lookup 8).isSome = true) (h35 : (alFind m.header.lookup 35).isSome = true)
    (bytes : Bytes) (m' : Message) (hbuild : m.build Fixes.cur = .ok (bytes, m')) (hsmall : bytes.length < 9223372036854775808) :
    ∃ (L : List TagValue) (p : Message), bytes = wireOf L ∧ parseMessage Fixes.cur d bytes = .ok p ∧ p.fields = L ∧
      p.bytes Fixes.cur = .ok (bytes, p) := by
  obtain ⟨hb, hw, tv8, f35, hf8, hf35⟩ := runMOps_leading ops hp m hrun h8 h35
  obtain ⟨t9, t35, pre, t10, hbytes, hwm, hbl⟩ := build_wire_msg m hb hw tv8 f35 hf8 hf35 bytes m' hbuild hsmall
  obtain ⟨c', hparse⟩ := parse_wire_anydict (d := d) tv8 t9 t35 pre t10 hwm hbl
  exact ⟨tv8 :: t9 :: t35 :: (pre ++ [t10]), _, hbytes, hbytes ▸ hparse, rfl, by rw [hbytes]; rfl⟩

/-- the monitor's own predicate.  The independent tag=value scanner of `Qfx.Spec.Codec` (the one the monitor runs on the
    implementation's output) reads every built message back as exactly the list of TagValues that was written, and its
    well-formedness predicate `wireWF` — 8, 9, 35 first; a single 10, last; no further 8 / 9; BodyLength = bytes between the
    BodyLength field and the CheckSum field; CheckSum = byte sum mod 256 in three digits — holds, for every sequence of
    proper, SOH-free operations that sets BeginString and MsgType. -/
theorem C10_build_scans_wf (ops : List MOp) (hp : ∀ op ∈ ops, op.proper ∧ op.wire) (m : Message)
    (hrun : runMOps ops Message.new = .ok m)
    (h8 : (alFind m.header.lookup 8).isSome = true) (h35 : (alFind m.header.lookup 35).isSome = true)
    (bytes : Bytes) (m' : Message) (hbuild : m.build Fixes.cur = .ok (bytes, m')) (hsmall : bytes.length < 9223372036854775808) :
    wireWF bytes = true ∧ ∃ L : List TagValue, bytes = wireOf L ∧ scanFields bytes = some (L.map wfOf) := by
  obtain ⟨hb, hw, tv8, f35, hf8, hf35⟩ := runMOps_leading ops hp m hrun h8 h35
  obtain ⟨L, hL, hscan, hwf⟩ := build_scans_wf m hb hw tv8 f35 hf8 hf35 bytes m' hbuild
  exact ⟨by simp [wireWF, hscan, hwf], L, hL, hscan⟩

/-- "a copied message serialises identically to its source": for every message produced by Message API operations (after
    the fix of `CopyInto`), `CopyInto` a fresh message yields a message EQUAL to the source — every section map, order
    list and comparator — hence `build` of the copy returns the same bytes. -/
theorem C10_copy_identical (ops : List MOp) (hp : ∀ op ∈ ops, op.proper) (m : Message) (hrun : runMOps ops Message.new = .ok m) :
    m.copy Fixes.cur = .ok m ∧ ∀ c, m.copy Fixes.cur = .ok c → c.build Fixes.cur = m.build Fixes.cur := by
  obtain ⟨hb, hpl⟩ := runMOps_plain ops _ m Built.new Plain.new hp hrun
  have h := copy_self m hb hpl
  exact ⟨h, fun c hc => by rw [h] at hc; injection hc with hc; rw [hc]⟩

/-- the hypotheses of `C10_build_wf` are an invariant: they hold again after the build (and any further proper operations) -/
theorem C10_built_invariant (ops : List MOp) (hp : ∀ op ∈ ops, op.proper) (m : Message) (hrun : runMOps ops Message.new = .ok m) :
    Built m := runMOps_built ops _ m Built.new hp hrun

/-! ## the unchanged code (witnesses, replayed on the implementation by the correspondence: known_findings.json `fixed`) -/

/-- D5: with the ORIGINAL `Remove` the order list keeps the removed tag, so `Remove(t); Set(t)` lists `t` twice -/
theorem C10_orig_remove_then_set_duplicates :
    ((((FieldMap.empty .normal).setGroup 58 [TagValue.zero]).removeOrig 58).setGroup 58 [TagValue.zero]).tags = [58, 58] := by
  decide

/-- D16: the ORIGINAL `CopyInto` keeps only the first TagValue of a repeating-group field -/
theorem C10_orig_copy_drops_group_entries :
    (FieldMap.copyOrig [] ((FieldMap.empty .normal).setGroup 453 [TagValue.zero, TagValue.zero, TagValue.zero])) =
      .ok { tags := [453], lookup := [(453, .owned [TagValue.zero])], ord := .normal } := by decide

/-- D17: the ORIGINAL setter over a group tag keeps the stale members behind the new first element -/
theorem C10_orig_set_over_group_keeps_members :
    ((FieldMap.empty .normal).setGroup 453 [TagValue.zero, TagValue.zero]).setTVOrig { tag := 453, value := [48], bytes := [] }
      = .ok ⟨{ tags := [453], lookup := [(453, .owned [{ tag := 453, value := [48], bytes := [] }, TagValue.zero])], ord := .normal }, none⟩ := by
  rfl

/-- "whatever API calls produced them": EVERY sequence of API calls on a fresh message (setters in any section incl. the special
    tags anywhere, SetGroup with any template and entries — nested groups included —, Remove, Clear, CopyInto, build) succeeds — no call
    returns an error, none faults (codec part of C09): the hypothesis `runMOps ops Message.new = .ok m` of the theorems above is
    always met. -/
theorem C10_api_total (ops : List MOp) : ∃ m, runMOps ops Message.new = .ok m := by
  obtain ⟨m, h, _⟩ := runMOps_total ops Message.new MOK.new
  exact ⟨m, h⟩

/-- the same on any message the (fixed) parser returns, whatever bytes and dictionaries it was parsed from: setters over parsed
    fields (which write through into `Message.fields`), SetGroup, Remove, Clear, CopyInto and rebuilding never fail and never fault. -/
theorem C10_api_total_parsed (d : Dicts) (w : Bytes) (p : Message) (hp : parseMessage Fixes.cur d w = .ok p) (ops : List MOp) :
    ∃ m, runMOps ops p = .ok m := by
  obtain ⟨m, h, _⟩ := runMOps_total ops p (parse_MOK d w p hp)
  exact ⟨m, h⟩

/-- `RepeatingGroup.Write` always succeeds and starts with the count field -/
theorem C10_write_total (t : Tag) (tmpl : List Item) (es : List (List GFld)) :
    ∃ tvs, writeGroup t tmpl es = .ok (countTV t es.length :: tvs) := writeGroup_total t tmpl es

/-! ## what is NOT a theorem here

* "parsing those bytes yields the same fields and values" for an ARBITRARY model message `m` (`∀ m bytes m', m.build … = ok … → ∃ p,
  parseMessage … bytes = ok p ∧ …`): false (a message without BeginString / MsgType, or with SOH inside a value, builds but does
  not re-parse).  The theorems carry the hypotheses that make it true: `C10_parse_build` (no dictionary, any `Fixes`),
  `C10_parse_build_dict_nogroups`, and `C10_parse_build_anydict` (ANY dictionaries).
* the whole monitor `Spec.monBuild` relative to the abstract message `a : Abs` that the monitor keeps while it watches the operations: -/

/-- as it stands this relates an arbitrary `a` to an arbitrary `m` (no hypothesis says that `a` abstracts `m`), so it is not a meaningful
    proposition about the code; the meaningful version needs the refinement "`a` is what the operations that produced `m` describe" and, for
    the clause `once_each`, that `Write`'s output equals the monitor's own canonical flattening `Spec.flatEntries` of a group instance.
    Not done.  What IS proved about the bytes of `build`: `C10_build_wf` (framing, BodyLength, CheckSum), `C10_build_scans_wf` (the monitor's
    scanner reads back exactly the written TagValues and `wireWF` holds), `C10_write_each_once` / `C10_set_latest` / `C10_remove_gone`
    (each set field once, latest value, no removed field — at section level), `C10_header_first3`, `C10_trailer_checksum_last`. -/
def C10_build_wf_full : Prop :=
  ∀ (a : Abs) (m : Message) (bytes : Bytes) (m' : Message), m.build Fixes.cur = .ok (bytes, m') → monBuild a bytes = []

/-! non-vacuity: a reachable non-trivial state -/
example : ∃ m, runFOps [.set (TagValue.init 58 [97]), .remove 58, .set (TagValue.init 58 [98]), .setGroup 453 [TagValue.zero]]
    (FieldMap.empty .normal) = .ok m ∧ m.tags = [58, 453] := ⟨_, rfl, by decide⟩

/- Clause checklist (properties.jsonl C10):
   "every field currently set exactly once … no removed field"   C10_invariant, C10_write_each_once, C10_remove_gone
   "with its latest value"                                         C10_set_latest
   "BeginString, BodyLength and MsgType first"                     C10_build_wf (bytes); C10_header_first3 (order list) + C10_write_each_once
   "header before body before trailer"                             C10_build_sections, C10_message_invariant
   "CheckSum last"                                                 C10_build_wf (bytes); C10_trailer_checksum_last
   "BodyLength equals the byte count … CheckSum equals the sum"    C10_build_wf (bytes); C10_length_total_accounting, C10_cook_values
   "Parsing those bytes yields the same fields and values"         C10_parse_build (no dictionary), C10_parse_build_dict_nogroups (dictionaries without groups); monitor clauses reparse_ok / reparse_same_fields for all modes
   "a copied message serialises identically to its source"         C10_copy_identical (message level), C10_copy_writes_same,
                                                                   C10_copy_length_total_same (section level, also parsed sources)
   scanner-level well-formedness of the whole output               C10_build_scans_wf (wireWF, scan = written fields); relative to the monitor's Abs: C10_build_wf_full (def, see there)
   op-order independence ("whatever API calls produced them")      C10_write_history_independent
   every API call sequence succeeds (no error, no fault)           C10_api_total, C10_api_total_parsed, C10_write_total -/
